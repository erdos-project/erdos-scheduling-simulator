/-
C16 — simulated time is an exact, totally ordered integer quantity; pending events come
out of the queue in (time, type, task name) order, also after removals and in-place
re-timings.

Models: `Model/Time.lean` (utils.EventTime), `Model/Heap.lean` (CPython heapq, exact),
`Model/Event.lean` (Event.__lt__, EventQueue). Lemmas in `Lemmas/{Time,Heap,Event}.lean`.
`Small a` is the property's bound `|a| < 2^53 µs`; `toUs` is the specification function
"value in integer microseconds". All statements about Python exceptions are outcomes
(`Except String _` carrying the class name).
-/
import ErdosVerif.Lemmas.Time
import ErdosVerif.Lemmas.Heap
import ErdosVerif.Lemmas.Event

namespace ErdosVerif.C16
open ErdosVerif.Model ErdosVerif.Model.Time ErdosVerif.Model.Heap

/-- The unit factors of the model are the ones the source declares (generated table). -/
theorem unit_table_matches_source : Time.unitTable = Gen.timeUnitTable := by decide

/-- Below 2^53 the "round to double" of the model is the identity: the float factor in
`to()` cannot lose anything inside the property's bound. -/
theorem rounding_is_identity_below_2_53 (x : Int) (h1 : -B53 < x) (h2 : x < B53) : rnd53 x = x :=
  rnd53_of_small h1 h2

/-- `to` refuses (ValueError) exactly the coarsening conversions — for every magnitude. -/
theorem to_refuses_coarsening (a : EventTime) (u : TUnit) :
    a.to u = .error "ValueError" ↔ a.unit.factor < u.factor :=
  to_valueError_iff a u

/-- A permitted conversion keeps the microseconds. -/
theorem to_preserves_us (a : EventTime) (u : TUnit) (hs : Small a) (hu : u.factor ≤ a.unit.factor) :
    ∃ a', a.to u = .ok a' ∧ a'.unit = u ∧ a'.toUs = a.toUs := by
  obtain ⟨e1, e2⟩ := to_exact a u hs hu
  exact ⟨_, e1, rfl, e2⟩

example : Small ⟨9007199254740, .MS⟩ ∧ TUnit.US.factor ≤ TUnit.MS.factor := by decide

/-- `toUs (a + b) = toUs a + toUs b`, any unit combination. -/
theorem add_us (a b : EventTime) (ha : Small a) (hb : Small b) :
    ∃ c, a.add b = .ok c ∧ c.toUs = a.toUs + b.toUs := by
  obtain ⟨c, h1, h2, -⟩ := add_exact a b ha.wide hb.wide
  exact ⟨c, h1, h2⟩

/-- `toUs (a - b) = toUs a - toUs b`, any unit combination. -/
theorem sub_us (a b : EventTime) (ha : Small a) (hb : Small b) :
    ∃ c, a.sub b = .ok c ∧ c.toUs = a.toUs - b.toUs :=
  sub_exact a b ha.wide hb.wide

example : Small ⟨5, .S⟩ ∧ Small ⟨-1, .US⟩ ∧ (EventTime.add ⟨5, .S⟩ ⟨-1, .US⟩) = .ok ⟨4999999, .US⟩ := by decide

/-- Mixed-unit arithmetic loses nothing over three operands either: both bracketings of
`a + b + c` succeed and carry the exact sum (the intermediate sum may exceed 2^53). -/
theorem add_assoc_us (a b c : EventTime) (ha : Small a) (hb : Small b) (hc : Small c) :
    ∃ l r, (a.add b >>= fun x => x.add c) = .ok l ∧ (b.add c >>= fun x => a.add x) = .ok r ∧
      l.toUs = a.toUs + b.toUs + c.toUs ∧ r.toUs = a.toUs + b.toUs + c.toUs := by
  obtain ⟨ab, h1, h2, -⟩ := add_exact a b ha.wide hb.wide
  obtain ⟨bc, h3, h4, -⟩ := add_exact b c hb.wide hc.wide
  have wab : Wide ab := by
    unfold Small B53 at ha hb; unfold Wide B56; omega
  have wbc : Wide bc := by
    unfold Small B53 at hb hc; unfold Wide B56; omega
  obtain ⟨l, h5, h6, -⟩ := add_exact ab c wab hc.wide
  obtain ⟨r, h7, h8, -⟩ := add_exact a bc ha.wide wbc
  refine ⟨l, r, ?_, ?_, by omega, by omega⟩
  · rw [h1]; exact h5
  · rw [h3]; exact h7

example : Small ⟨9007199254, .S⟩ ∧ Small ⟨-9007199254740, .MS⟩ ∧ Small ⟨9007199254740991, .US⟩ ∧
    (EventTime.add ⟨9007199254, .S⟩ ⟨-9007199254740, .MS⟩ >>= fun x => x.add ⟨9007199254740991, .US⟩)
      = .ok ⟨9007199254000991, .US⟩ := by decide

/-- `a == b ↔ toUs a = toUs b`. -/
theorem eq_iff_us (a b : EventTime) (ha : Small a) (hb : Small b) :
    a.eq b = .ok (decide (a.toUs = b.toUs)) :=
  eq_exact a b ha.wide hb.wide

/-- `a < b ↔ toUs a < toUs b`. -/
theorem lt_iff_us (a b : EventTime) (ha : Small a) (hb : Small b) :
    a.lt b = .ok (decide (a.toUs < b.toUs)) :=
  lt_exact a b ha.wide hb.wide

/-- The operators `functools.total_ordering` derives (`<=`, `>`, `>=`) and `!=` agree with
the microsecond integers as well. -/
theorem derived_order_agrees_with_us (a b : EventTime) (ha : Small a) (hb : Small b) :
    a.le b = .ok (decide (a.toUs ≤ b.toUs)) ∧ a.gt b = .ok (decide (b.toUs < a.toUs)) ∧
      a.ge b = .ok (decide (b.toUs ≤ a.toUs)) ∧ a.ne b = .ok (decide (a.toUs ≠ b.toUs)) :=
  ⟨le_exact a b ha.wide hb.wide, gt_exact a b ha.wide hb.wide, ge_exact a b ha.wide hb.wide,
    ne_exact a b ha.wide hb.wide⟩

/-- `<` is a strict total order up to `==` on values within the bound. -/
theorem lt_strict_total_order (a b c : EventTime) (ha : Small a) (hb : Small b) (hc : Small c) :
    a.lt a = .ok false ∧
      (a.lt b = .ok true → b.lt c = .ok true → a.lt c = .ok true) ∧
      (a.lt b = .ok true ∨ a.eq b = .ok true ∨ b.lt a = .ok true) ∧
      (a.lt b = .ok true → b.lt a = .ok false ∧ a.eq b = .ok false) := by
  rw [lt_iff_us a a ha ha, lt_iff_us a b ha hb, lt_iff_us b c hb hc, lt_iff_us a c ha hc,
    lt_iff_us b a hb ha, eq_iff_us a b ha hb]
  simp only [Except.ok.injEq, decide_eq_true_eq, decide_eq_false_iff_not]
  refine ⟨by omega, by omega, by omega, by omega⟩

example : EventTime.lt ⟨-1, .US⟩ ⟨0, .S⟩ = .ok true ∧ EventTime.lt ⟨999, .US⟩ ⟨1, .MS⟩ = .ok true ∧
    EventTime.gt ⟨1, .S⟩ ⟨999, .MS⟩ = .ok true ∧ EventTime.le ⟨1, .S⟩ ⟨1000, .MS⟩ = .ok true := by decide

/-- `min`/`max` of Python on two time values return the µs minimum / maximum. -/
theorem min_max_us (a b : EventTime) (ha : Small a) (hb : Small b) :
    (∃ c, a.min b = .ok c ∧ c.toUs = min a.toUs b.toUs) ∧
      (∃ c, a.max b = .ok c ∧ c.toUs = max a.toUs b.toUs) :=
  ⟨min_exact a b ha.wide hb.wide, max_exact a b ha.wide hb.wide⟩

/-- `hash(a)` is the microsecond integer … -/
theorem hash_eq_us (a : EventTime) (ha : Small a) : a.hash = .ok a.toUs := hash_exact a ha

/-- … hence equal values hash equally, whatever their units. -/
theorem hash_consistent (a b : EventTime) (ha : Small a) (hb : Small b)
    (h : a.eq b = .ok true) : a.hash = b.hash := by
  rw [eq_iff_us a b ha hb] at h
  simp only [Except.ok.injEq, decide_eq_true_eq] at h
  rw [hash_eq_us a ha, hash_eq_us b hb, h]

example : EventTime.eq ⟨5, .MS⟩ ⟨5000, .US⟩ = .ok true ∧ EventTime.hash ⟨5, .MS⟩ = .ok 5000 := by decide

/-- Multiplication by an `int` scales the microseconds (no bound needed). -/
theorem mul_us (a : EventTime) (k : Int) : (a.mul k).toUs = a.toUs * k := by
  unfold EventTime.mul EventTime.toUs
  rw [Int.mul_assoc, Int.mul_comm k, ← Int.mul_assoc]

/-- `invalid()` is the ordinary value −1 µs and `zero()` is 0 µs. -/
theorem invalid_zero_us : EventTime.invalid.toUs = -1 ∧ EventTime.zero.toUs = 0 ∧
    Small EventTime.invalid ∧ Small EventTime.zero := by decide

/-- The bound is needed: at 2^53 + 1 µs a same-unit `to` (hence `hash`) already rounds … -/
theorem to_beyond_bound_witness :
    EventTime.to ⟨9007199254740993, .US⟩ .US = .ok ⟨9007199254740992, .US⟩ := by decide

/-- … and far above it two spellings of the same instant compare unequal. -/
theorem eq_beyond_bound_witness :
    (EventTime.mk 72057594037929 .MS).toUs = (EventTime.mk 72057594037929000 .US).toUs ∧
      EventTime.eq ⟨72057594037929, .MS⟩ ⟨72057594037929000, .US⟩ = .ok false := by decide

/-- The task-carrying types of the source, as a `ht` for the examples below. -/
def sourceHasTask (v : Nat) : Bool :=
  taskEventTypeNames.any fun n => eventTypeValue? n == some v

/-- `Event.__lt__` is a strict weak order on well-formed events (task present exactly when
the type says so): irreflexive, asymmetric, transitive, and "not less" is transitive. -/
theorem event_lt_strict_weak_order (ht : Nat → Bool) (x y z : Event)
    (hx : Event.WF ht x) (hy : Event.WF ht y) (hz : Event.WF ht z) :
    Event.lt x x = false ∧
      (Event.lt x y = true → Event.lt y x = false) ∧
      (Event.lt x y = true → Event.lt y z = true → Event.lt x z = true) ∧
      (Event.lt x y = false → Event.lt y z = false → Event.lt x z = false) := by
  have swo := Event.lt_swo ht
  refine ⟨swo.irrefl hx, swo.asymm hx hy, ?_, fun h1 h2 => swo.le_trans hz hy hx h2 h1⟩
  intro h1 h2
  cases h : Event.lt x z with
  | true => rfl
  | false =>
    -- `z ≤ x` and `x ≤ y` (from `x < y`) give `z ≤ y`, against `y < z`
    have h3 : Event.lt y z = false := swo.le_trans hz hx hy h (swo.asymm hx hy h1)
    rw [h2] at h3; cases h3

example : Event.WF sourceHasTask ⟨0, 5, 3, some "a@g"⟩ ∧ Event.WF sourceHasTask ⟨1, 5, 3, some "b@g"⟩ ∧
    Event.WF sourceHasTask ⟨2, 5, 11, none⟩ ∧ Event.lt ⟨0, 5, 3, some "a@g"⟩ ⟨1, 5, 3, some "b@g"⟩ = true ∧
    Event.lt ⟨1, 5, 3, some "b@g"⟩ ⟨2, 5, 11, none⟩ = true := by decide

/-- It is the lexicographic order on (time µs, type value, task name). -/
theorem event_lt_is_lexicographic (a b : Event) :
    Event.lt a b = true ↔
      a.time < b.time ∨ (a.time = b.time ∧ (a.etype < b.etype ∨
        (a.etype = b.etype ∧ ∃ x y, a.task = some x ∧ b.task = some y ∧ x < y))) :=
  Event.lt_iff a b

/-- Without well-formedness `__lt__` is not a weak order: a task-less event of the same type
and time is "equal" to two events that are strictly ordered by name. (The simulator never
builds such a mix; `Event.__init__` would allow it for the types that do not require a task.) -/
theorem event_lt_illformed_counterexample :
    let a : Event := ⟨0, 0, 11, some "a"⟩
    let n : Event := ⟨1, 0, 11, none⟩
    let b : Event := ⟨2, 0, 11, some "b"⟩
    Event.lt b n = false ∧ Event.lt n a = false ∧ Event.lt b a = false ∧ Event.lt a b = true ∧
      Event.lt a n = false ∧ Event.lt n b = false := by decide

section heap
variable {α : Type} {lt : α → α → Bool} {P : α → Prop}

/-- `heappush` keeps the heap property and adds exactly the pushed element. -/
theorem heap_inv_push (swo : SWO lt P) (a : Array α) (x : α) (hP : AllP P a) (hx : P x)
    (h : HeapFrom lt a 0) :
    HeapFrom lt (heappush lt a x) 0 ∧ (heappush lt a x).Perm (a.push x) :=
  ⟨heappush_heap swo a x hP hx h, heappush_perm lt a x⟩

/-- `heappop` keeps the heap property, removes exactly the returned element, and that element
is not greater than anything left. -/
theorem heap_inv_pop (swo : SWO lt P) (a : Array α) (x : α) (a' : Array α) (hP : AllP P a)
    (h : HeapFrom lt a 0) (hpop : heappop lt a = some (x, a')) :
    HeapFrom lt a' 0 ∧ (a'.push x).Perm a ∧ ∀ y ∈ a', lt y x = false :=
  ⟨heappop_heap swo a x a' hP h hpop, heappop_perm lt a x a' hpop, Good.pop_min swo ⟨hP, h⟩ hpop⟩

/-- `heapify` establishes the heap property from any array and keeps the multiset. -/
theorem heap_inv_heapify (swo : SWO lt P) (a : Array α) (hP : AllP P a) :
    HeapFrom lt (heapify lt a) 0 ∧ (heapify lt a).Perm a :=
  ⟨heapify_heap swo a hP, heapify_perm lt a⟩

/-- `heappop` fails (IndexError) exactly on the empty list. -/
theorem heappop_none_iff_empty (a : Array α) : heappop lt a = none ↔ a.size = 0 :=
  heappop_eq_none_iff a

/-- Popping a heap until it is empty returns all its elements in non-decreasing order. -/
theorem heap_drain_sorted (swo : SWO lt P) (a : Array α) (hP : AllP P a) (h : HeapFrom lt a 0) :
    (drain lt a.size a).Pairwise (fun x y => lt y x = false) ∧ (drain lt a.size a).Perm a.toList :=
  ⟨drain_sorted swo a hP h a.size, drain_perm a a.size (Nat.le_refl _)⟩

end heap

example : heapify (fun (x y : Nat) => decide (x < y)) #[5, 3, 8, 1, 9, 2] = #[1, 3, 2, 5, 9, 8] := by decide +kernel
example : heappop (fun (x y : Nat) => decide (x < y)) #[1, 3, 2, 5, 9, 8] = some (1, #[2, 3, 8, 5, 9]) := by decide +kernel

/-- **pop_min.** After every history of add / remove / retime+reheapify / reheapify / pop from
the empty queue (inserted events well-formed), `next()` returns an event that no pending event
is less than, and removes exactly that event. -/
theorem pop_min (ht : Nat → Bool) (ops : List QOp)
    (hops : ∀ e, QOp.add e ∈ ops → Event.WF ht e)
    (x : Event) (q' : EventQueue) (hn : (EventQueue.run ops).next = .ok (x, q')) :
    (∀ y ∈ q', Event.lt y x = false) ∧ (q'.push x).Perm (EventQueue.run ops) := by
  have hg := EventQueue.good_run (ht := ht) ops hops
  exact ⟨EventQueue.next_min hg hn, heappop_perm _ _ _ _ (EventQueue.next_eq hn)⟩

/-- `next()` raises IndexError exactly when nothing is pending. -/
theorem pop_error_iff_empty (q : EventQueue) :
    (∃ c, q.next = .error c) ↔ q.size = 0 := by
  constructor
  · rintro ⟨c, h⟩; exact (EventQueue.next_error h).2
  · intro h
    have := (heappop_none_iff_empty (lt := Event.lt) q).mpr h
    exact ⟨"IndexError", by unfold EventQueue.next; rw [this]⟩

/-- `peek()` after any history is a minimum of the pending events. -/
theorem peek_min (ht : Nat → Bool) (ops : List QOp)
    (hops : ∀ e, QOp.add e ∈ ops → Event.WF ht e) (x : Event)
    (hp : (EventQueue.run ops).peek = some x) :
    ∀ y ∈ EventQueue.run ops, Event.lt y x = false :=
  EventQueue.peek_min (EventQueue.good_run (ht := ht) ops hops) hp

/-- `get_next_event_of_type(t)` after any history returns a pending event of type `t` that no
pending event of type `t` is less than. -/
theorem next_of_type_min (ht : Nat → Bool) (ops : List QOp)
    (hops : ∀ e, QOp.add e ∈ ops → Event.WF ht e) (t : Nat) (x : Event)
    (hx : (EventQueue.run ops).nextOfType t = some x) :
    x ∈ EventQueue.run ops ∧ x.etype = t ∧
      ∀ y ∈ EventQueue.run ops, y.etype = t → Event.lt y x = false :=
  EventQueue.nextOfType_min (EventQueue.good_run (ht := ht) ops hops).1 hx

/-- Draining the queue reached by any history yields all pending events in non-decreasing
order: time never goes backwards, ties are broken by type, then by task name. -/
theorem pops_nondecreasing (ht : Nat → Bool) (ops : List QOp)
    (hops : ∀ e, QOp.add e ∈ ops → Event.WF ht e) :
    let q := EventQueue.run ops
    (drain Event.lt q.size q).Pairwise (fun x y => Event.lt y x = false) ∧
      (drain Event.lt q.size q).Perm q.toList := by
  have hg := EventQueue.good_run (ht := ht) ops hops
  exact heap_drain_sorted (Event.lt_swo ht) _ hg.1 hg.2

/-- What each operation does to the multiset of pending events. -/
theorem history_step_contents (q : EventQueue) :
    (∀ e, (q.addEvent e).Perm (q.push e)) ∧
    (q.reheapify).Perm q ∧
    (∀ eid t, (q.retimeReheapify eid t).Perm (q.retime eid t)) ∧
    (∀ eid q', q.removeEvent eid = .ok q' →
      ∃ (i : Nat) (hi : i < q.size), q[i].eid = eid ∧ (∀ j (hj : j < i), q[j].eid ≠ eid) ∧
        (q'.push q[i]).Perm q) ∧
    (∀ eid c, q.removeEvent eid = .error c → c = "ValueError" ∧ ∀ e ∈ q, e.eid ≠ eid) := by
  refine ⟨fun e => heappush_perm _ _ _, heapify_perm _ _, fun eid t => heapify_perm _ _, ?_, ?_⟩
  · intro eid q' h
    obtain ⟨i, hi, h1, h2, -, h4⟩ := EventQueue.removeEvent_spec h
    exact ⟨i, hi, h1, h2, h4⟩
  · intro eid c h; exact EventQueue.removeEvent_error h

/-- The type priority at equal times, from the *generated* enum table: the source orders
`EventType` by value and TASK_FINISHED < TASK_PLACEMENT < SCHEDULER_START. -/
theorem type_priority_table :
    Gen.eventTypeLtIsValueOrder = true ∧
    (do let f ← eventTypeValue? "TASK_FINISHED"
        let p ← eventTypeValue? "TASK_PLACEMENT"
        let s ← eventTypeValue? "SCHEDULER_START"
        pure (decide (f < p ∧ p < s))) = some true := by decide

/-- Corollary: in any reachable queue, an event popped while another event with the same time
is pending has a type value not above the pending one; so a TASK_PLACEMENT never leaves before
a pending TASK_FINISHED of the same instant, and a SCHEDULER_START leaves after both. -/
theorem equal_time_type_priority (ht : Nat → Bool) (ops : List QOp)
    (hops : ∀ e, QOp.add e ∈ ops → Event.WF ht e)
    (x : Event) (q' : EventQueue) (hn : (EventQueue.run ops).next = .ok (x, q'))
    (y : Event) (hy : y ∈ q') (ht' : y.time = x.time) (f p s : Nat)
    (hf : eventTypeValue? "TASK_FINISHED" = some f) (hp : eventTypeValue? "TASK_PLACEMENT" = some p)
    (hs : eventTypeValue? "SCHEDULER_START" = some s) :
    x.etype ≤ y.etype ∧ (x.etype = p → y.etype ≠ f) ∧ (x.etype = s → y.etype ≠ f ∧ y.etype ≠ p) := by
  have hmin := (pop_min ht ops hops x q' hn).1 y hy
  have hle : x.etype ≤ y.etype := by
    apply Nat.le_of_not_lt
    intro hlt
    have : Event.lt y x = true := (Event.lt_iff y x).mpr (.inr ⟨ht', .inl hlt⟩)
    rw [hmin] at this; cases this
  have htab := type_priority_table.2
  rw [hf, hp, hs] at htab
  simp only [Option.bind_eq_bind, Option.bind_some, Option.pure_def, Option.some.injEq,
    decide_eq_true_eq] at htab
  obtain ⟨h1, h2⟩ := htab
  refine ⟨hle, ?_, ?_⟩
  · intro hx hyf; omega
  · intro hx; constructor <;> intro hyy <;> omega

/-- Non-vacuity: a concrete history (same-instant TASK_FINISHED / TASK_PLACEMENT /
SCHEDULER_START inserted in the wrong order, a removal, a re-timing) meets the hypotheses,
and the model pops FINISHED, PLACEMENT, SCHEDULER_START. -/
example :
    let fin : Event := ⟨0, 5, 3, some "t@g"⟩
    let plc : Event := ⟨1, 9, 10, some "t@g"⟩
    let sch : Event := ⟨2, 5, 11, none⟩
    let oth : Event := ⟨3, 1, 11, none⟩
    let ops := [QOp.add sch, .add plc, .add oth, .add fin, .remove 3, .retime 1 5]
    (∀ e, QOp.add e ∈ ops → Event.WF sourceHasTask e) ∧
      (drain Event.lt 3 (EventQueue.run ops)).map (·.eid) = [0, 1, 2] := by
  refine ⟨?_, by decide +kernel⟩
  intro e he
  simp only [List.mem_cons, QOp.add.injEq, List.not_mem_nil, or_false, reduceCtorEq] at he
  rcases he with rfl | rfl | rfl | rfl <;> decide

end ErdosVerif.C16
