import ErdosVerif.Props.C01_Run
/-!
# C03 over a whole run — a task is reported complete at exactly start + runtime

Invariants of every run of the simulator model `Model/Sim.lean` (any decision tape, any
draw tape, any fuel), proved with Hoare triples in `Lemmas/SimResident*.lean`:

* `__step` steps every RUNNING task exactly as far as the clock moves (a RUNNING task is
  resident on exactly one worker — `C01_Run` — and the step never overshoots a placed task),
  so for every RUNNING task `start + remaining-at-start = now + remaining`, the remaining time
  at the start being the (fuzzed) value recorded in the task's `.start` log entry;
* a TASK_FINISHED event is queued exactly when the remaining time reaches 0 (at once for a
  task that starts with no work left), is never re-timed, and is due at that instant;
* hence **every `.finish t τ` entry of the history log is preceded by a `.start t σ r _` entry
  with `τ = σ + r`** — in every state a run can end in: normally, out of fuel (after any number of
  loop iterations), or where a handler raised.
-/
namespace ErdosVerif.C03
open ErdosVerif.Model ErdosVerif.Model.Sim

/-- **Exact runtime over every run.** In the history log of the state a simulation is in after
the constructor and any number of loop iterations (ended normally, out of fuel, or aborted),
every completion `.finish t τ` is preceded by a start `.start t σ r pool` of the same task with
`τ = σ + r`: the task is reported complete exactly `r` after it started, where `r` is the
remaining time `Task.start` fixed (the fuzzed runtime of the chosen strategy; `r = 0` included). -/
theorem finish_at_start_plus_runtime (s0 : SimS) (fuel : Nat) (h : wf0 s0 = true) (i : Nat) (t : TaskId) (τ : Int)
    (hf : (simulate s0 fuel).2.log.toList[i]? = some (LogE.finish t τ)) :
    ∃ j : Nat, j < i ∧ ∃ σ r pool, (simulate s0 fuel).2.log.toList[j]? = some (LogE.start t σ r pool) ∧ τ = σ + r :=
  (simulate_weak s0 fuel (ap_initial s0 h)).log i t τ hf

/-- **Every RUNNING task has been stepped exactly as far as the clock moved**, when the run
ended normally: its last step is the current clock value, and
`start + remaining-at-start = now + remaining` with the remaining time at the start taken from
the task's `.start` log entry. -/
theorem running_task_exact_at_end (s0 : SimS) (fuel : Nat) (h : wf0 s0 = true) (hok : (simulate s0 fuel).1 = none)
    (t : TaskId) (x : TaskS) (ht : taskAt (simulate s0 fuel).2.graphs t = some x) (hs : x.state = .running) :
    ∃ r, x.remaining = some r ∧ 0 ≤ r ∧ x.lastStep = (simulate s0 fuel).2.now ∧ x.start ≤ (simulate s0 fuel).2.now ∧
      ∃ r0 pool, LogE.start t x.start r0 pool ∈ (simulate s0 fuel).2.log.toList ∧
        x.start + r0 = (simulate s0 fuel).2.now + r :=
  (simulate_strong s0 fuel (ap_initial s0 h) hok).core.run t x ht hs

/-- The same at the head of the `simulate()` loop after any number `k` of completed iterations
(`runK`: the loop of `simulate()` cut after `k` iterations); if one of them raised, the weak
invariant — which contains the log property — holds at the raise point. -/
theorem running_task_exact_at_loop_head (s0 : SimS) (k : Nat) (h : wf0 s0 = true) :
    HoldsAfter
      (fun _ s => ∀ t x, taskAt s.graphs t = some x → x.state = .running →
        ∃ r, x.remaining = some r ∧ 0 ≤ r ∧ x.lastStep = s.now ∧ x.start ≤ s.now ∧
          ∃ r0 pool, LogE.start t x.start r0 pool ∈ s.log.toList ∧ x.start + r0 = s.now + r)
      WInv ((ExceptT.run (do init; runK k : SimM Bool)).run s0) := by
  have := loop_head_strong s0 k (ap_initial s0 h)
  revert this
  cases (StateT.run (ExceptT.run (do init; runK k : SimM Bool)) s0) with
  | mk r s =>
    cases r with
    | ok a => intro hA t x ht hs; exact hA.core.run t x ht hs
    | error e => intro hW; exact hW

/-- **A queued TASK_FINISHED event is due exactly when its task runs out of work**: when the run
ended normally, for every queued TASK_FINISHED event of a RUNNING task with remaining time `r`,
the event time is `now + r`. -/
theorem finish_event_due (s0 : SimS) (fuel : Nat) (h : wf0 s0 = true) (hok : (simulate s0 fuel).1 = none)
    (e : SEvent) (he : e ∈ (simulate s0 fuel).2.queue.toList) (hty : e.ev.etype = ET.taskFinished)
    (t : TaskId) (htid : e.tid = some t) :
    ∃ x, taskAt (simulate s0 fuel).2.graphs t = some x ∧ (x.state = .running ∨ x.isComplete = true) ∧
      (x.state = .running → ∀ r, x.remaining = some r → e.ev.time = (simulate s0 fuel).2.now + r) := by
  have hA := simulate_strong s0 fuel (ap_initial s0 h) hok
  obtain ⟨x, hx, h1, h2⟩ := hA.core.fin e (List.mem_append_left _ he) hty t htid
  refine ⟨x, hx, h1, fun hs r hr => ?_⟩
  obtain ⟨r', hr', _, hls, _⟩ := hA.core.run t x hx hs
  rw [h2 hs r hr, hls]

/-- Non-vacuity: the theorems apply to the world `C01.exWorld` (two workers, a two-task chain, a
closed-loop job), whatever the fuel. -/
example : ∀ fuel i t τ, (simulate C01.exWorld fuel).2.log.toList[i]? = some (LogE.finish t τ) →
    ∃ j : Nat, j < i ∧ ∃ σ r pool, (simulate C01.exWorld fuel).2.log.toList[j]? = some (LogE.start t σ r pool) ∧ τ = σ + r :=
  fun fuel => finish_at_start_plus_runtime C01.exWorld fuel C01.exWorld_wf

/-- The log property is not vacuous: a log with a start at 2 with remaining time 5 and the
completion at 7 satisfies it, one with the completion at 8 does not. -/
example : LogOK [.start ⟨0, 0⟩ 2 5 0, .clock 7, .finish ⟨0, 0⟩ 7] ∧ ¬ LogOK [.start ⟨0, 0⟩ 2 5 0, .clock 8, .finish ⟨0, 0⟩ 8] := by
  constructor
  · intro i t τ hi
    match i with
    | 0 => simp at hi
    | 1 => simp at hi
    | 2 =>
      simp only [List.getElem?_cons_succ, List.getElem?_cons_zero, Option.some.injEq, LogE.finish.injEq] at hi
      obtain ⟨rfl, rfl⟩ := hi
      exact ⟨0, by omega, 2, 5, 0, rfl, rfl⟩
    | k + 3 => simp at hi
  · intro h
    obtain ⟨j, hj, σ, r, p, h1, h2⟩ := h 2 ⟨0, 0⟩ 8 rfl
    match j with
    | 0 => simp at h1; omega
    | 1 => simp at h1

end ErdosVerif.C03
