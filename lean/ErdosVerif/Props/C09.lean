import ErdosVerif.Lemmas.SimOrder
/-!
# C09 — runs are reproducible from the random seed

Property: two runs of the simulator with the same workload, cluster, flags and random
seed produce the same trace, differing only in measured wall-clock scheduler durations;
different processes and machines do not matter.

What a theorem can say.  The simulator model is a function, so "same inputs, same trace"
is definitional (`simulate_deterministic` below is the trivial theorem it is).  The content
of C09 is that the *implementation* has no input besides (description, flags, seed).  The
model makes every candidate hidden input explicit, and the theorems show what the trace
does and does not depend on:

* the iteration order of the `set` of resource names in `Simulator.__log_utilization`
  (a function of the per-process string hash, i.e. of `PYTHONHASHSEED`) is the parameter
  `ord` of `SimOrder.logUtilizationWith`;
* ids (`uuid`s drawn from `random.getrandbits`) are the labels `g<i>.t<j>` / `p<i>`;
* scheduler decisions, `random` draws, `EventTime.fuzz` draws are the tapes of `SimS`.

FULL STATEMENT (not claimed, see the registry's `not_proved`):
  `setorder_indep_full`: for every world, decision tape, draw tape and for all set orders
  `ord ord'`, the trace of the whole run under `ord` equals the trace under `ord'`.
This is FALSE of the current code (`setorder_dependent_counterexample`, finding D11).
What is proved is the content of D11's repair, for the one function that iterates the set:
under any order the rows of one call are the same multiset, pool block by pool block
(`setorder_indep_multiset`, `setorder_indep_blockwise`), nothing but `rows` is touched
(`setorder_frame`), and once the names are sorted the row list itself no longer depends on
the order (`setorder_indep_sorted`, `setorder_indep_sorted_state`).  Lifting these from one
`__log_utilization` call to the whole run needs the (unproved) 2-run statement that no
handler of the model reads `rows`; the end-to-end correspondence compares the real trace
with the model's after sorting each block, which is the same statement observed on runs.

The runtime behaviours no model can exhibit — str-hash randomisation, RNG seeding,
wall clock, uuid generation — are covered only by the repeated fresh-process runs of
`harness/suites/c09.py`.
-/
namespace ErdosVerif.C09
open ErdosVerif.Model ErdosVerif.Model.SimOrder

/-- `ord` is a possible iteration order of a set: it yields exactly the elements it is
given, each once, in some order. -/
def IsSetOrder (ord : Order) : Prop := ∀ i l, (ord i l).Perm l

theorem sortedOrder_isSetOrder : IsSetOrder sortedOrder := fun _ l => List.mergeSort_perm l _

/-- `ord` followed by `sorted(...)`: the order D11's repair `for n in sorted(set(...))` gives. -/
def sortAfter (ord : Order) : Order := fun i l => (ord i l).mergeSort (· ≤ ·)

/-- The simulator model's `logUtilization` is the parameterised function at the canonical
(sorted) order — by definition, so everything proved about `logUtilizationWith` applies
to the model that the end-to-end correspondence ties to the code. -/
theorem logUtilization_is_sorted_instance (time : Int) :
    Sim.logUtilization time = logUtilizationWith sortedOrder time := rfl

/-- One `__log_utilization` call appends `utilRows ord time pools` to the trace, changes no
other component of the simulator state and never raises — whatever the order. -/
theorem logUtilizationWith_effect (ord : Order) (time : Int) (s : SimS) :
    (logUtilizationWith ord time).run.run s
      = (.ok (), { s with rows := s.rows ++ (utilRows ord time s.pools.toList).toArray }) :=
  logUtilizationWith_run ord time s

/-- Frame: the states reached under two orders agree on everything except `rows`; in
particular the set order never influences a decision, a time or a counter. -/
theorem setorder_frame (ord ord' : Order) (time : Int) (s : SimS) :
    let a := ((logUtilizationWith ord time).run.run s)
    let b := ((logUtilizationWith ord' time).run.run s)
    a.1 = b.1 ∧ { a.2 with rows := #[] } = { b.2 with rows := #[] } := by
  refine ⟨?_, ?_⟩ <;> simp only [logUtilizationWith_run]

/-- Block by block: the rows logged for one pool are the same multiset under any two set
orders — only the ORDER of the rows of one pool and instant can differ. -/
theorem setorder_indep_blockwise (ord ord' : Order) (h : IsSetOrder ord) (h' : IsSetOrder ord')
    (time : Int) (i : Nat) (res : Resources) :
    (poolRows time i res (ord i (nameSet res))).Perm (poolRows time i res (ord' i (nameSet res))) :=
  ((h i _).trans (h' i _).symm).map _

/-- The rows of one `__log_utilization` call are the same multiset under any two set orders. -/
theorem setorder_indep_multiset (ord ord' : Order) (h : IsSetOrder ord) (h' : IsSetOrder ord')
    (time : Int) (pools : List Pool) :
    (utilRows ord time pools).Perm (utilRows ord' time pools) := by
  unfold utilRows
  generalize pools.zipIdx = l
  induction l with
  | nil => exact .nil
  | cons a l ih =>
    simp only [List.flatMap_cons]
    exact (setorder_indep_blockwise ord ord' h h' time a.2 a.1.resources).append ih

/-- Sorting removes the dependence: two permutations of the same names sort to the same list. -/
theorem sorted_names_unique {l l' : List String} (h : l.Perm l') :
    l.mergeSort (· ≤ ·) = l'.mergeSort (· ≤ ·) := by
  have tr : ∀ a b c : String, decide (a ≤ b) = true → decide (b ≤ c) = true → decide (a ≤ c) = true := by
    intro a b c hab hbc
    simp only [decide_eq_true_eq] at *
    exact String.le_trans hab hbc
  have tot : ∀ a b : String, (decide (a ≤ b) || decide (b ≤ a)) = true := by
    intro a b
    simp only [Bool.or_eq_true, decide_eq_true_eq]
    exact String.le_total a b
  refine List.Perm.eq_of_pairwise (le := fun a b => decide (a ≤ b) = true) ?_
    (List.pairwise_mergeSort tr tot l) (List.pairwise_mergeSort tr tot l')
    ((List.mergeSort_perm l _).trans (h.trans (List.mergeSort_perm l' _).symm))
  intro a b _ _ hab hba
  simp only [decide_eq_true_eq] at hab hba
  exact String.le_antisymm hab hba

/-- D11's repair, row list: with `sorted(set(...))` the rows of one call are the same LIST
for every set order, and equal to the simulator model's. -/
theorem setorder_indep_sorted (ord : Order) (h : IsSetOrder ord) (time : Int) (pools : List Pool) :
    utilRows (sortAfter ord) time pools = utilRows sortedOrder time pools := by
  unfold utilRows
  congr 1
  funext x
  obtain ⟨p, i⟩ := x
  simp only [sortAfter, sortedOrder]
  rw [sorted_names_unique (h i (nameSet p.resources))]

/-- D11's repair, state: after the repaired log call the whole simulator state (trace
included) is the one the simulator model computes, for every set order. -/
theorem setorder_indep_sorted_state (ord : Order) (h : IsSetOrder ord) (time : Int) (s : SimS) :
    (logUtilizationWith (sortAfter ord) time).run.run s = (Sim.logUtilization time).run.run s := by
  rw [logUtilization_is_sorted_instance, logUtilizationWith_run, logUtilizationWith_run,
    setorder_indep_sorted ord h]

/-- A pool with at most one resource type is immune: every set order gives the same rows. -/
theorem setorder_irrelevant_single_type (ord ord' : Order) (h : IsSetOrder ord) (h' : IsSetOrder ord')
    (time : Int) (i : Nat) (res : Resources) (h1 : (nameSet res).length ≤ 1) :
    poolRows time i res (ord i (nameSet res)) = poolRows time i res (ord' i (nameSet res)) := by
  have e : ∀ {o : Order}, IsSetOrder o → o i (nameSet res) = nameSet res := by
    intro o ho
    have hp := ho i (nameSet res)
    match hn : nameSet res, h1 with
    | [], _ => rw [hn] at hp; exact hp.eq_nil
    | [a], _ => rw [hn] at hp; exact List.perm_singleton.mp hp
    | _ :: _ :: _, h2 => simp at h2
  rw [e h, e h']

def pool2 : Pool := ⟨[Worker.ofVec [(⟨"GPU", some 1⟩, 2), (⟨"CPU", some 2⟩, 3)]], []⟩

/-- With two resource types in a pool, two legitimate set orders give different row lists:
the trace of the current code depends on `PYTHONHASHSEED`. -/
theorem setorder_dependent_counterexample :
    ∃ ord ord' : Order, IsSetOrder ord ∧ IsSetOrder ord' ∧ utilRows ord 0 [pool2] ≠ utilRows ord' 0 [pool2] := by
  refine ⟨fun _ l => l, fun _ l => l.reverse, fun _ _ => .refl _, fun _ l => List.reverse_perm l, ?_⟩
  intro h
  have h3 := congrArg (fun rows => rows.head?.bind (·[3]?)) h
  revert h3
  decide

/-- Non-vacuity: the names of `pool2` under the two orders, and the sorted order. -/
example : nameSet pool2.resources = ["GPU", "CPU"] := by decide
example : (utilRows (fun _ l => l) 0 [pool2]).length = 2 := by decide
example : (utilRows sortedOrder 0 [pool2]).length = 2 :=
  (setorder_indep_multiset sortedOrder (fun _ l => l) sortedOrder_isSetOrder (fun _ _ => .refl _) 0 [pool2]).length_eq.trans
    (by decide)
example : IsSetOrder (fun _ l => l.reverse) := fun _ l => List.reverse_perm l

theorem tlabel_injective : Function.Injective Sim.tlabel := fun _ _ h => tlabel_inj h
theorem plabel_injective : Function.Injective Sim.plabel := fun _ _ h => plabel_inj h
theorem labels_disjoint (t : TaskId) (p : Nat) : Sim.tlabel t ≠ Sim.plabel p := tlabel_ne_plabel t p

/-
FULL STATEMENT (not claimed): `id_equivariance` — running the model with any other injective
naming of tasks and pools yields the same trace with the names replaced and nothing else
changed.  Proved here is the part that does not need a second copy of the simulator:
the labels are injective with disjoint ranges, hence for ANY assignment of ids (the uuids a
real run happens to draw) one string map turns every label of the model trace into that id;
and in the rows of `__log_utilization` the pool label occupies one column and influences
nothing else.
-/
/-- For any assignment of ids to tasks and pools there is a single renaming of strings that
maps every model label to the assigned id. -/
theorem id_equivariance_partial (u : TaskId → String) (v : Nat → String) :
    ∃ f : String → String, (∀ t, f (Sim.tlabel t) = u t) ∧ (∀ p, f (Sim.plabel p) = v p) := by
  classical
  refine ⟨fun s => if h : ∃ t, Sim.tlabel t = s then u h.choose
                   else if h : ∃ p, Sim.plabel p = s then v h.choose else s, ?_, ?_⟩
  · intro t
    have h : ∃ t', Sim.tlabel t' = Sim.tlabel t := ⟨t, rfl⟩
    simp only [h, dite_true]
    rw [tlabel_inj h.choose_spec]
  · intro p
    have hn : ¬ ∃ t, Sim.tlabel t = Sim.plabel p := fun ⟨t, ht⟩ => tlabel_ne_plabel t p ht
    have h : ∃ p', Sim.plabel p' = Sim.plabel p := ⟨p, rfl⟩
    simp only [hn, h, dite_false, dite_true]
    rw [plabel_inj h.choose_spec]

/-- In a utilisation row the pool id is the third column and nothing else depends on it. -/
theorem utilRow_id_equivariant (time : Int) (i j : Nat) (res : Resources) (nm : String) :
    utilRow time i res nm = (utilRow time j res nm).set 2 (Sim.plabel i) := rfl

example : Sim.tlabel ⟨1, 12⟩ = "g1.t12" ∧ Sim.tlabel ⟨11, 2⟩ = "g11.t2" := by decide

/-- The simulator model is a function of its explicit inputs (initial state = world +
decision tape + draw tape, and the fuel).  This is `congrArg`; it is stated only to record
that "same inputs, same trace" carries no content for a model. -/
theorem simulate_deterministic (s0 s0' : SimS) (fuel fuel' : Nat) (hs : s0 = s0') (hf : fuel = fuel') :
    Sim.simulate s0 fuel = Sim.simulate s0' fuel' := by
  subst hs; subst hf; rfl

end ErdosVerif.C09
