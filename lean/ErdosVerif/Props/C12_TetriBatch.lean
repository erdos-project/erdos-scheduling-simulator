/-
C12 (TetriSched-CPLEX, **batching mode**): deadline enforcement for the *member tasks* of a
`BatchTask`.

With `enforce_deadlines` the space-time cell `(worker, slot)` of a batch is a solver variable
only if `slot + runtime ≤ BatchTask.deadline`, and `BatchTask.deadline` is the **minimum** of
the members' deadlines (`bDeadline`, `batch_deadline_is_min`).  Hence, for *every* assignment
`σ` (no feasibility needed: the guarantee is structural) every member of a placed batch
completes by **its own** deadline (`member_meets_own_deadline`) — the statement that the
seeded change `BatchTask.deadline = max(…)` breaks.  Hopeless offered tasks (admission control,
per task) are answered with a cancellation and nothing else, in all three exits of
`schedule()` (`hopeless_cancelled`, `…_fail`, `…_nomodel`); nothing else is cancelled
(`cancel_only_hopeless`).

All theorems are about `genB` / `decodeB` of `Model/TetriBatch.lean`, tied to the code by the
term-by-term comparison of the captured docplex model and the returned Placements
(`harness/planners/_tetri_batch.py`).
-/
import ErdosVerif.Lemmas.TetriBatch
namespace ErdosVerif.C12_TetriBatch
open ErdosVerif.Mip ErdosVerif.TetriBatch

variable {I : BInst} {σ : BVar → Int}

/-- `BatchTask.deadline` is not after the deadline of any member (it is their minimum). -/
theorem batch_deadline_is_min (I : BInst) (b : Batch) {t : Nat} (ht : t ∈ b.members) :
    I.bDeadline b ≤ (I.task t).deadline := bDeadline_le I b ht

/-- A cell whose completion lies after the batch deadline carries no variable. -/
theorem late_cell_no_var (he : I.enforceDeadlines = true) {bi w k : Nat}
    (hl : I.slot k + ((I.batch bi).strat.runtime : Nat) > I.bDeadline (I.batch bi)) :
    I.hasVar bi w k = false := by
  simp [BInst.hasVar, BInst.cellOk, he, hl]

/-- … and its matrix entry is the constant 0. -/
theorem late_cell_constant (he : I.enforceDeadlines = true) {bi w k : Nat}
    (hl : I.slot k + ((I.batch bi).strat.runtime : Nat) > I.bDeadline (I.batch bi)) :
    (I.cellE bi w k).eval σ = 0 := by
  rw [eval_cellE]
  simp [BInst.cellOk, he, hl]

/-- The chosen cell of a batch completes by the deadline of **every member**. -/
theorem chosen_meets_member_deadlines (he : I.enforceDeadlines = true) {bi w k : Nat}
    (hc : I.chosen σ bi = some (w, k)) {t : Nat} (ht : t ∈ (I.batch bi).members) :
    I.slot k + ((I.batch bi).strat.runtime : Nat) ≤ (I.task t).deadline := by
  have h1 : I.slot k + ((I.batch bi).strat.runtime : Nat) ≤ I.bDeadline (I.batch bi) :=
    (cellOk_spec (chosen_spec hc).2.2.1).2.2 he
  have h2 := bDeadline_le I (I.batch bi) ht
  omega

/-- **Every member of a placed batch completes by its own deadline** (any assignment `σ`): a
placed decision for task `t` reports the `BatchStrategy` of a batch `b` that `t` is a member of,
and `start + runtime(b) ≤ deadline(t)`. -/
theorem member_meets_own_deadline (he : I.enforceDeadlines = true) {t w b : Nat} {time : Int}
    (hd : (⟨t, .placed w b time⟩ : BDecision) ∈ decodeB I σ) :
    t ∈ (I.batch b).members ∧ time + ((I.batch b).strat.runtime : Nat) ≤ (I.task t).deadline := by
  obtain ⟨_, hm, k, hc, rfl⟩ := placed_origin hd
  exact ⟨hm, chosen_meets_member_deadlines he hc hm⟩

theorem mem_cancelled {t : Nat} : t ∈ I.cancelled ↔ t < I.nOffered ∧ I.hopeless t = true := by
  rw [mem_cancelledB]
  exact and_congr_right fun h => by simp [BInst.active, h]

/-- A hopeless offered task (`deadline < now + fastest runtime`) is a member of no batch. -/
theorem hopeless_no_member {t : Nat} (ht : t < I.nOffered) (hh : I.hopeless t = true) {bi : Nat}
    (hb : bi < I.nB) : t ∉ (I.batch bi).members := by
  intro hm
  have := (members_active hb hm).2
  simp [BInst.active, ht, hh] at this

/-- **Hopeless tasks are cancelled** and get no other answer (solution available). -/
theorem hopeless_cancelled {t : Nat} (ht : t < I.nOffered) (hh : I.hopeless t = true) :
    (⟨t, .cancel⟩ : BDecision) ∈ decodeB I σ ∧ ∀ d ∈ decodeB I σ, d.task = t → d.out = .cancel := by
  constructor
  · simp only [decodeB, List.mem_append, List.mem_map]
    exact Or.inl ⟨t, mem_cancelled.mpr ⟨ht, hh⟩, rfl⟩
  · intro d hd hdt
    rcases mem_decodeB hd with ⟨hc, _⟩ | ⟨bi, hb, hdb⟩
    · exact hc
    · exfalso
      have hm := (mem_decodeBatch hdb).1
      rw [hdt] at hm
      exact hopeless_no_member ht hh (mem_free.mp hb).1 hm

/-- The same when the solver finds no solution. -/
theorem hopeless_cancelled_fail {t : Nat} (ht : t < I.nOffered) (hh : I.hopeless t = true) :
    (⟨t, .cancel⟩ : BDecision) ∈ decodeFailB I ∧ ∀ d ∈ decodeFailB I, d.task = t → d.out = .cancel := by
  constructor
  · simp only [decodeFailB, List.mem_append, List.mem_map]
    exact Or.inl ⟨t, mem_cancelled.mpr ⟨ht, hh⟩, rfl⟩
  · intro d hd hdt
    simp only [decodeFailB, List.mem_append, List.mem_map] at hd
    rcases hd with ⟨u, _, rfl⟩ | ⟨u, hu, rfl⟩
    · rfl
    · exfalso
      simp only [BInst.offeredAct, List.mem_filter, List.mem_range, BInst.active] at hu
      simp only at hdt
      subst hdt
      simp [ht, hh] at hu

/-- … and when no model is built at all. -/
theorem hopeless_cancelled_nomodel {t : Nat} (ht : t < I.nOffered) (hh : I.hopeless t = true) :
    (⟨t, .cancel⟩ : BDecision) ∈ decodeNoModelB I := by
  simp only [decodeNoModelB, List.mem_map]
  exact ⟨t, mem_cancelled.mpr ⟨ht, hh⟩, rfl⟩

/-- Only hopeless offered tasks are cancelled (the boundary `deadline = now + fastest` is not). -/
theorem cancel_only_hopeless {t : Nat} (hd : (⟨t, .cancel⟩ : BDecision) ∈ decodeB I σ) :
    t < I.nOffered ∧ I.enforceDeadlines = true ∧ (I.task t).deadline < I.now + (I.fastest t : Nat) := by
  rcases mem_decodeB hd with ⟨_, hc⟩ | ⟨bi, _, hdb⟩
  · obtain ⟨h1, h2⟩ := mem_cancelled.mp hc
    simp only [BInst.hopeless, Bool.and_eq_true, decide_eq_true_eq] at h2
    exact ⟨h1, h2.1, h2.2⟩
  · rcases (mem_decodeBatch hdb).2 with h | ⟨q, _, h⟩ <;> simp at h

/-! ### Non-vacuity: the scenario of the seeded change (`TetriBatch.exTight`: Tight 6 / Loose 20
share a batch-2 strategy of 5 µs, Urgent needs the only CPU on `[0, 3)`) -/

/-- The instance is well-formed, builds a model, does not raise; its batches are
`PR1_1 = {Urgent}` and `PR0_1 = {Tight, Loose}` with deadline `min(6, 20) = 6`. -/
example : exTight.wf = true ∧ exTight.noModel = false ∧ exTight.raises = false ∧ exTight.nB = 2 ∧
    (exTight.batch 1).members = [1, 2] ∧ exTight.bDeadline (exTight.batch 1) = 6 := by decide

/-- The batch `{Tight, Loose}` has variables exactly at the slots 0 and 1 (`slot + 5 ≤ 6`); the
slot 3 at which the seeded change lets it start has none. -/
example : exTight.hasVar 1 0 0 = true ∧ exTight.hasVar 1 0 1 = true ∧ exTight.hasVar 1 0 2 = false ∧
    exTight.hasVar 1 0 3 = false := by decide

/-- A feasible point that places the batch `{Tight, Loose}` at slot 1 (`Urgent` stays unplaced). -/
def sigmaTight : BVar → Int
  | .cell 1 0 1 => 1
  | .isPlaced 1 => 1
  | .reward 1 => 204 * 39
  | .notPlaced 0 => -1
  | _ => 0

/-- The hypotheses of `member_meets_own_deadline` are satisfiable: enforcement is on, the point is
feasible, and both members are answered with the batch's cell `(W0, t = 1)`; `1 + 5 ≤ 6 ≤ 20`. -/
example : exTight.enforceDeadlines = true ∧ sat sigmaTight (genB exTight) ∧
    (⟨1, .placed 0 1 1⟩ : BDecision) ∈ decodeB exTight sigmaTight ∧
    (⟨2, .placed 0 1 1⟩ : BDecision) ∈ decodeB exTight sigmaTight ∧
    (⟨0, .unplaced⟩ : BDecision) ∈ decodeB exTight sigmaTight := by decide

/-- The same scenario with `Urgent` due at 2: hopeless (`2 < 0 + 3`), offered, hence cancelled;
`Urgent` due at 3 (in `exTight`) is the boundary and is not hopeless. -/
def exHopeless : BInst :=
  { exTight with tasks := [⟨"Urgent@G0", .released, 0, 2, 1, 1, 0, 0⟩,
                           ⟨"Tight@G1", .released, 0, 6, 0, 1, 0, 0⟩,
                           ⟨"Loose@G2", .released, 0, 20, 0, 1, 0, 0⟩] }

example : (0 : Nat) < exHopeless.nOffered ∧ exHopeless.hopeless 0 = true ∧ exHopeless.wf = true ∧
    exHopeless.noModel = false ∧ exHopeless.raises = false ∧ exTight.hopeless 0 = false ∧
    decodeFailB exHopeless = [⟨0, .cancel⟩, ⟨1, .unplaced⟩, ⟨2, .unplaced⟩] := by decide

end ErdosVerif.C12_TetriBatch
