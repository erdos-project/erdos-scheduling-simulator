/-
C14 (ILP clause): the ILP with the goodput goal versus an independent specification of
feasible plans (`IlpSpec.ValidPlan`, `IlpSpec.goodput`).

Proved (all instance sizes):
* `ilp_sound`: every feasible point of `gen inst` decodes to a `ValidPlan` — release,
  deadline, precedence and capacity at every instant hold for what `schedule()` returns;
* `objective_eq_goodput`: with the `max_goodput` goal the objective value of a feasible point
  is exactly the goodput of the decoded plan (number of graphs whose reward tasks are placed);
* `objective_le_max_goodput`: hence no feasible point scores more than the best valid plan;
* `gap_exact`: an integer objective within relative gap 0.1 of an optimum `≤ 9` is optimal, so
  Gurobi's `MIPGap = 0.1` stopping rule cannot hide a graph on enumerable instances.

NOT true of the code (findings C14-ILP-1..3, see `ilp_complete_full` below and
docs/planner_ilp.md): completeness — "every ValidPlan extends to a feasible point with the same
objective" — fails because (1) the capacity rows are pairwise (task t₁ is charged with every
task overlapping it, even if those do not overlap each other), (2) the deadline / precedence
rows bind the start variable of a task that is *not* placed, so one hopeless task makes the
whole model infeasible, (3) a placed task needs as many placed parents *with variables* as it
has graph parents, so a parent outside the call blocks it.  `pairwise_counterexample`,
`hopeless_counterexample` and `join_counterexample` prove them on concrete instances.
-/
import ErdosVerif.Lemmas.IlpComplete
import ErdosVerif.Lemmas.IlpSearch
import ErdosVerif.Props.C12_Ilp
namespace ErdosVerif.C14_Ilp
open ErdosVerif.Mip ErdosVerif.Ilp ErdosVerif.IlpSpec

theorem placed_iff {I : Inst} {σ : Var → Int} (h : sat σ (gen I)) (hwr : I.wfRunning = true)
    {t : Nat} (ht : t < I.nT) : ((planOf I σ).get t).isSome = true ↔ 1 ≤ psum I σ t := by
  rw [planOf_get ht]
  cases hr : I.running t with
  | true =>
    have := wfRunning_spec hwr ht hr
    simp [psum_running hr this.1 this.2]
  | false =>
    simpa using chosen_isSome_iff h ht hr

/-- **Soundness.** What `schedule()` returns for a feasible point (together with the RUNNING
tasks) is a valid plan of the independent specification. -/
theorem ilp_sound {I : Inst} {σ : Var → Int} (h : sat σ (gen I)) (hwr : I.wfRunning = true)
    (hwp : I.wfParents = true) (hwc : I.wfChains = true) : ValidPlan I (planOf I σ) where
  len := planOf_length I σ
  running := by
    intro t ht hr
    rw [planOf_get ht]; simp [hr]
  wf := by
    intro t pl ht hr hg
    have hp := placed_spec hwr ht hg
    have := start_lb h ht hr
    rw [hp.2.2.2.1, sval_var hr]
    exact ⟨hp.1, hp.2.1, hp.2.2.2.2, this⟩
  deadline := by
    intro t pl ht hr he hg
    have hp := placed_spec hwr ht hg
    have := C12_Ilp.placed_meets_deadline h ht hp.1 hp.2.1 hr he hp.2.2.1
    unfold finish
    rw [hp.2.2.2.1, sval_var hr]
    exact this
  required := by
    intro t ht hs hre
    have hr := running_eq_false_of_scheduled hs
    have := psum_eq_one_of_scheduled h ht hr hs hre
    exact (placed_iff h hwr ht).mpr (by omega)
  prec := by
    intro c plc hc hr hg p hp
    have hpc := placed_spec hwr hc hg
    have hpt := (mem_parentVars.mp hp).1
    have hplaced := (placed_iff h hwr hc).mp (by simp [hg])
    have hpp := C11_Ilp.child_placed_parents_placed h hwr hwp hc hr hp hplaced
    have hsome := (placed_iff h hwr hpt).mpr (by omega)
    cases hgp : (planOf I σ).get p with
    | none => simp [hgp] at hsome
    | some plp =>
      refine ⟨plp, rfl, ?_⟩
      have hps := placed_spec hwr hpt hgp
      have := C11_Ilp.start_after_parent h hc hr hp hps.1 hps.2.1 hps.2.2.1
      unfold finish
      rw [hpc.2.2.2.1, sval_var hr, hps.2.2.2.1]
      exact this
  capacity := by
    intro w hw r τ
    exact capacity_at_instant h hwr hwp hwc hw r τ

/-- **Objective = goodput** (goal `max_goodput`): a feasible point scores exactly the number of
graphs all of whose reward tasks are placed by the decoded plan. -/
theorem objective_eq_goodput {I : Inst} {σ : Var → Int} (h : sat σ (gen I)) (hwr : I.wfRunning = true)
    (hg : I.goalSlack = false) : objective σ (gen I) = (goodput I (planOf I σ) : Nat) := by
  unfold objective gen goodput
  simp only [Inst.obj, hg, Bool.false_eq_true, ↓reduceIte, QuadExpr.eval_ofLin, LinExpr.eval_sumL,
    List.map_map, Function.comp_def, LinExpr.eval_ofVar]
  rw [← isum_indicator_length]
  apply isum_map_eq
  intro gi hgi
  have hgi' := List.mem_range.mp hgi
  rw [((rows h).reward hg gi hgi').2]
  have key : (∀ a ∈ (I.rewardTasks (I.graphs.getD gi "")).map Var.treward, σ a = 1) ↔
      ((I.rewardTasks (I.graphs.getD gi "")).all (fun t => ((planOf I σ).get t).isSome)) = true := by
    simp only [List.forall_mem_map, List.all_eq_true]
    refine forall₂_congr fun t ht => ?_
    have := psum_le_one_all h hwr (mem_rewardTasks_lt ht)
    rw [((rows h).reward hg gi hgi').1 t ht, placed_iff h hwr (mem_rewardTasks_lt ht)]
    omega
  simp only [key]

/-- No feasible point scores more than the best valid plan: if `m` bounds the goodput of every
valid plan, it bounds the objective of every feasible point. -/
theorem objective_le_max_goodput {I : Inst} {σ : Var → Int} (h : sat σ (gen I)) (hwr : I.wfRunning = true)
    (hwp : I.wfParents = true) (hwc : I.wfChains = true) (hg : I.goalSlack = false) {m : Nat}
    (hm : ∀ plan, ValidPlan I plan → goodput I plan ≤ m) : objective σ (gen I) ≤ (m : Nat) := by
  rw [objective_eq_goodput h hwr hg]
  exact_mod_cast hm _ (ilp_sound h hwr hwp hwc)

/-- A relative-gap rule `(bound − value) / value ≤ 1 / k` with `bound ≥ opt` cannot stop an integer
objective short of an optimum `opt ≤ k`: one unit short already costs `k`. -/
theorem gap_exact_of_le {k v opt : Int} (hk : 0 ≤ k) (hle : v ≤ opt) (hopt : opt ≤ k)
    (hgap : k * (opt - v) ≤ v) : v = opt := by
  refine Classical.byContradiction fun hne => ?_
  have := Int.mul_le_mul_of_nonneg_left (show 1 ≤ opt - v by omega) hk
  omega

/-- **The stopping rule is exact on enumerable instances.** Gurobi stops when
`(bound − value) / value ≤ 0.1`; the bound is at least the optimum.  For integer objective
values with optimum `≤ 9` this forces `value = optimum`. -/
theorem gap_exact {v opt : Int} (_hv : 0 ≤ v) (hle : v ≤ opt) (h9 : opt ≤ 9)
    (hgap : 10 * (opt - v) ≤ v) : v = opt := gap_exact_of_le (by omega) hle (by omega) hgap

/-- The same holds up to an optimum of 10 … -/
theorem gap_exact_10 {v opt : Int} (_hv : 0 ≤ v) (hle : v ≤ opt) (h10 : opt ≤ 10)
    (hgap : 10 * (opt - v) ≤ v) : v = opt := gap_exact_of_le (by omega) hle h10 hgap

/-- … and 10 is sharp: with optimum 11 the rule may stop one graph short. -/
theorem gap_not_exact_at_eleven :
    ∃ v opt : Int, 0 ≤ v ∧ v ≤ opt ∧ opt ≤ 11 ∧ 10 * (opt - v) ≤ v ∧ v ≠ opt :=
  ⟨10, 11, by decide⟩

/-- The executable checker decides the specification (capacity at every instant follows from
capacity at the start instants). -/
theorem validPlanB_iff {I : Inst} {plan : Plan} (hwr : I.wfRunning = true) :
    validPlanB I plan = true ↔ ValidPlan I plan := IlpSpec.validPlanB_iff hwr

/-- With all deadlines enforced, the exhaustive search of the model
returns exactly the maximum goodput over the valid plans (and `none` iff no plan is valid).
This is the number the suite compares the real scheduler's goodput with. -/
theorem optGoodput_spec {I : Inst} (hwr : I.wfRunning = true)
    (henf : ∀ t, t < I.nT → I.running t = false → I.enforce t = true) (m : Nat) :
    optGoodput I = some m ↔
      (∃ plan, ValidPlan I plan ∧ goodput I plan = m) ∧ ∀ plan, ValidPlan I plan → goodput I plan ≤ m :=
  IlpSpec.optGoodput_spec hwr henf m

/-- No feasible point of the model scores more than the exhaustive optimum. -/
theorem objective_le_optGoodput {I : Inst} {σ : Var → Int} (h : sat σ (gen I)) (hwr : I.wfRunning = true)
    (hwp : I.wfParents = true) (hwc : I.wfChains = true) (hg : I.goalSlack = false)
    (henf : ∀ t, t < I.nT → I.running t = false → I.enforce t = true) :
    ∃ m, optGoodput I = some m ∧ objective σ (gen I) ≤ (m : Nat) := by
  obtain ⟨m, hm, hle⟩ := IlpSpec.optGoodput_dominates (ilp_sound h hwr hwp hwc) henf
  refine ⟨m, hm, ?_⟩
  rw [objective_eq_goodput h hwr hg]
  exact_mod_cast hle

theorem goodput_lt_of_unplaced {I : Inst} {plan : Plan} {gi t : Nat} (hgi : gi < I.graphs.length)
    (ht : t ∈ I.rewardTasks (I.graphs.getD gi "")) (hun : (plan.get t).isSome = false) :
    goodput I plan < I.graphs.length := by
  have := List.length_filter_lt_length_iff_exists (l := List.range I.graphs.length)
    (p := fun gi => (I.rewardTasks (I.graphs.getD gi "")).all fun t => (plan.get t).isSome)
  rw [List.length_range] at this
  exact this.mpr ⟨gi, List.mem_range.mpr hgi, fun hall => by simpa [hun] using List.all_eq_true.mp hall t ht⟩

/-! ### Completeness fails (finding C14-ILP-2): a hopeless task poisons the model -/

/-- NOT claimed: false of the current code (the three counterexamples below). -/
def ilp_complete_full (I : Inst) : Prop :=
  ∀ plan, ValidPlan I plan → ∃ σ, sat σ (gen I) ∧ objective σ (gen I) = (goodput I plan : Nat)

theorem not_complete_of_bound {I : Inst} {plan : Plan} (hv : ValidPlan I plan)
    (hb : ∀ σ, sat σ (gen I) → objective σ (gen I) < (goodput I plan : Nat)) : ¬ ilp_complete_full I :=
  fun hc => let ⟨σ, hs, ho⟩ := hc plan hv; absurd ho (Int.ne_of_lt (hb σ hs))

/-- Two independent released tasks at `now = 5` on a worker with 2 CPUs: `A` (runtime 3,
deadline 20) is easy, `B` (runtime 2, deadline 5) is hopeless. -/
def hopelessInst : Inst :=
  { now := 5
    workers := [⟨"W0", "P0", [("CPU", 2)]⟩]
    tasks := [⟨"A@G0", "A", 0, "G0", .released, 5, 20, [⟨1, 3, [("CPU", 1)]⟩], 0, 0⟩,
              ⟨"B@G1", "B", 0, "G1", .released, 5, 5, [⟨1, 2, [("CPU", 1)]⟩], 0, 0⟩]
    nOffered := 2
    nodes := [⟨"A@G0", "A", 0, "G0", .released⟩, ⟨"B@G1", "B", 0, "G1", .released⟩]
    edges := []
    enforceDeadlines := true, retract := false, releaseTaskgraphs := false, goalSlack := false
    allowed0 := [] }

/-- The model is infeasible: the deadline row of `B` binds its start variable although `B`
need not be placed. -/
theorem hopeless_infeasible : ∀ σ, ¬ sat σ (gen hopelessInst) := by
  intro σ h
  have h1 := C12_Ilp.deadline_row (I := hopelessInst) h (t := 1) (by decide) (by decide) (by decide)
  have h2 := start_lb (I := hopelessInst) h (t := 1) (by decide) (by decide)
  have h3 := dur_nonneg (I := hopelessInst) h (t := 1) (by decide)
  have e1 : hopelessInst.startLb 1 = 6 := by decide
  have e2 : (hopelessInst.task 1).deadline = 5 := by decide
  omega

/-- … so the real scheduler places nothing (`decodeFail`), goodput 0 … -/
example : decodeFail hopelessInst = [⟨0, none⟩, ⟨1, none⟩] := by decide

/-- … although placing `A` alone at 6 is a valid plan with goodput 1. -/
def hopelessPlan : Plan := [some ⟨0, 0, 6⟩, none]

theorem hopelessPlan_valid : ValidPlan hopelessInst hopelessPlan :=
  IlpSpec.validPlanB_sound (by decide) (by decide)

theorem hopelessPlan_goodput : goodput hopelessInst hopelessPlan = 1 := by decide

/-- **Counterexample to completeness** (finding C14-ILP-2, reproduced on the real code by the
suite): a valid plan with goodput 1 exists, yet the model has no feasible point at all. -/
theorem hopeless_counterexample : ¬ ilp_complete_full hopelessInst :=
  not_complete_of_bound hopelessPlan_valid fun σ hs => absurd hs (hopeless_infeasible σ)

/-! ### Completeness fails (finding C14-ILP-1): pairwise capacity rows -/

/-- Three independent released tasks at `now = 0` on one worker with 2 CPUs, each needing one
CPU, all with deadline 11: `A` runs 10 ticks, `B` and `C` run 2 ticks each. -/
def pairInst : Inst :=
  { now := 0
    workers := [⟨"W0", "P0", [("CPU", 2)]⟩]
    tasks := [⟨"A@G0", "A", 0, "G0", .released, 0, 11, [⟨1, 10, [("CPU", 1)]⟩], 0, 0⟩,
              ⟨"B@G1", "B", 0, "G1", .released, 0, 11, [⟨1, 2, [("CPU", 1)]⟩], 0, 0⟩,
              ⟨"C@G2", "C", 0, "G2", .released, 0, 11, [⟨1, 2, [("CPU", 1)]⟩], 0, 0⟩]
    nOffered := 3
    nodes := [⟨"A@G0", "A", 0, "G0", .released⟩, ⟨"B@G1", "B", 0, "G1", .released⟩, ⟨"C@G2", "C", 0, "G2", .released⟩]
    edges := []
    enforceDeadlines := true, retract := false, releaseTaskgraphs := false, goalSlack := false
    allowed0 := [] }

/-- `A` over `[1, 11]`, `B` over `[1, 3]`, then `C` over `[4, 6]`: never more than 2 CPUs. -/
def pairPlan : Plan := [some ⟨0, 0, 1⟩, some ⟨0, 0, 1⟩, some ⟨0, 0, 4⟩]

theorem pairInst_wf : pairInst.wf = true := by decide

/-- In the model, no feasible point places all three tasks: `A`'s row charges it with both
`B` and `C` because each of them overlaps `A`, although they do not overlap each other. -/
theorem pair_not_all_placed {σ : Var → Int} (h : sat σ (gen pairInst))
    (h0 : 1 ≤ psum pairInst σ 0) (h1 : 1 ≤ psum pairInst σ 1) (h2 : 1 ≤ psum pairInst σ 2) : False := by
  -- every task has the single key (0, 0)
  have nS : ∀ t, t < 3 → (pairInst.task t).nS = 1 := fun t ht => by
    have : t = 0 ∨ t = 1 ∨ t = 2 := by omega
    rcases this with rfl | rfl | rfl <;> rfl
  have pick : ∀ t, t < 3 → 1 ≤ psum pairInst σ t → xval pairInst σ t 0 0 = 1 := by
    intro t ht hp
    obtain ⟨w, s, hw, hs, hx⟩ := exists_pair_of_placed h (show t < pairInst.nT from ht) hp
    obtain rfl : w = 0 := by simp [Inst.nW, pairInst] at hw; omega
    have := nS t ht
    obtain rfl : s = 0 := by omega
    exact hx
  have x0 := pick 0 (by omega) h0
  have x1 := pick 1 (by omega) h1
  have x2 := pick 2 (by omega) h2
  have r : ∀ t, pairInst.running t = false := fun t => by
    unfold Inst.running TaskI.running Inst.task pairInst
    rcases t with _ | _ | _ | t <;> rfl
  -- deadline 11 and runtime 10 force `A` to start at 1; `B` and `C` start in `[1, 9]`
  have dA : σ (.start 0) + 10 ≤ 11 := C12_Ilp.placed_meets_deadline (I := pairInst) h (t := 0) (w := 0) (s := 0)
    (by decide) (by decide) (by decide) (r 0) (by decide) x0
  have lA : 1 ≤ σ (.start 0) := start_lb (I := pairInst) h (t := 0) (by decide) (r 0)
  have dB : σ (.start 1) + 2 ≤ 11 := C12_Ilp.placed_meets_deadline (I := pairInst) h (t := 1) (w := 0) (s := 0)
    (by decide) (by decide) (by decide) (r 1) (by decide) x1
  have lB : 1 ≤ σ (.start 1) := start_lb (I := pairInst) h (t := 1) (by decide) (r 1)
  have dC : σ (.start 2) + 2 ≤ 11 := C12_Ilp.placed_meets_deadline (I := pairInst) h (t := 2) (w := 0) (s := 0)
    (by decide) (by decide) (by decide) (r 2) (by decide) x2
  have lC : 1 ≤ σ (.start 2) := start_lb (I := pairInst) h (t := 2) (by decide) (r 2)
  -- so `B` and `C` both overlap `A`
  have actA : ∀ τ, 1 ≤ τ → τ ≤ 11 → active pairInst σ 0 0 τ := fun τ h1 h2 =>
    ⟨by decide, 0, by decide, x0, by rw [sval_var (r 0)]; omega,
      by rw [sval_var (r 0)]; show τ ≤ σ (.start 0) + 10; omega⟩
  have act : ∀ t, t < 3 → xval pairInst σ t 0 0 = 1 → active pairInst σ t 0 (σ (.start t)) := fun t ht hx =>
    ⟨by decide, 0, by have := nS t ht; omega, hx, by rw [sval_var (r t)]; omega,
      by rw [sval_var (r t)]; have := runtime_nonneg pairInst t 0
         omega⟩
  have oB := overlap_one h (by decide) (by decide) (by decide) (a := 0) (b := 1) (by decide) (by decide)
    (by decide) (actA _ (by omega) (by omega)) (act 1 (by omega) x1)
  have oC := overlap_one h (by decide) (by decide) (by decide) (a := 0) (b := 2) (by decide) (by decide)
    (by decide) (actA _ (by omega) (by omega)) (act 2 (by omega) x2)
  -- `A`'s CPU row charges all three: 1 + 1 + 1 ≤ 2
  have row := (rows h).resource 0 (by decide) 0 (by decide) (by decide) "CPU" (by decide)
  have q0 : ((1 : Nat) : Int) ≤ _ := qreq_le_dval (I := pairInst) h (t := 0) (w := 0) (s := 0) (by decide) (by decide) (by decide) x0 "CPU"
  have q1 : ((1 : Nat) : Int) ≤ _ := qreq_le_dval (I := pairInst) h (t := 1) (w := 0) (s := 0) (by decide) (by decide) (by decide) x1 "CPU"
  have q2 : ((1 : Nat) : Int) ≤ _ := qreq_le_dval (I := pairInst) h (t := 2) (w := 0) (s := 0) (by decide) (by decide) (by decide) x2 "CPU"
  have eo : pairInst.others 0 0 = [1, 2] := by decide
  have ecap : qty (pairInst.worker 0).res "CPU" = 2 := by decide
  rw [eo, ecap] at row
  simp only [List.map_cons, List.map_nil, isum_cons, isum_nil, oB, oC] at row
  omega

theorem pair_objective_le_two {σ : Var → Int} (h : sat σ (gen pairInst)) : objective σ (gen pairInst) ≤ 2 := by
  have hwr : pairInst.wfRunning = true := by decide
  rw [objective_eq_goodput h hwr (by decide)]
  -- some task is unplaced, so its (single-task) graph earns nothing
  have hex : ∃ t, t < 3 ∧ ((planOf pairInst σ).get t).isSome = false := Classical.byContradiction fun hno => by
    have hall : ∀ t, t < 3 → 1 ≤ psum pairInst σ t := fun t ht =>
      (placed_iff h hwr (show t < pairInst.nT from ht)).mp (by
        cases hc : ((planOf pairInst σ).get t).isSome with
        | true => rfl
        | false => exact absurd ⟨t, ht, hc⟩ hno)
    exact pair_not_all_placed h (hall 0 (by omega)) (hall 1 (by omega)) (hall 2 (by omega))
  obtain ⟨t, ht, hun⟩ := hex
  have hrt : t ∈ pairInst.rewardTasks (pairInst.graphs.getD t "") := by
    have : t = 0 ∨ t = 1 ∨ t = 2 := by omega
    rcases this with rfl | rfl | rfl <;> decide
  have := goodput_lt_of_unplaced (show t < pairInst.graphs.length from ht) hrt hun
  have : pairInst.graphs.length = 3 := rfl
  omega

theorem pairPlan_goodput : goodput pairInst pairPlan = 3 := by decide

theorem pairPlan_valid : ValidPlan pairInst pairPlan :=
  IlpSpec.validPlanB_sound (by decide) (by decide)

/-- **Counterexample to completeness** (finding C14-ILP-1, reproduced on the real code by the
suite): a valid plan finishes 3 graphs, no feasible point of the model scores more than 2. -/
theorem pairwise_counterexample : ¬ ilp_complete_full pairInst :=
  not_complete_of_bound pairPlan_valid fun σ hs => by
    have := pair_objective_le_two hs
    rw [pairPlan_goodput]; omega

/-! ### Completeness fails (finding C14-ILP-3): a join with a parent outside the call -/

/-- If some graph parent of `c` has no variables in this invocation, no feasible point places
`c`: `all_parents_placed = 1` needs `Σ placed parents with variables = number of ALL parents`. -/
theorem never_placed_of_missing_parent {I : Inst} {σ : Var → Int} (h : sat σ (gen I))
    (hwr : I.wfRunning = true) {c : Nat} (hc : c < I.nT) (hr : I.running c = false)
    (hne : (I.parentVars c).isEmpty = false) (hmiss : (I.parentVars c).length < I.nParents c) :
    psum I σ c = 0 := by
  refine Classical.byContradiction fun hp => ?_
  have := (placed_child_counts h hwr hc hr (by simpa using hne) hp).1
  omega

/-- Join `J` with parents `A` (released, offered) and `B` (COMPLETED, hence without variables);
`J` is offered ahead by the lookahead.  One worker with 2 CPUs. -/
def joinInst : Inst :=
  { now := 0
    workers := [⟨"W0", "P0", [("CPU", 2)]⟩]
    tasks := [⟨"A@G0", "A", 0, "G0", .released, 0, 7, [⟨1, 1, [("CPU", 1)]⟩], 0, 0⟩,
              ⟨"J@G0", "J", 0, "G0", .virtual, -1, 10, [⟨1, 2, [("CPU", 1)]⟩], 0, 0⟩]
    nOffered := 2
    nodes := [⟨"A@G0", "A", 0, "G0", .released⟩, ⟨"B@G0", "B", 0, "G0", .other⟩, ⟨"J@G0", "J", 0, "G0", .virtual⟩]
    edges := [("A@G0", "J@G0"), ("B@G0", "J@G0")]
    enforceDeadlines := true, retract := false, releaseTaskgraphs := false, goalSlack := false
    allowed0 := [] }

/-- `A` over `[1, 2]`, then `J` over `[3, 5]`. -/
def joinPlan : Plan := [some ⟨0, 0, 1⟩, some ⟨0, 0, 3⟩]

theorem joinInst_wf : joinInst.wf = true := by decide

theorem joinPlan_valid : ValidPlan joinInst joinPlan :=
  IlpSpec.validPlanB_sound (by decide) (by decide)

theorem joinPlan_goodput : goodput joinInst joinPlan = 1 := by decide

/-- Every feasible point scores 0 on `joinInst`: the reward task `J` can never be placed. -/
theorem join_objective_zero {σ : Var → Int} (h : sat σ (gen joinInst)) : objective σ (gen joinInst) = 0 := by
  have hwr : joinInst.wfRunning = true := by decide
  rw [objective_eq_goodput h hwr (by decide)]
  have hJ := never_placed_of_missing_parent (I := joinInst) h hwr (c := 1) (by decide) (by decide)
    (by decide) (by decide)
  have hun : ((planOf joinInst σ).get 1).isSome = false := by
    cases hs : ((planOf joinInst σ).get 1).isSome with
    | false => rfl
    | true => have := (placed_iff h hwr (t := 1) (by decide)).mp hs; omega
  have := goodput_lt_of_unplaced (I := joinInst) (gi := 0) (t := 1) (by decide) (by decide) hun
  have : joinInst.graphs.length = 1 := rfl
  have : goodput joinInst (planOf joinInst σ) = 0 := by omega
  simp [this]

/-- **Counterexample to completeness** (finding C14-ILP-3, reproduced on the real code by the
suite): the plan `A`, then `J` finishes the graph; no feasible point of the model scores 1. -/
theorem join_counterexample : ¬ ilp_complete_full joinInst :=
  not_complete_of_bound joinPlan_valid fun σ hs => by
    rw [join_objective_zero hs, joinPlan_goodput]; omega

open FullPlan in
/-- The full statement (false, see the three counterexamples above): every `ValidPlan` extends
to a feasible point with objective = goodput.  Proved instead: every full plan valid in the
*as-coded* reading (`FullPlan.ValidFull`: a start within the bounds and deadline row for every
task, placed or not; precedence rows; all-graph-parents rule; pairwise capacity rows with
`Overlap` = "closed intervals meet and not ancestor/descendant") extends to a feasible point of
`gen inst` — every auxiliary variable can be chosen consistently. -/
theorem ilp_complete_partial {I : Inst} {fp : FullPlan} (hv : ValidFull I fp)
    (hwr : I.wfRunning = true) (hwp : I.wfParents = true) : sat (sigmaOf I fp) (gen I) :=
  ⟨vars_ok hv, constrs_hold hv hwr hwp⟩

open FullPlan in
/-- … and that point scores the number of graphs whose reward tasks are placed by the plan. -/
theorem complete_objective {I : Inst} (fp : FullPlan) (hg : I.goalSlack = false) :
    objective (sigmaOf I fp) (gen I) =
      (((List.range I.graphs.length).filter (graphDone I fp)).length : Nat) := by
  unfold objective gen
  simp only [Inst.obj, hg, Bool.false_eq_true, ↓reduceIte, QuadExpr.eval_ofLin, LinExpr.eval_sumL,
    List.map_map, Function.comp_def, LinExpr.eval_ofVar]
  rw [← isum_indicator_length]
  apply isum_map_eq
  intro gi _
  rfl

open FullPlan in
/-- Hence no as-coded-valid full plan finishes more graphs than the best feasible point: if `m`
bounds the objective over feasible points, it bounds the as-coded goodput. -/
theorem complete_bound {I : Inst} {fp : FullPlan} (hv : ValidFull I fp) (hwr : I.wfRunning = true)
    (hwp : I.wfParents = true) (hg : I.goalSlack = false) {m : Int}
    (hm : ∀ σ, sat σ (gen I) → objective σ (gen I) ≤ m) :
    (((List.range I.graphs.length).filter (graphDone I fp)).length : Nat) ≤ m := by
  rw [← complete_objective fp hg]
  exact hm _ (ilp_complete_partial hv hwr hwp)

open FullPlan in
/-- Converse of `ilp_complete_partial`: every feasible point is a valid full plan in the
as-coded reading — so the feasible set of `gen inst` is *exactly* `ValidFull`. -/
theorem as_coded_sound {I : Inst} {σ : Var → Int} (h : sat σ (gen I)) (hwr : I.wfRunning = true)
    (hwp : I.wfParents = true) : ValidFull I (fpOf I σ) := validFull_of_sat h hwr hwp

open FullPlan in
/-- The as-coded goodput of the full plan read off a feasible point is its objective. -/
theorem as_coded_objective {I : Inst} {σ : Var → Int} (h : sat σ (gen I)) (hwr : I.wfRunning = true)
    (hg : I.goalSlack = false) :
    objective σ (gen I) = (((List.range I.graphs.length).filter (graphDone I (fpOf I σ))).length : Nat) := by
  rw [objective_eq_goodput h hwr hg]
  unfold goodput
  congr 2
  refine List.filter_congr fun gi _ => ?_
  rw [Bool.eq_iff_iff]
  simp only [graphDone, List.all_eq_true]
  refine forall₂_congr fun t ht => ?_
  rw [planOf_get (mem_rewardTasks_lt ht)]
  unfold placedB fpOf
  cases I.running t <;> simp

open FullPlan in
/-- **The model is exact for its as-coded reading**: the objective values attained by feasible
points are exactly the as-coded goodputs of valid full plans (`max objective = max as-coded
goodput`); the gap to `ValidPlan` is findings C14-ILP-1..3. -/
theorem as_coded_exact {I : Inst} (hwr : I.wfRunning = true) (hwp : I.wfParents = true)
    (hg : I.goalSlack = false) (m : Nat) :
    (∃ σ, sat σ (gen I) ∧ objective σ (gen I) = (m : Nat)) ↔
    (∃ fp, ValidFull I fp ∧ ((List.range I.graphs.length).filter (graphDone I fp)).length = m) := by
  constructor
  · rintro ⟨σ, hs, ho⟩
    refine ⟨fpOf I σ, as_coded_sound hs hwr hwp, ?_⟩
    rw [as_coded_objective hs hwr hg] at ho
    exact_mod_cast ho
  · rintro ⟨fp, hv, hm⟩
    refine ⟨sigmaOf I fp, ilp_complete_partial hv hwr hwp, ?_⟩
    rw [complete_objective fp hg, hm]

/-- Non-vacuity of `ilp_complete_partial`: the single-task instance of C12 with the slow
strategy started at 4 is a valid full plan. -/
def exFull : FullPlan := ⟨fun _ => 4, fun t => if t = 0 then some (0, 1) else none⟩

theorem exFull_valid : FullPlan.ValidFull C12_Ilp.exInst exFull := by
  have one : ∀ {t : Nat}, t < C12_Ilp.exInst.nT → t = 0 := fun h => Nat.lt_one_iff.mp h
  refine ⟨fun t w s ht _ hp => ?_, fun t ht _ => ?_, fun t ht _ _ => ?_, fun t ht _ hs => ?_,
    fun c p w s hc _ hp => ?_, fun c hc _ hne => ?_, fun t1 w r ht hw _ hr => ?_⟩
  · obtain rfl := one ht
    obtain ⟨rfl, rfl⟩ : 0 = w ∧ 1 = s := by simpa [exFull] using hp
    decide
  · obtain rfl := one ht; decide
  · obtain rfl := one ht; decide
  · obtain rfl := one ht; exact absurd hs (by decide)
  · obtain rfl := one hc
    have : C12_Ilp.exInst.parentVars 0 = [] := by decide
    simp [this] at hp
  · obtain rfl := one hc; exact absurd hne (by decide)
  · obtain rfl := one ht
    obtain rfl : w = 0 := Nat.lt_one_iff.mp hw
    obtain rfl : r = "CPU" := by simpa using (show r ∈ ["CPU"] from hr)
    decide

example : sat (FullPlan.sigmaOf C12_Ilp.exInst exFull) (gen C12_Ilp.exInst) :=
  ilp_complete_partial exFull_valid (by decide) (by decide)

/-! ### Non-vacuity of soundness -/

example : sat C11_Ilp.exSigma (gen C11_Ilp.exInst) := by decide
example : objective C11_Ilp.exSigma (gen C11_Ilp.exInst) = 2 := by decide
example : optGoodput hopelessInst = some 1 := by decide
example : goodput C11_Ilp.exInst (planOf C11_Ilp.exInst C11_Ilp.exSigma) = 2 := by decide

end ErdosVerif.C14_Ilp
