import ErdosVerif.Lemmas.SimQueueRun
import ErdosVerif.Lemmas.SimInv
import ErdosVerif.Props.C16
/-!
# C03 / C16 (run level) — events take effect in time order

C16 proves the heap theorems for the queue data structure in isolation, C03 that the clock
never moves backwards. Here both are connected over **whole runs** of the simulator model
(`Sim.simulate`; every world, decision tape, draw tape, number of iterations; normal or
aborted), via the invariant `Sim.QInv` (`Lemmas/SimQueue*.lean`, Hoare triples over every
handler, including the `editEvent` / `reheapify` and `removeEvent` paths):

* `queue_is_heap` — in every reachable state the event queue holds well-formed events (a
  task exactly for the six TASK_* types, `task_types_match_source`) in heap order w.r.t.
  `Event.__lt__`; hence (`popped_event_is_minimum`) the event `popEvent` hands to the
  dispatcher is the root and nothing queued is smaller;
* `pop_at_own_time` — every `.pop t _` entry of the history was appended when the clock
  (the last clock entry) was `t`: an event takes effect exactly at its time;
* `pops_nondecreasing_run` — the times of the popped events, in pop order, are
  non-decreasing, and none is later than the final clock;
* `step_then_pop` — the mechanism: after `step (head.time − now)` the popped event has the
  clock's time and nothing that stays queued is overdue.

**Finding (`end_event_in_the_past_counterexample`).** "Nothing is queued in the past" is
false: when a scheduler invocation finishes after the loop timeout,
`__get_next_scheduler_event` queues SIMULATOR_END at the timeout, i.e. before the clock, and
the next loop iteration raises `ValueError: Simulator cannot step backwards`
(`past_end_event_aborts_run`). The pop order is not affected (the event is never popped).
-/
namespace ErdosVerif.C03
open ErdosVerif.Model ErdosVerif.Model.Sim ErdosVerif.Model.Heap

theorem event_type_values_match_source :
    Gen.eventTypeTable = [("SIMULATOR_START", ET.simulatorStart), ("TASK_CANCEL", ET.taskCancel),
      ("EVICT_PROFILE", ET.evictProfile), ("TASK_FINISHED", ET.taskFinished),
      ("TASK_GRAPH_RELEASE", ET.taskGraphRelease), ("TASK_RELEASE", ET.taskRelease),
      ("UPDATE_WORKLOAD", ET.updateWorkload), ("TASK_PREEMPT", ET.taskPreempt), ("TASK_MIGRATION", ET.taskMigration),
      ("LOAD_PROFILE", ET.loadProfile), ("TASK_PLACEMENT", ET.taskPlacement), ("SCHEDULER_START", ET.schedulerStart),
      ("SCHEDULER_FINISHED", ET.schedulerFinished), ("SIMULATOR_END", ET.simulatorEnd),
      ("LOG_UTILIZATION", ET.logUtilization)] := by decide

/-- The types for which the model creates events with a task are the task-carrying types
of the source (`Event.__init__`), by value in the generated `EventType` table. -/
theorem task_types_match_source : ∀ v < 32, taskType v = C16.sourceHasTask v := by decide

/-- The clock entries used here are C03's. -/
theorem clk_eq_clockOf : clk = clockOf := by
  funext e; cases e <;> rfl

theorem queue_is_heap (s0 : SimS) (fuel : Nat) (h0 : QInv s0) :
    AllP SEvent.WF (simulate s0 fuel).2.queue ∧ HeapFrom SEvent.lt (simulate s0 fuel).2.queue 0 :=
  ⟨(simulate_qinv s0 fuel h0).wf, (simulate_qinv s0 fuel h0).heap⟩

theorem popped_event_is_minimum (s : SimS) (e : SEvent) (q : Array SEvent) (h : QInv s)
    (hp : heappop SEvent.lt s.queue = some (e, q)) :
    (∃ h0 : 0 < s.queue.size, e = s.queue[0]) ∧ (∀ y ∈ q, SEvent.lt y e = false) ∧
    (∀ y ∈ s.queue, SEvent.lt y e = false) ∧ QInv { s with queue := q } :=
  ⟨(pop_is_min s e q h hp).1, (pop_is_min s e q h hp).2.2.1, (pop_is_min s e q h hp).2.2.2, QInv.pop s e q h hp⟩

/-- **An event takes effect at its own time**: whenever the history of a run is
`pre ++ [.pop t ty] ++ post`, the clock after `pre` (its last clock entry, 0 if none) is `t`. -/
theorem pop_at_own_time (s0 : SimS) (fuel : Nat) (h0 : QInv s0) (pre post : List LogE) (t : Int) (ty : Nat)
    (hlog : (simulate s0 fuel).2.log.toList = pre ++ LogE.pop t ty :: post) : t = curClock pre :=
  (simulate_qinv s0 fuel h0).pops pre t ty post hlog

/-- **Pop times never decrease** along a run, and no event was popped later than the final
clock, which is the last clock entry of the history. -/
theorem pops_nondecreasing_run (s0 : SimS) (fuel : Nat) (h0 : QInv s0) :
    ((simulate s0 fuel).2.log.toList.filterMap popTime).Pairwise (· ≤ ·) ∧
    (∀ t ∈ (simulate s0 fuel).2.log.toList.filterMap popTime, t ≤ (simulate s0 fuel).2.now) ∧
    (simulate s0 fuel).2.now = curClock (simulate s0 fuel).2.log.toList :=
  ⟨(simulate_qinv s0 fuel h0).popsMono, (simulate_qinv s0 fuel h0).popsLe, (simulate_qinv s0 fuel h0).now⟩

/-- **The mechanism** (`simulate()`: `__step(peek().time − now)` then `next()`): from a state
satisfying the invariant, if the step succeeds, the event popped next has exactly the
clock's time, nothing that stays queued is overdue, and the invariant holds again. -/
theorem step_then_pop (s s1 : SimS) (head e : SEvent) (q : Array SEvent) (h : QInv s)
    (hh : s.queue[0]? = some head) (hs : StepOK s (head.ev.time - s.now) s1)
    (hp : heappop SEvent.lt s1.queue = some (e, q)) :
    s1.now = e.ev.time ∧ (∀ y ∈ q, s1.now ≤ y.ev.time) ∧ QInv { s1 with queue := q } :=
  ⟨hs.popped_due hh hp, nothing_overdue_at_pop s s1 head e q h hh hs hp, QInv.pop s1 e q (hs.qinv h) hp⟩

/-- Non-vacuity: the initial state of any world (empty queue, empty history, clock 0). -/
example : QInv { flags := { loopTimeout := 100 }, jobs := #[], allGraphs := #[], allMeta := #[],
                 pools := #[], poolNames := #[], tape := [], decisions := [] } :=
  qinv_initial _ rfl rfl rfl

/-- The state in which a SCHEDULER_FINISHED event is handled at time 50 (the scheduler ran
from 0 to 50) in a run with loop timeout 20. -/
def pastEndState : SimS :=
  { flags := { loopTimeout := 20 }, now := 50, jobs := #[], allGraphs := #[], allMeta := #[], pools := #[],
    poolNames := #[], tape := [], decisions := [], lastPlacements := some ⟨[], 50, none⟩, loaderReleased := true }

/-- **Counterexample to "nothing is queued in the past".** The event that
`handleSchedulerFinish` queues next (`__get_next_scheduler_event`) is SIMULATOR_END (type 13)
at the loop timeout 20, while the clock is 50. -/
theorem end_event_in_the_past_counterexample :
    let out := (ExceptT.run (nextSchedulerEvent 50)).run pastEndState
    out.1.toOption.map (fun e => (e.ev.etype, e.ev.time)) = some (ET.simulatorEnd, 20) ∧ out.2.now = 50 := by
  decide

def pastEndQueued : SimS :=
  { pastEndState with queue := #[{ ev := ⟨4, 20, ET.simulatorEnd, none⟩ }], log := #[.clock 50] }

/-- … and then the next loop iteration aborts the run: `__step` is asked to go back 30 µs and
raises ValueError; the event is never popped (the history is unchanged). The state satisfies
the queue invariant, so the invariant does not exclude it. -/
theorem past_end_event_aborts_run :
    QInv pastEndQueued ∧
    ((ExceptT.run iter).run pastEndQueued).1.toOption.isNone = true ∧
    (match ((ExceptT.run iter).run pastEndQueued).1 with | .error .valueError => true | _ => false) = true ∧
    ((ExceptT.run iter).run pastEndQueued).2.log.size = 1 := by
  refine ⟨⟨?_, ?_, by decide, ?_, by decide, by decide⟩, by decide, by decide, by decide⟩
  · rw [allP_iff_mem]
    intro x hx
    have : x = { ev := ⟨4, 20, ET.simulatorEnd, none⟩ } := by simpa [pastEndQueued] using hx
    subst this; rfl
  · intro j hj hj0; simp [pastEndQueued] at hj; omega
  · intro pre t ty post h
    have : pre ++ LogE.pop t ty :: post ≠ [LogE.clock 50] := by
      cases pre with
      | nil => simp
      | cons a pre => cases pre <;> simp
    exact absurd h.symm this

/-- Non-vacuity of the hypotheses of `popped_event_is_minimum`: the state above satisfies the
invariant and its queue can be popped. -/
example : QInv pastEndQueued ∧ ∃ e q, heappop SEvent.lt pastEndQueued.queue = some (e, q) :=
  ⟨past_end_event_aborts_run.1, _, _, rfl⟩

end ErdosVerif.C03
