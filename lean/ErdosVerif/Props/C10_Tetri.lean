/-
C10 (TetriSched clauses, both formulations): the decision `schedule()` returns, read off ANY
feasible point `σ` of the model (`decode I σ`), the all-unplaced answer when the solver finds
nothing (`decodeFail I`) or the answer without a model (`decodeNoModel I`), is complete,
feasible and side-effect free:

* exactly one decision per task: the cancellations of the CPLEX admission control followed by
  one decision per task with variables that is not RUNNING, in `tasks_to_variables` order
  (`one_decision_per_task`, `no_duplicate_decisions`);
* only for tasks of this invocation — offered, or SCHEDULED earlier and re-optimised in
  non-retracting mode — and never a placement for a RUNNING task (`only_known_never_running`);
* every offered task that is not RUNNING is answered (`answers_all_offered`, `fail_answers`);
  when no model is built, Gurobi was offered SCHEDULED tasks only and CPLEX cancelled every
  offered task (`nomodel_answers`);
* a placement names a worker of this invocation (hence its pool), a strategy of the task that
  this worker can hold, a time on the grid, `≥ now` and `≥` the known release
  (`placement_wellformed`);
* all placements together with the RUNNING tasks respect every worker's total quantity of every
  resource at every planned slot (`jointly_feasible`: this is what the per-slot rows say) and
  therefore at every instant `τ ≥ now` with half-open occupancy `[start, start + runtime)`
  (`capacity_at_instant`: all starts lie on the grid);
* `pure`: in the model `decode` is a function of the instance and the assignment and returns
  decisions only; the tie is the suite, which snapshots every live getter before and after the
  real call.
-/
import ErdosVerif.Lemmas.TetriSound
namespace ErdosVerif.C10_Tetri
open ErdosVerif.Mip ErdosVerif.Tetri ErdosVerif.TetriSpec

variable {I : Inst} {σ : Var → Int}

/-- Cancellations first, then one decision per non-RUNNING task with variables, in order. -/
theorem one_decision_per_task (I : Inst) (σ : Var → Int) :
    (decode I σ).map Decision.task = I.cancelled ++ I.nonRunning := by
  simp [decode, List.map_map, Function.comp_def]

theorem no_duplicate_decisions (I : Inst) (σ : Var → Int) :
    ((decode I σ).map Decision.task).Nodup := by
  rw [one_decision_per_task, List.nodup_append]
  refine ⟨List.Nodup.sublist List.filter_sublist List.nodup_range,
    List.Nodup.sublist List.filter_sublist (List.Nodup.sublist List.filter_sublist List.nodup_range), ?_⟩
  intro a ha b hb hab
  subst hab
  have h1 := (mem_cancelled.mp ha).2
  have h2 := (mem_nonRunning.mp hb).2.1
  simp [h1] at h2

/-- Decisions only for tasks of this invocation; a cancellation only for an offered task; a
placement / non-placement never for a RUNNING task. -/
theorem only_known_never_running {d : Decision} (hd : d ∈ decode I σ) (hwf : I.wf = true) :
    d.task < I.nT ∧ (d.out = .cancel → d.task < I.nOffered) ∧ (d.out ≠ .cancel → I.running d.task = false) := by
  have hoff := (wf_grid hwf).2.2.2
  rcases mem_decode.mp hd with ⟨t, ht, rfl⟩ | ⟨t, ht, rfl⟩
  · have := (mem_cancelled.mp ht).1
    exact ⟨by simp only; omega, fun _ => this, fun h => absurd rfl h⟩
  · obtain ⟨h1, _, h3⟩ := mem_nonRunning.mp ht
    simp only [decodeTask_task]
    exact ⟨h1, fun h => absurd h (decodeTask_ne_cancel I σ t), fun _ => h3⟩

theorem answers_all_offered (σ : Var → Int) (hwf : I.wf = true) {t : Nat} (ht : t < I.nOffered)
    (hr : I.running t = false) : ∃ d ∈ decode I σ, d.task = t := by
  have hoff := (wf_grid hwf).2.2.2
  by_cases ha : I.active t = true
  · exact ⟨I.decodeTask σ t, mem_decode.mpr (Or.inr ⟨t, mem_nonRunning.mpr ⟨by omega, ha, hr⟩, rfl⟩), by simp⟩
  · exact ⟨⟨t, .cancel⟩, mem_decode.mpr (Or.inl ⟨t, mem_cancelled.mpr ⟨ht, by simpa using ha⟩, rfl⟩), rfl⟩

/-- When the solver finds no solution every offered task is still answered (cancelled or
"not placed"). -/
theorem fail_answers {t : Nat} (ht : t < I.nOffered) : ∃ d ∈ decodeFail I, d.task = t := by
  by_cases ha : I.active t = true
  · refine ⟨⟨t, .unplaced⟩, ?_, rfl⟩
    simp only [decodeFail, List.mem_append, List.mem_map]
    exact Or.inr ⟨t, mem_offeredAct.mpr ⟨ht, ha⟩, rfl⟩
  · refine ⟨⟨t, .cancel⟩, ?_, rfl⟩
    simp only [decodeFail, List.mem_append, List.mem_map]
    exact Or.inl ⟨t, mem_cancelled.mpr ⟨ht, by simpa using ha⟩, rfl⟩

/-- Without a model: the Gurobi scheduler was offered nothing but SCHEDULED tasks (which keep
their placement), the CPLEX scheduler has cancelled every offered task. -/
theorem nomodel_answers (hm : I.noModel = true) {t : Nat} (ht : t < I.nOffered) :
    (I.cplex = false ∧ (I.task t).state = .scheduled) ∨
    (I.cplex = true ∧ (⟨t, .cancel⟩ : Decision) ∈ decodeNoModel I) := by
  unfold Inst.noModel at hm
  split at hm
  · next hc =>
    right
    refine ⟨hc, ?_⟩
    have hemp : I.offeredAct = [] := by simpa using hm
    have hna : I.active t = false := by
      cases ha : I.active t with
      | false => rfl
      | true =>
        have : t ∈ I.offeredAct := mem_offeredAct.mpr ⟨ht, ha⟩
        rw [hemp] at this; simp at this
    simp only [decodeNoModel, List.mem_map]
    exact ⟨t, mem_cancelled.mpr ⟨ht, hna⟩, rfl⟩
  · next hc =>
    left
    refine ⟨by simpa using hc, ?_⟩
    simp only [Bool.or_eq_true, beq_iff_eq, List.all_eq_true, List.mem_range] at hm
    rcases hm with h0 | hall
    · omega
    · exact hall t ht

/-- A placement names an existing worker, a strategy of the task that fits the worker, and a grid
time not before `now` nor before the known release. -/
theorem placement_wellformed {d : Decision} (hd : d ∈ decode I σ) {w s : Nat} {time : Int}
    (hp : d.out = .placed w s time) :
    w < I.nW ∧ s < (I.task d.task).nS ∧
    compatible (I.worker w) ((I.task d.task).strat s) = true ∧
    I.now ≤ time ∧ (I.task d.task).release ≤ time ∧ ∃ k, k < I.nSlots ∧ time = I.slot k := by
  rcases mem_decode.mp hd with ⟨t, _, rfl⟩ | ⟨t, _, rfl⟩
  · simp at hp
  · obtain ⟨k, hc, rfl⟩ := decodeTask_placed hp
    obtain ⟨hk, hv, _⟩ := chosen_spec hc
    obtain ⟨h1, h2, h3⟩ := mem_keys.mp hk
    obtain ⟨_, hcomp, hrel, _⟩ := hasVar_spec hv
    simp only [decodeTask_task]
    exact ⟨h1, h3, hcomp, slot_ge_now I k, hrel, k, h2, rfl⟩

/-- **Joint feasibility at every planned slot**: the decoded plan plus the RUNNING tasks never
exceed any worker's total quantity of any resource. -/
theorem jointly_feasible (h : sat σ (gen I)) (hwf : I.wf = true) (hm : I.noModel = false)
    {w : Nat} (hw : w < I.nW) {k : Nat} (hk : k < I.nSlots) (r : String) :
    load I (planOf I σ) w k r ≤ qty (I.worker w).res r :=
  capacity_at_slot h hwf hm hw hk r

/-- A task occupying the instant `τ` occupies the last grid slot at or before `τ`. -/
theorem demandInstant_le {plan : Plan} (hv : ValidPlan I plan) (hwf : I.wf = true) (hm : I.noModel = false)
    {w : Nat} {τ : Int} (r : String) {t : Nat} (ht : t ∈ I.act) :
    demandInstant I plan w τ r t ≤ demandAt I plan w (min ((τ - I.now).toNat / I.disc) (I.nSlots - 1)) r t := by
  unfold demandInstant demandAt
  cases hp : plan.get t with
  | none => simp
  | some c =>
    simp only
    split
    · next hc =>
      have hd := (wf_grid hwf).1
      have hkc : c.2.1 < I.nSlots := by
        cases hr : I.running t with
        | true =>
          have := (hv.running t (mem_act.mp ht).1 (mem_act.mp ht).2 hr).symm.trans hp
          exact Option.some.inj this ▸ (mem_keys.mp (running_key hwf ht hr hm)).2.1
        | false => exact (hv.wf t c (mem_act.mp ht).1 hr hp).2.1
      have hcov : I.covers t c.2.1 c.2.2 (min ((τ - I.now).toNat / I.disc) (I.nSlots - 1)) = true := by
        obtain ⟨_, h1, h2⟩ := hc
        simp only [Inst.slot] at h1 h2
        simp only [Inst.covers, Bool.and_eq_true, decide_eq_true_eq]
        have hn : ((τ - I.now).toNat : Int) = τ - I.now := Int.toNat_of_nonneg (by omega)
        have hdiv : c.2.1 ≤ (τ - I.now).toNat / I.disc := (Nat.le_div_iff_mul_le (by omega)).mpr (by omega)
        have hmul : (τ - I.now).toNat / I.disc * I.disc ≤ (τ - I.now).toNat := Nat.div_mul_le_self _ _
        have := Nat.mul_le_mul_right I.disc (Nat.min_le_left ((τ - I.now).toNat / I.disc) (I.nSlots - 1))
        exact ⟨by omega, by omega⟩
      simp [hc.1, hcov]
    · omega

/-- **Capacity at every instant** `τ ≥ now` (half-open occupancy `[start, start + runtime)`), for
any valid plan of the specification — in particular for the plan decoded from a feasible point. -/
theorem capacity_at_instant_of_valid {plan : Plan} (hv : ValidPlan I plan) (hwf : I.wf = true)
    (hm : I.noModel = false) {w : Nat} (hw : w < I.nW) {τ : Int} (hτ : I.now ≤ τ) (r : String) :
    loadInstant I plan w τ r ≤ qty (I.worker w).res r := by
  have hk : min ((τ - I.now).toNat / I.disc) (I.nSlots - 1) < I.nSlots := by
    have := Nat.min_le_right ((τ - I.now).toNat / I.disc) (I.nSlots - 1)
    have := (wf_grid hwf).2.2.1 hm
    omega
  exact Nat.le_trans (nsum_map_le _ _ _ (fun t ht => demandInstant_le hv hwf hm r ht))
    (hv.capacity w hw _ hk r)

theorem capacity_at_instant (h : sat σ (gen I)) (hwf : I.wf = true) (hm : I.noModel = false)
    {w : Nat} (hw : w < I.nW) {τ : Int} (hτ : I.now ≤ τ) (r : String) :
    loadInstant I (planOf I σ) w τ r ≤ qty (I.worker w).res r :=
  capacity_at_instant_of_valid (tetri_sound h hwf hm) hwf hm hw hτ r

/-- The decision is a function of the instance and the assignment only (`pure` clause, model
side): equal inputs give equal decisions. -/
theorem plan_is_decision (I : Inst) (σ τ : Var → Int) (h : ∀ v, σ v = τ v) : decode I σ = decode I τ := by
  have : σ = τ := funext h
  rw [this]

/-! ### Non-vacuity (CPLEX formulation; the Gurobi one is exercised in C11_Tetri / C12_Tetri) -/

/-- One worker (CPU 2), a RUNNING task (1 CPU, runtime 3) and two offered 1-CPU tasks, three
slots of width 2. -/
def exInst : Inst :=
  { cplex := true, now := 1, disc := 2, planAheadOpt := 4
    workers := [⟨"W0", "P0", [("CPU", 2)]⟩]
    tasks := [⟨"A@G0", "A", 0, "G0", .released, 0, 9, [⟨2, [("CPU", 1)]⟩], 0, 0, 0⟩,
              ⟨"B@G1", "B", 0, "G1", .released, 0, 9, [⟨2, [("CPU", 1)]⟩], 0, 0, 0⟩,
              ⟨"R@G2", "R", 0, "G2", .running, 0, 9, [⟨3, [("CPU", 1)]⟩], 0, 0, 2⟩]
    nOffered := 2
    nodes := [⟨"A@G0", "A", 0, "G0"⟩, ⟨"B@G1", "B", 0, "G1"⟩, ⟨"R@G2", "R", 0, "G2"⟩]
    edges := []
    enforceDeadlines := true, retract := false, releaseTaskgraphs := false }

/-- `A` next to the RUNNING task at slot 0, `B` at slot 1 (time 3) — the RUNNING task is booked
for `[1, 4)`, so at slot 1 (time 3) it still holds a CPU. -/
def exSigma : Var → Int
  | .cell 0 0 0 0 => 1
  | .cell 1 0 1 0 => 1
  | .isPlaced _ => 1
  | .reward 0 => 8
  | .reward 1 => 6
  | _ => 0

example : exInst.wf = true ∧ exInst.noModel = false ∧ exInst.den = 4 := by decide
example : sat exSigma (gen exInst) := by decide
example : decode exInst exSigma = [⟨0, .placed 0 0 1⟩, ⟨1, .placed 0 0 3⟩] := by decide
example : load exInst (planOf exInst exSigma) 0 0 "CPU" = 2 ∧ load exInst (planOf exInst exSigma) 0 1 "CPU" = 2 := by
  decide
/-- Both offered tasks at slot 0 would need 3 CPUs: not a feasible point. -/
example : ¬ sat (fun v => match v with
    | .cell 1 0 1 0 => 0 | .cell 1 0 0 0 => 1 | .reward 1 => 8 | v => exSigma v) (gen exInst) := by decide

end ErdosVerif.C10_Tetri
