/-
C11 (ILP clause): for EVERY feasible point `σ` of the optimisation model that the ILP
scheduler builds (not only the optimum Gurobi happens to return), a task is placed only if
every predecessor that has variables in this invocation is placed, and it starts no earlier
than `parent start + runtime(chosen strategy of the parent) + 1`; for a RUNNING predecessor
no earlier than `now + runtime(strategy it runs with) + 1` (which is at least its expected
finish `now + remaining`, as `remaining ≤ runtime`).  A predecessor that is SCHEDULED in
non-retracting mode is re-optimised by the same model, has variables, and is covered by the
general clause with its *new* start.

"Placed" for a task with variables means `Σ x = 1`; a RUNNING task counts as placed.
-/
import ErdosVerif.Lemmas.IlpDecode
namespace ErdosVerif.C11_Ilp
open ErdosVerif.Mip ErdosVerif.Ilp

/-- **C11 (a), model level.** In every feasible point: if the child is placed, every parent
that has variables in this invocation is placed. -/
theorem child_placed_parents_placed {I : Inst} {σ : Var → Int} (h : sat σ (gen I))
    (hwr : I.wfRunning = true) (hwp : I.wfParents = true)
    {c p : Nat} (hc : c < I.nT) (hr : I.running c = false) (hp : p ∈ I.parentVars c)
    (hplaced : 1 ≤ psum I σ c) : psum I σ p = 1 :=
  (placed_child_counts h hwr hc hr (List.ne_nil_of_mem hp) (by omega)).2 (wfParents_spec hwp hc) p hp

/-- **C11 (b), model level.** In every feasible point the child's start is at least the
parent's start plus the runtime of the strategy selected for the parent plus one, for every
parent with variables (for a RUNNING parent: its constants, see `after_running_parent`). -/
theorem start_after_parent {I : Inst} {σ : Var → Int} (h : sat σ (gen I))
    {c p w s : Nat} (hc : c < I.nT) (hr : I.running c = false) (hp : p ∈ I.parentVars c)
    (hw : w < I.nW) (hs : s < (I.task p).nS) (hx : xval I σ p w s = 1) :
    sval I σ p + I.runtime p s + 1 ≤ σ (.start c) := by
  have := start_after_row h hc hr hp hw hs
  rw [hx] at this
  omega

/-- Even when the parent is *not* placed the child's start variable is not before the
parent's (the `x = 0` rows): kept because the phantom start of an unplaced task matters for
feasibility (see C14 findings). -/
theorem start_not_before_parent_var {I : Inst} {σ : Var → Int} (h : sat σ (gen I))
    {c p : Nat} (hc : c < I.nT) (hr : I.running c = false) (hp : p ∈ I.parentVars c)
    (hw : 0 < I.nW) (hs : 0 < (I.task p).nS) (hpt : p < I.nT) :
    sval I σ p ≤ σ (.start c) := by
  have := start_after_row h hc hr hp hw hs
  have e : (0 : Int) ≤ I.runtime p 0 + 1 := by have := runtime_nonneg I p 0; omega
  have := Int.mul_nonneg e (xval_nonneg h hpt hw hs)
  omega

/-- **C11, RUNNING parent.** The child starts after `now + runtime + 1` of the strategy the
parent is running with. -/
theorem after_running_parent {I : Inst} {σ : Var → Int} (h : sat σ (gen I)) (hwr : I.wfRunning = true)
    {c p : Nat} (hc : c < I.nT) (hr : I.running c = false) (hp : p ∈ I.parentVars c)
    (hrp : I.running p = true) :
    I.now + I.runtime p (I.task p).prevS + 1 ≤ σ (.start c) := by
  have hwf := wfRunning_spec hwr (mem_parentVars.mp hp).1 hrp
  have := start_after_parent h hc hr hp hwf.1 hwf.2 (by simp [xval_running hrp])
  rwa [sval_running hrp] at this

/-- **C11, decision level.** For the placements `schedule()` returns (decoded from any feasible
point): a placed child whose parent is also decided in this call has that parent placed, and
starts at least `runtime(chosen) + 1` after the parent's reported start. -/
theorem decisions_ordered {I : Inst} {σ : Var → Int} (h : sat σ (gen I))
    (hwr : I.wfRunning = true) (hwp : I.wfParents = true)
    {c p wc sc : Nat} {tc : Int} (hc : c < I.nT) (hr : I.running c = false)
    (hp : p ∈ I.parentVars c) (hrp : I.running p = false)
    (hdc : (I.decodeTask σ c).placed = some (wc, sc, tc)) :
    ∃ wp sp tp, (I.decodeTask σ p).placed = some (wp, sp, tp) ∧ tp + I.runtime p sp + 1 ≤ tc := by
  obtain ⟨hcc, rfl⟩ := decodeTask_placed hdc
  have hpt := (mem_parentVars.mp hp).1
  -- the child is placed, so the parent is, and the scan finds its pair
  have hpp := child_placed_parents_placed h hwr hwp hc hr hp ((chosen_isSome_iff h hc hr).mp (by simp [hcc]))
  obtain ⟨⟨wp, sp⟩, hch⟩ := Option.isSome_iff_exists.mp ((chosen_isSome_iff h hpt hrp).mpr (by omega))
  have := start_after_parent h hc hr hp (chosen_spec hch).1 (chosen_spec hch).2.1 (chosen_xval hch)
  rw [sval_var hrp] at this
  exact ⟨wp, sp, σ (.start p), by simp [Inst.decodeTask, hch], this⟩

/-- Chain A → B on one worker, both released to the scheduler (B by lookahead), plus a RUNNING
task R whose child C is offered as well. -/
def exInst : Inst :=
  { now := 10
    workers := [⟨"W0", "P0", [("CPU", 4)]⟩]
    tasks := [⟨"A@G0", "A", 0, "G0", .released, 10, 40, [⟨1, 3, [("CPU", 1)]⟩, ⟨1, 5, [("CPU", 1)]⟩], 0, 0⟩,
              ⟨"B@G0", "B", 0, "G0", .virtual, -1, 40, [⟨1, 2, [("CPU", 1)]⟩], 0, 0⟩,
              ⟨"C@G1", "C", 0, "G1", .virtual, -1, 40, [⟨1, 2, [("CPU", 1)]⟩], 0, 0⟩,
              ⟨"R@G1", "R", 0, "G1", .running, 5, 40, [⟨1, 6, [("CPU", 1)]⟩], 0, 0⟩]
    nOffered := 3
    nodes := [⟨"A@G0", "A", 0, "G0", .released⟩, ⟨"B@G0", "B", 0, "G0", .virtual⟩, ⟨"R@G1", "R", 0, "G1", .running⟩, ⟨"C@G1", "C", 0, "G1", .virtual⟩]
    edges := [("A@G0", "B@G0"), ("R@G1", "C@G1")]
    enforceDeadlines := true, retract := false, releaseTaskgraphs := false, goalSlack := false
    allowed0 := [] }

/-- A at 11 with the slow strategy (runtime 5), B at 17 = 11 + 5 + 1, C at 17 = 10 + 6 + 1. -/
def exSigma : Var → Int
  | .start 0 => 11 | .x 0 0 1 => 1
  | .start 1 => 17 | .x 1 0 0 => 1
  | .start 2 => 17 | .x 2 0 0 => 1
  | .allParents 1 => 1 | .allParents 2 => 1
  | .overlap 0 2 => 0 | .overlap 2 0 => 0 | .overlap 0 3 => 1 | .overlap 3 0 => 1
  | .overlap 1 2 => 1 | .overlap 2 1 => 1
  | .after 2 0 => 1 | .before 0 2 => 1
  | .after 1 3 => 1 | .before 3 1 => 1
  | .greward 0 => 1 | .greward 1 => 1 | .treward 1 => 1 | .treward 2 => 1
  | _ => 0

example : exInst.wf = true := by decide
example : exInst.parentVars 1 = [0] ∧ exInst.parentVars 2 = [3] := by decide
/-- The hypotheses of the theorems are met by a non-trivial feasible point … -/
example : sat exSigma (gen exInst) := by decide
example : decode exInst exSigma =
    [⟨0, some (0, 1, 11)⟩, ⟨1, some (0, 0, 17)⟩, ⟨2, some (0, 0, 17)⟩] := by decide
/-- … the bounds are tight: starting B one tick earlier is infeasible … -/
example : ¬ sat (fun v => if v = .start 1 then 16 else exSigma v) (gen exInst) := by decide
/-- … and so is starting C (child of the RUNNING task) at `now + runtime`. -/
example : ¬ sat (fun v => if v = .start 2 then 16 else exSigma v) (gen exInst) := by decide

end ErdosVerif.C11_Ilp
