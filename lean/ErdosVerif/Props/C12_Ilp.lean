/-
C12 (ILP clause): with `enforce_deadlines`, in task-by-task mode (no
`release_taskgraphs`, where enforcement is unconditional), for EVERY feasible point
`σ` of the optimisation model the ILP scheduler builds:

* a placed task has `start + runtime(chosen strategy) ≤ deadline`;
* a task that cannot finish by its deadline even with its fastest strategy starting at
  the earliest start the model allows (`max(now+1, release)`, hence in particular a task
  with `deadline < now + fastest`) is placed by no feasible point: it is left unplaced.

Both are stated over `decode` (what `schedule()` returns) as well.
-/
import ErdosVerif.Lemmas.IlpDecode
namespace ErdosVerif.C12_Ilp
open ErdosVerif.Mip ErdosVerif.Ilp

/-- Task-by-task mode with enforcement: every task's deadline row is emitted. -/
theorem enforce_unconditional (I : Inst) (he : I.enforceDeadlines = true)
    (hm : I.releaseTaskgraphs = false) (t : Nat) : I.enforce t = true := by
  simp [Inst.enforce, he, hm]

theorem deadline_row {I : Inst} {σ : Var → Int} (h : sat σ (gen I)) {t : Nat} (ht : t < I.nT)
    (hr : I.running t = false) (he : I.enforce t = true) :
    σ (.start t) + dur I σ t ≤ (I.task t).deadline := by
  have := (rows h).deadline t (mem_nonRunning.mpr ⟨ht, hr⟩) he
  rwa [sval_var hr] at this

/-- **C12, model level.** In every feasible point, a (worker, strategy) pair selected for a
task whose deadline is enforced finishes by the deadline. -/
theorem placed_meets_deadline {I : Inst} {σ : Var → Int} (h : sat σ (gen I)) {t w s : Nat}
    (ht : t < I.nT) (hw : w < I.nW) (hs : s < (I.task t).nS) (hr : I.running t = false)
    (he : I.enforce t = true) (hx : xval I σ t w s = 1) :
    σ (.start t) + I.runtime t s ≤ (I.task t).deadline := by
  have h1 := deadline_row h ht hr he
  have h2 := runtime_le_dur h ht hw hs hx
  omega

/-- **C12, decision level.** Every placement returned by `schedule()` (decoded from any
feasible point) for a task with an enforced deadline completes by that deadline. -/
theorem decision_meets_deadline {I : Inst} {σ : Var → Int} (h : sat σ (gen I))
    (he : I.enforceDeadlines = true) (hm : I.releaseTaskgraphs = false)
    {d : Decision} (hd : d ∈ decode I σ) {w s : Nat} {time : Int}
    (hp : d.placed = some (w, s, time)) :
    time + I.runtime d.task s ≤ (I.task d.task).deadline := by
  obtain ⟨t, ht, hr, rfl⟩ := mem_decode.mp hd
  obtain ⟨hc, rfl⟩ := decodeTask_placed hp
  have hsp := chosen_spec hc
  exact placed_meets_deadline h ht hsp.1 hsp.2.1 hr (enforce_unconditional I he hm t) (chosen_xval hc)

def fastestLB (I : Inst) (t : Nat) (f : Int) : Prop := ∀ s, s < (I.task t).nS → f ≤ I.runtime t s

/-- **C12, hopeless tasks.** If even the fastest strategy started at the earliest start the
model allows misses the deadline, no feasible point selects any pair for the task. -/
theorem hopeless_unplaced {I : Inst} {σ : Var → Int} (h : sat σ (gen I)) {t : Nat} (ht : t < I.nT)
    (hr : I.running t = false) (he : I.enforce t = true) {f : Int} (hf : fastestLB I t f)
    (hopeless : (I.task t).deadline < I.startLb t + f) {w s : Nat} (hw : w < I.nW)
    (hs : s < (I.task t).nS) : xval I σ t w s = 0 := by
  rcases xval_binary h ht hw hs with h0 | h1
  · exact h0
  · have h2 := placed_meets_deadline h ht hw hs hr he h1
    have h3 := start_lb h ht hr
    have h4 := hf s hs
    omega

/-- **C12, decision level, hopeless tasks.** Such a task is reported unplaced. -/
theorem hopeless_decision_unplaced {I : Inst} {σ : Var → Int} (h : sat σ (gen I))
    (he : I.enforceDeadlines = true) (hm : I.releaseTaskgraphs = false)
    {t : Nat} (ht : t < I.nT) (hr : I.running t = false) {f : Int} (hf : fastestLB I t f)
    (hopeless : (I.task t).deadline < I.now + f) :
    (I.decodeTask σ t).placed = none := by
  cases hp : (I.decodeTask σ t).placed with
  | none => rfl
  | some p =>
    obtain ⟨w, s, time⟩ := p
    obtain ⟨hc, _⟩ := decodeTask_placed hp
    have hsp := chosen_spec hc
    -- the property's wording `deadline < now + fastest` is hopeless from the earliest start as well
    have hlb : I.now + 1 ≤ I.startLb t := by simp [Inst.startLb]; omega
    have h0 := hopeless_unplaced h ht hr (enforce_unconditional I he hm t) hf (by omega) hsp.1 hsp.2.1
    have h1 := chosen_xval hc
    omega

/-! ### Non-vacuity: a concrete instance and a feasible point -/

/-- One worker (CPU 2), one released task (runtime 3 or 5, deadline 9), now = 2. -/
def exInst : Inst :=
  { now := 2
    workers := [⟨"W0", "P0", [("CPU", 2)]⟩]
    tasks := [⟨"T0@G0", "T0", 0, "G0", .released, 1, 9,
               [⟨1, 3, [("CPU", 1)]⟩, ⟨1, 5, [("CPU", 2)]⟩], 0, 0⟩]
    nOffered := 1
    nodes := [⟨"T0@G0", "T0", 0, "G0", .released⟩]
    edges := []
    enforceDeadlines := true, retract := false, releaseTaskgraphs := false, goalSlack := false
    allowed0 := [] }

/-- Start at 4 with the slow strategy (finishes exactly at the deadline 9). -/
def exSigma : Var → Int
  | .start 0 => 4
  | .x 0 0 1 => 1
  | .greward 0 => 1
  | .treward 0 => 1
  | _ => 0

example : sat exSigma (gen exInst) := by decide
example : (decode exInst exSigma) = [⟨0, some (0, 1, 4)⟩] := by decide
/-- The boundary `start + runtime = deadline` is allowed … -/
example : (4 : Int) + exInst.runtime 0 1 = (exInst.task 0).deadline := by decide
/-- … and one tick later is not feasible. -/
example : ¬ sat (fun v => if v = .start 0 then 5 else exSigma v) (gen exInst) := by decide

end ErdosVerif.C12_Ilp
