import ErdosVerif.Lemmas.SimStatesRun
import ErdosVerif.Lemmas.SimCensus
/-!
# C08 (run level) — the counters against the final task states

For whole runs of the simulator model (every world, decision tape, draw tape, number of
iterations), from the Hoare triples over every handler (`Lemmas/SimWalk.lean`) and what each
step of a handler does to the tally (`Lemmas/SimStates*.lean`):

* `finished_counter_is_done_tasks` — in **every** reachable state (also of an aborted run)
  `finishedTasks` is the number of tasks of the workload that are done
  (`Task.is_complete()`: COMPLETED or EVICTED). Counting tasks by state, no task can be
  counted twice; together with `C08.counters_match_trace` this is also the number of
  TASK_FINISHED rows and of `.finish` history entries (`finished_four_ways`).
* `cancel_entries_are_cancelled_tasks` — at the normal end of a run the number of
  CANCELLED tasks is exactly the number of `.cancel` history entries (one per task reported
  by `TaskGraph.cancel` / `notify_task_completion`, each of which also creates one
  TASK_CANCEL event); in an aborted run there may be more CANCELLED tasks than entries
  (`cancel_entries_le_cancelled_tasks`).
* `cancelledTasks` (= number of TASK_CANCEL rows, `C08.counters_match_trace`) counts the
  TASK_CANCEL events that were *handled*; it lags behind the CANCELLED tasks while such an
  event is still pending: `cancelled_counter_lags_counterexample`.

PARTIAL. COMPLETED is not separated from EVICTED here: that `finish()` is only called
on a task whose remaining time is 0 needs an invariant tying queued TASK_FINISHED events to
RUNNING tasks (not proved here). `cancelledTasks` against the `.cancel` entries is
`Props/C08_Cancel.lean`.
-/
namespace ErdosVerif.C08
open ErdosVerif.Model ErdosVerif.Model.Sim

def tasksWhere (p : TaskS → Bool) (s : SimS) : Nat := totalCnt p s.graphs

theorem finished_counter_is_done_tasks (s0 : SimS) (fuel : Nat) (h0 : Tally s0) :
    (simulate s0 fuel).2.finishedTasks = tasksWhere (fun t => t.isComplete) (simulate s0 fuel).2 :=
  (simulate_tally s0 fuel h0).1.done

theorem finished_four_ways (s0 : SimS) (fuel : Nat) (h0 : Tally s0) (hc : Census s0)
    (hend : (simulate s0 fuel).1 = none) :
    let s := (simulate s0 fuel).2
    s.finishedTasks = countRows "TASK_FINISHED" s.rows.toList ∧
    s.finishedTasks = s.log.toList.countP isFinishLog ∧
    s.finishedTasks = tasksWhere (fun t => t.isComplete) s :=
  ⟨((simulate_census s0 fuel hc).2 hend).1.fin, ((simulate_census s0 fuel hc).2 hend).1.finLog,
   (simulate_tally s0 fuel h0).1.done⟩

theorem cancel_entries_are_cancelled_tasks (s0 : SimS) (fuel : Nat) (h0 : Tally s0)
    (hend : (simulate s0 fuel).1 = none) :
    (simulate s0 fuel).2.log.toList.countP isCancelLog =
      tasksWhere (fun t => t.state == .cancelled) (simulate s0 fuel).2 :=
  ((simulate_tally s0 fuel h0).2 hend).canc

theorem cancel_entries_le_cancelled_tasks (s0 : SimS) (fuel : Nat) (h0 : Tally s0) :
    (simulate s0 fuel).2.log.toList.countP isCancelLog ≤
      tasksWhere (fun t => t.state == .cancelled) (simulate s0 fuel).2 :=
  (simulate_tally s0 fuel h0).1.canc

def lagTask : TaskS := { name := "a", conditional := false, terminal := false, prob := 1000, strategies := [],
                         profile := 0, deadline := 50, state := .released, pre := .released }
def lagGraph : GraphS := ⟨"g", #[lagTask], #[[]], #[[]], [0]⟩
def lagState : SimS :=
  { flags := { loopTimeout := 100, dropSkipped := true },
    jobs := #[{ name := "J", closedLoop := false, remaining := 0, index := 0, template := lagGraph, critical := 0 }],
    allGraphs := #[], allMeta := #[], graphs := #[lagGraph], metas := #[{ job := 0, timestamp := 0, critical := 0 }],
    loaderReleased := true, pools := #[], poolNames := #[], tape := [], decisions := [] }

/-- A CANCEL_TASK decision handled at time 5: the task is CANCELLED (and the `.cancel` entry
written) at once, the counter moves only when the TASK_CANCEL event created here is handled. -/
theorem cancelled_counter_lags_counterexample :
    let out := (ExceptT.run (placementSkip 5 { kind := .cancel, task := ⟨0, 0⟩ } true)).run lagState
    (match out.1 with | .ok evs => evs.map (fun e => e.ev.etype) | _ => []) = [ET.taskCancel] ∧
    tasksWhere (fun t => t.state == .cancelled) out.2 = 1 ∧ out.2.log.toList.countP isCancelLog = 1 ∧
    out.2.cancelledTasks = 0 := by
  decide

def freshGraph : GraphS := ⟨"g", #[{ lagTask with state := .virtual, pre := .virtual }], #[[]], #[[]], [0]⟩

/-- Non-vacuity of the hypothesis `Tally s0`: what `tally_initial` asks of an initial state
(no task graph yet, pristine loader graphs and templates, zero counter, empty history). -/
example : Tally { flags := { loopTimeout := 100 }, jobs := #[], allGraphs := #[freshGraph],
                  allMeta := #[], pools := #[], poolNames := #[], tape := [], decisions := [] } := by
  refine tally_initial _ rfl rfl ?_ (by intro j hj; cases hj) rfl rfl
  intro g hg
  have : g = freshGraph := by simpa using hg
  subst this
  intro n t ht
  cases n with
  | zero =>
    have : t = { lagTask with state := .virtual, pre := .virtual } := by
      simpa [GraphS.task?, freshGraph] using ht.symm
    subst this
    exact ⟨rfl, rfl⟩
  | succ n => simp [GraphS.task?, freshGraph] at ht

end ErdosVerif.C08
