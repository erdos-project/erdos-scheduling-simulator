/-
C10 (Z3 clauses): for EVERY assignment `σ` satisfying the hard assertions of the Z3 scheduler,
the decisions `decode inst σ` that `schedule()` returns are: exactly one per offered task and
for offered tasks only (none has started); a placement names an existing worker (hence pool)
that can accommodate the task now, at a time `≥ now` and `≥` the release time; and at every
instant the demands of the placed tasks on any resource entry of any worker stay within the
*available* quantity, i.e. together with the RUNNING tasks (which hold `total − available`)
within the worker's capacity.  Z3 placements carry no execution strategy (`Decision` has none).

Where the current code fails the property (docs/planner_z3.md):
* `schedule()` does not always return: `Inst.crash` (findings C10-Z3-1 / C10-Z3-2,
  `crash_extract_counterexample`, `crash_width_counterexample`, `returns_normally_partial`);
* SCHEDULED tasks that are not re-offered are invisible (C10-Z3-3,
  `scheduled_invisible_counterexample`): `jointly_feasible` speaks about RUNNING tasks only;
* two resource entries of one name on a worker break the exclusivity (C10-Z3-4,
  `double_entry_counterexample`): `jointly_feasible` assumes `wfSingleEntry`.

`pure` (nothing live changes) is covered by the suite's before/after snapshots, not by a theorem.
-/
import ErdosVerif.Lemmas.Z3Capacity
import ErdosVerif.Props.C11_Z3
namespace ErdosVerif.C10_Z3
open ErdosVerif.Z3m

/-- Exactly one decision per offered task, in the order offered. -/
theorem one_decision_per_task (I : Inst) (σ : Assign Var) :
    (decode I σ).map (fun d => d.task) = List.range I.nT := by
  simp [decode, Function.comp_def, decodeTask_task]

theorem no_duplicate_decisions (I : Inst) (σ : Assign Var) :
    ((decode I σ).map (fun d => d.task)).Nodup := by
  rw [one_decision_per_task]; exact List.nodup_range

/-- Decisions are for offered tasks only; that no offered task has started is the hypothesis
`wfStates` (non-preemptive `get_schedulable_tasks`), evaluated by the driver. -/
theorem only_offered_not_started {I : Inst} {σ : Assign Var} (hst : I.wfStates = true) {d : Decision}
    (hd : d ∈ decode I σ) : d.task < I.nT ∧ (I.task d.task).state ≠ .running := by
  obtain ⟨t, ht, rfl⟩ := mem_decode.mp hd
  rw [decodeTask_task]
  refine ⟨ht, fun hr => ?_⟩
  have hm : I.task t ∈ I.tasks := Mip.getD_mem ht _
  have := List.all_eq_true.mp hst _ hm
  simp [hr] at this

theorem answers_all_offered (I : Inst) (σ : Assign Var) {t : Nat} (ht : t < I.nT) :
    ∃ d ∈ decode I σ, d.task = t :=
  ⟨I.decodeTask σ t, mem_decode.mpr ⟨t, ht, rfl⟩, decodeTask_task I σ t⟩

/-- When z3 reports no model, every offered task is answered "not placed". -/
theorem fail_answers (I : Inst) :
    (decodeFail I).map (fun d => d.task) = List.range I.nT ∧ ∀ d ∈ decodeFail I, d.placed = none := by
  simp [decodeFail, Function.comp_def]

/-- `model[is_placed]` true never ends in a `KeyError`: the decision is a placement. -/
theorem placed_has_decision {I : Inst} {σ : Assign Var} (h : sat σ (gen I)) {t : Nat} (ht : t < I.nT)
    (hpl : σ.b (.placed t) = true) :
    ∃ w, w < I.nW ∧ (⟨t, some (w, σ.i (.start t))⟩ : Decision) ∈ decode I σ := by
  obtain ⟨k, hk, hw⟩ := (placed_ok h ht hpl).worker
  exact ⟨k, hk, placed_mem_decode ht hpl hw⟩

/-- A placement names an existing worker (whose pool is the reported pool) that passed
`can_be_placed` for the task, a time not before `now` and not before the release time. -/
theorem placement_wellformed {I : Inst} {σ : Assign Var} (h : sat σ (gen I)) {t w : Nat} {time : Int}
    (hd : (⟨t, some (w, time)⟩ : Decision) ∈ decode I σ) :
    w < I.nW ∧ I.canBePlaced t w = true ∧ time ≥ I.now ∧ time ≥ (I.task t).release := by
  obtain ⟨ht, hpl, hw, rfl⟩ := decision_spec hd
  have ok := placed_ok h ht hpl
  exact ⟨(workerOf_spec hw).1, ok.canBePlaced hw, ok.now_le, ok.release_le⟩

/-- The tasks counted by `Inst.load` are exactly the returned placements that occupy the worker. -/
theorem active_is_decision {I : Inst} {σ : Assign Var} {w t : Nat} {τ : Int} :
    t ∈ I.active σ w τ ↔ ∃ time, (⟨t, some (w, time)⟩ : Decision) ∈ decode I σ ∧
      time ≤ τ ∧ τ < time + (I.rem t : Int) := by
  constructor
  · intro ht
    obtain ⟨h0, hpl, hw, h1, h2⟩ := mem_active.mp ht
    exact ⟨σ.i (.start t), placed_mem_decode h0 hpl hw, h1, h2⟩
  · rintro ⟨time, hd, h1, h2⟩
    obtain ⟨ht, hpl, hw, rfl⟩ := decision_spec hd
    exact mem_active.mpr ⟨ht, hpl, hw, h1, h2⟩

/-- **Joint feasibility at every planned instant.**  For every worker, every resource entry of
it and every instant τ, the demand of the returned placements occupying the worker at τ is
within the quantity available on the entry — equivalently, together with what the RUNNING tasks
hold (`total − available`), within the entry's total capacity. -/
theorem jointly_feasible {I : Inst} {σ : Assign Var} (h : sat σ (gen I))
    (hcr : I.crashExtract = false) (hch : I.wfChains = true) (hse : I.wfSingleEntry = true)
    (hav : I.wfAvail = true) {w : Nat} (hw : w < I.nW) {e : ResEntry} (he : e ∈ (I.worker w).res)
    (τ : Int) :
    I.load σ w e.name τ ≤ e.avail ∧ I.load σ w e.name τ + (e.total - e.avail) ≤ e.total := by
  have h1 := capacity_at_instant h hcr hch hse hav hw he τ
  have h2 := avail_le_total hav hw he
  exact ⟨h1, by omega⟩

/-! ### "Returns normally" (findings C10-Z3-1, C10-Z3-2)

Full statement (FALSE for the current code): `∀ I, I.crash = none`. -/

/-- Partial: the call returns when no bit-vector has width 0 and no `Extract` reaches beyond its
argument; missing w.r.t. the full statement: both conditions fail on reachable states. -/
theorem returns_normally_partial {I : Inst} (h1 : I.crashWidth = false) (h2 : I.crashExtract = false) :
    I.crash = none := by simp [Inst.crash, h1, h2]

/-- now = 3, one 2-CPU worker with one CPU in use, two unrelated released 1-CPU tasks. -/
def exExtract : Inst :=
  { now := 3,
    workers := [⟨"W0", "P0", [⟨"CPU", 2, 1⟩]⟩],
    tasks := [⟨"B@G1", "G1", .released, 0, 30, 0, [⟨2, [("CPU", 1)]⟩]⟩,
              ⟨"C@G2", "G2", .released, 0, 30, 0, [⟨2, [("CPU", 1)]⟩]⟩],
    nodes := [⟨"B@G1", "G1", 30, -1⟩, ⟨"C@G2", "G2", 30, -1⟩],
    edges := [],
    enforceDeadlines := true }

/-- **Finding C10-Z3-1**: `Extract(total − 1, 0, ·)` on a bit-vector as wide as the largest
*available* quantity. -/
theorem crash_extract_counterexample :
    exExtract.wf = true ∧ exExtract.wfStates = true ∧
    exExtract.crash = some ("Z3Exception", "invalid extract application") := by decide

/-- A CPU-only worker; a task with a CPU strategy and a GPU strategy. -/
def exWidth : Inst :=
  { now := 0,
    workers := [⟨"W0", "P0", [⟨"CPU", 2, 2⟩]⟩],
    tasks := [⟨"A@G0", "G0", .released, 0, 30, 0, [⟨4, [("CPU", 1)]⟩, ⟨2, [("GPU", 1)]⟩]⟩],
    nodes := [⟨"A@G0", "G0", 30, -1⟩],
    edges := [],
    enforceDeadlines := true }

/-- **Finding C10-Z3-2**: `BitVec(name, 0)` for a resource type nobody has available. -/
theorem crash_width_counterexample :
    exWidth.wf = true ∧ exWidth.wfStates = true ∧
    exWidth.crash = some ("Z3Exception", "bit-vector size must be greater than zero") := by decide

/-! ### SCHEDULED tasks that are not re-offered (finding C10-Z3-3)

Full statement (FALSE): `… → I.load σ w e.name τ + I.reservedAt w e.name τ + (e.total − e.avail) ≤ e.total`. -/

/-- now = 3; X is SCHEDULED for t = 5 with both CPUs of W0 (runtime 4) and not re-offered;
Y (1 CPU, runtime 4) is released. -/
def exSched : Inst :=
  { now := 3,
    workers := [⟨"W0", "P0", [⟨"CPU", 2, 2⟩]⟩],
    tasks := [⟨"Y@G1", "G1", .released, 0, 30, 0, [⟨4, [("CPU", 1)]⟩]⟩],
    nodes := [⟨"Y@G1", "G1", 30, -1⟩],
    edges := [],
    enforceDeadlines := true,
    reserved := [⟨0, "CPU", 2, 5, 9⟩] }

/-- What z3 returns: Y on W0 at 3. -/
def exSchedσ : Assign Var :=
  { i := fun v => match v with
      | .start 0 => 3 | .penalty => -2000000000 | .slack _ => 23 | .slackSum => 23 | _ => 0,
    b := fun v => match v with | .placed 0 => true | _ => false,
    v := fun v => match v with | .worker 0 => [true] | .res 0 _ => [true, false] | _ => [] }

theorem scheduled_invisible_counterexample :
    exSched.crash = none ∧ exSched.wf = true ∧ sat exSchedσ (gen exSched) ∧
    decode exSched exSchedσ = [⟨0, some (0, 3)⟩] ∧
    exSched.load exSchedσ 0 "CPU" 5 + exSched.reservedAt 0 "CPU" 5 = 3 := by decide

/-! ### Two entries of one resource name (finding C10-Z3-4) -/

/-- One worker with entries CPU:2 and CPU:1; two unrelated tasks needing 2 CPUs each. -/
def exDouble : Inst :=
  { now := 0,
    workers := [⟨"W0", "P0", [⟨"CPU", 2, 2⟩, ⟨"CPU", 1, 1⟩]⟩],
    tasks := [⟨"A@G0", "G0", .released, 0, 30, 0, [⟨4, [("CPU", 2)]⟩]⟩,
              ⟨"B@G1", "G1", .released, 0, 30, 0, [⟨4, [("CPU", 2)]⟩]⟩],
    nodes := [⟨"A@G0", "G0", 30, -1⟩, ⟨"B@G1", "G1", 30, -1⟩],
    edges := [],
    enforceDeadlines := true }

/-- What z3 returns: both on W0 at 0 with patterns 110 and 101 (the two `…_independent_…`
constants of the model are one z3 constant; σ gives them the same value). -/
def exDoubleσ : Assign Var :=
  { i := fun v => match v with
      | .penalty => -2000000000 | .slack _ => 26 | .slackSum => 52 | _ => 0,
    b := fun v => match v with
      | .placed _ => true | .overlap 0 1 => true | .indep 0 _ 0 1 => true | _ => false,
    v := fun v => match v with
      | .worker _ => [true] | .res 0 _ => [false, true, true] | .res 1 _ => [true, false, true] | _ => [] }

theorem double_entry_counterexample :
    exDouble.crash = none ∧ exDouble.wfSingleEntry = false ∧ sat exDoubleσ (gen exDouble) ∧
    decode exDouble exDoubleσ = [⟨0, some (0, 0)⟩, ⟨1, some (0, 0)⟩] ∧
    exDouble.load exDoubleσ 0 "CPU" 0 = 4 ∧ (exDouble.worker 0).avail "CPU" = 3 := by decide

/-! ### Non-vacuity -/

/-- One 2-CPU worker, nothing running, two unrelated 1-CPU tasks run side by side. -/
def exPair : Inst :=
  { now := 0,
    workers := [⟨"W0", "P0", [⟨"CPU", 2, 2⟩]⟩],
    tasks := [⟨"A@G0", "G0", .released, 0, 30, 0, [⟨4, [("CPU", 1)]⟩]⟩,
              ⟨"B@G1", "G1", .released, 0, 30, 0, [⟨3, [("CPU", 1)]⟩]⟩],
    nodes := [⟨"A@G0", "G0", 30, -1⟩, ⟨"B@G1", "G1", 30, -1⟩],
    edges := [],
    enforceDeadlines := true }

def exPairσ : Assign Var :=
  { i := fun v => match v with
      | .penalty => -2000000000 | .slack "G0" => 26 | .slack _ => 27 | .slackSum => 53 | _ => 0,
    b := fun v => match v with
      | .placed _ => true | .overlap 0 1 => true | .indep 0 _ 0 1 => true | _ => false,
    v := fun v => match v with
      | .worker _ => [true] | .res 0 _ => [true, false] | .res 1 _ => [false, true] | _ => [] }

example : exPair.crash = none ∧ exPair.wf = true ∧ exPair.wfStates = true := by decide
example : sat exPairσ (gen exPair) := by decide
example : exPair.active exPairσ 0 0 = [0, 1] ∧ exPair.load exPairσ 0 "CPU" 0 = 2 := by decide
example : C11_Z3.exChain.crashExtract = false ∧ C11_Z3.exChain.wf = true ∧
    C11_Z3.exChain.capacityOK C11_Z3.exChainσ = true := by decide

end ErdosVerif.C10_Z3
