import ErdosVerif.Lemmas.SimLedgerRun
/-!
# C04 over a whole run — held iff resident

The ledger-level laws of `Props/C04.lean` quantify over arbitrary operation histories on one
pool. Here: in every state a run of the simulator model `Model/Sim.lean` can be in — at the head
of the `simulate()` loop, at a normal end, out of fuel, or at the raise point of an aborted
handler (any world satisfying the decidable predicate `lwf0`, any decision tape, any draw tape,
any fuel) — for every worker of every pool the ledger
entries keyed by tasks are exactly the residents placed with a non-batch strategy, the entries
keyed by batch placeholders are exactly the placeholders of the live batches (whose members are
exactly the residents placed with the batch's strategy), and every profile entry belongs to a
profile that is loaded or loading (`Lemmas/SimLedgerRun*.lean`).
-/
namespace ErdosVerif.C04
open ErdosVerif.Model ErdosVerif.Model.Sim

def HeldIffResident (w : Worker) : Prop :=
  (∀ t, Comp.task t ∈ AList.keys w.res.allocs ↔ ∃ s, AList.get? w.placed t = some s ∧ s.isBatch = false) ∧
  (∀ p, Comp.profile p ∈ AList.keys w.res.allocs → p ∈ AList.keys w.availProf ∨ p ∈ AList.keys w.pendProf) ∧
  (AList.keys w.res.allocs).Nodup ∧ (AList.keys w.placed).Nodup ∧
  (∀ g, Comp.batch g ∈ AList.keys w.res.allocs ↔
    ∃ sid, AList.get? w.batchTask sid = some (.batch g) ∧ sid ∈ AList.keys w.batches) ∧
  (∀ t s, AList.get? w.placed t = some s → s.isBatch = true → ∃ ms, AList.get? w.batches s.sid = some ms ∧ t ∈ ms) ∧
  (∀ sid ms, AList.get? w.batches sid = some ms → ms.Nodup ∧ ms ≠ [] ∧
    ∀ t ∈ ms, ∃ s, AList.get? w.placed t = some s ∧ s.isBatch = true ∧ s.sid = sid) ∧
  (∀ sid sid' c, AList.get? w.batchTask sid = some c → AList.get? w.batchTask sid' = some c → sid = sid')

theorem heldIffResident_of_lok (w : Worker) (hl : w.LOK) : HeldIffResident w := by
  obtain ⟨h, hb⟩ := hl
  refine ⟨fun t => ?_, fun p hm => ?_, h.anodup, h.pnodup, fun g => ?_, hb.memBatch, hb.batchMem, hb.btInj⟩
  · rw [AList.mem_keys_iff]
    exact ⟨fun ⟨l, hg⟩ => h.heldTask t l hg, fun ⟨s, hs, hsb⟩ => (h.taskHeld t s hs hsb).imp fun l hl => hl.1⟩
  · obtain ⟨l, hg⟩ := (AList.mem_keys_iff _ _).mp hm
    exact (h.heldProf p l hg).imp (AList.lr_has_iff_mem _ _).mp (AList.lr_has_iff_mem _ _).mp
  · rw [AList.mem_keys_iff]
    constructor
    · rintro ⟨l, hg⟩
      obtain ⟨sid, h1, h2⟩ := hb.heldBatch g l hg
      exact ⟨sid, h1, (AList.lr_has_iff_mem _ _).mp h2⟩
    · rintro ⟨sid, h1, h2⟩
      obtain ⟨ms, hms⟩ := (AList.mem_keys_iff _ _).mp h2
      obtain ⟨g', l, s0, h3, h4, _⟩ := hb.batchHeld sid ms hms
      rw [h1] at h3; cases h3
      exact ⟨l, h4⟩

/-- **Held iff resident in every state a run can be in** — after the constructor and any number
of loop iterations, ended normally, out of fuel or aborted by an exception at any point of any
handler: for every worker, a task key is in the ledger iff the task is resident with a non-batch
strategy; a `.batch` key is in the ledger iff it is the placeholder of a live batch, whose members
are exactly the residents placed with the batch's strategy; profile entries belong to loaded or
loading profiles; no key occurs twice. -/
theorem held_iff_resident (s0 : SimS) (fuel : Nat) (h : lwf0 s0 = true) :
    ∀ p ∈ (simulate s0 fuel).2.pools.toList, ∀ w ∈ p.workers, HeldIffResident w :=
  fun p hp w hw => heldIffResident_of_lok w ((simulate_ledger_weak s0 fuel (good_initial s0 h)).2 p hp w hw)

/-- The same when the run ended normally (a corollary, kept for the registry). -/
theorem held_iff_resident_at_end (s0 : SimS) (fuel : Nat) (h : lwf0 s0 = true) (_hok : (simulate s0 fuel).1 = none) :
    ∀ p ∈ (simulate s0 fuel).2.pools.toList, ∀ w ∈ p.workers, HeldIffResident w :=
  held_iff_resident s0 fuel h

/-- **… and at the head of the `simulate()` loop after any number `k` of completed iterations**
(and at the raise point if one of them raised). -/
theorem held_iff_resident_at_loop_head (s0 : SimS) (k : Nat) (h : lwf0 s0 = true) :
    HoldsAfter (fun _ s => ∀ p ∈ s.pools.toList, ∀ w ∈ p.workers, HeldIffResident w)
      (fun s => ∀ p ∈ s.pools.toList, ∀ w ∈ p.workers, HeldIffResident w)
      ((ExceptT.run (do init; runK k : SimM Bool)).run s0) :=
  (loop_head_ledger s0 k (good_initial s0 h)).imp
    (fun _ _ hA p hp w hw => heldIffResident_of_lok w (hA.2 p hp w hw))
    (fun _ hW p hp w hw => heldIffResident_of_lok w (hW.2 p hp w hw))

/-- **In every reachable state a refused `Worker.remove_task` changes nothing, and `remove_task` of
a resident task is never refused** — batch members included (the full form of
`refusal_noop_remove_partial`, under the invariant of the run). -/
theorem refusal_noop_remove_in_run (s0 : SimS) (fuel : Nat) (h : lwf0 s0 = true) :
    ∀ p ∈ (simulate s0 fuel).2.pools.toList, ∀ w ∈ p.workers, ∀ t,
      ((w.removeTask t).2 ≠ .ok → (w.removeTask t).1 = w) ∧
      (t ∈ AList.keys w.placed → (w.removeTask t).2 = .ok) := by
  intro p hp w hw t
  have hl := (simulate_ledger_weak s0 fuel (good_initial s0 h)).2 p hp w hw
  refine ⟨Worker.removeTask_refused_of_LOK w t hl, ?_⟩
  intro hm
  obtain ⟨s, hs⟩ := (AList.mem_keys_iff _ _).mp hm
  exact Worker.removeTask_ok_of_LOK w t s hl hs

/-- **`C04.empty_full` over every run**: in every state a run can be in, a worker on which no task
is resident and no profile is loaded or loading has an empty ledger and its whole capacity
available. -/
theorem idle_worker_full_in_run (s0 : SimS) (fuel : Nat) (h : lwf0 s0 = true) :
    ∀ p ∈ (simulate s0 fuel).2.pools.toList, ∀ w ∈ p.workers,
      w.placed = [] → w.availProf = [] → w.pendProf = [] → w.res.allocs = [] ∧ w.res.avail = w.res.total := by
  intro p hp w hw hpl hav hpe
  obtain ⟨ht, hb⟩ := (simulate_ledger_weak s0 fuel (good_initial s0 h)).2 p hp w hw
  have hempty : w.res.allocs = [] := by
    cases ha : w.res.allocs with
    | nil => rfl
    | cons e rest =>
      exfalso
      obtain ⟨c, l⟩ := e
      have hg : AList.get? w.res.allocs c = some l := by rw [ha]; simp [AList.get?]
      cases c with
      | task t =>
        obtain ⟨s, hs, _⟩ := ht.heldTask t l hg
        rw [hpl] at hs; simp [AList.get?] at hs
      | profile q =>
        rcases ht.heldProf q l hg with h1 | h1
        · rw [hav] at h1; simp [AList.has, AList.get?] at h1
        · rw [hpe] at h1; simp [AList.has, AList.get?] at h1
      | batch g =>
        obtain ⟨sid, _, h2⟩ := hb.heldBatch g l hg
        cases hms : AList.get? w.batches sid with
        | none => simp [AList.has, hms] at h2
        | some ms =>
          obtain ⟨_, hne, hmem⟩ := hb.batchMem sid ms hms
          cases ms with
          | nil => exact hne rfl
          | cons t0 _ =>
            obtain ⟨s, hs, _⟩ := hmem t0 (List.mem_cons_self ..)
            rw [hpl] at hs; simp [AList.get?] at hs
  exact ⟨hempty, Resources.empty_full w.res ht.rinv hempty⟩

/-- Non-vacuity: a worker with one resident task satisfies the set equation, a worker whose
ledger forgot the task does not. -/
example :
    let st : Strategy := ⟨0, false, 1, 5, [(⟨"GPU", none⟩, 1)]⟩
    let w1 := ((Worker.ofVec [(⟨"GPU", some 1⟩, 1)]).placeTask 7 st).1
    HeldIffResident w1 ∧ ¬ HeldIffResident { w1 with res := { w1.res with allocs := [] } } := by
  intro st w1
  refine ⟨?_, ?_⟩
  · exact heldIffResident_of_lok _ (Worker.lk_placeTask _ 7 _ (Worker.LOK.ofVec _ (by decide)) (by decide) (by decide))
  · intro h
    have : Comp.task 7 ∈ AList.keys ([] : AList Comp (List (Res × Nat))) := (h.1 7).mpr ⟨st, by decide, rfl⟩
    cases this

/-- Non-vacuity (batches): two members of one batch strategy on a one-GPU worker — one live batch
with both members, one placeholder entry in the ledger. -/
example :
    let bs : Strategy := ⟨3, true, 2, 5, [(⟨"GPU", none⟩, 1)]⟩
    let w0 := Worker.ofVec [(⟨"GPU", some 1⟩, 1)]
    let w1 := (w0.placeTask 7 bs).1
    let w2 := (w1.placeTask 8 bs).1
    HeldIffResident w2 ∧ AList.keys w2.res.allocs = [.batch 0] ∧ AList.get? w2.batches 3 = some [7, 8] := by
  intro bs w0 w1 w2
  have h1 : w1.LOK := Worker.lk_placeTask _ 7 _ (Worker.LOK.ofVec _ (by decide)) (by decide) (by decide)
  have h2 : w2.LOK := Worker.lk_placeTask _ 8 _ h1 (by decide) (by decide)
  exact ⟨heldIffResident_of_lok _ h2, by decide, by decide⟩

/-! ### profiles: the converse inclusion is FALSE of the model (finding)

`Worker.load_profile` of a profile that is already loaded puts it into `_pending_profiles` as well
(and charges the ledger entry a second time); `evict_profile` then deallocates the whole entry but
removes the profile from `_available_profiles` only. The profile stays in `_pending_profiles`,
later becomes available again, and holds nothing. The decision tape is arbitrary in the model: a
policy that emits LOAD_PROFILE for a loaded profile and then EVICT_PROFILE reaches this state. -/

def cxWorker (s : SimS) : Option Worker := (s.pools[0]?).bind (fun p => p.workers[0]?)

def cxLoadNow : Strategy := ⟨9, false, 1, 0, [(⟨"GPU", none⟩, 1)]⟩
def cxLoadSlow : Strategy := ⟨9, false, 1, 100, [(⟨"GPU", none⟩, 1)]⟩

/-- One pool with one two-GPU worker, no task graph; the first scheduler answer loads profile 5
(at 1), loads it again (at 2) and evicts it (at 3). -/
def cxWorld : SimS :=
  { flags := { loopTimeout := 1000 }, jobs := #[], allGraphs := #[], allMeta := #[],
    pools := #[⟨[Worker.ofVec [(⟨"GPU", some 1⟩, 2)]], []⟩], poolNames := #["pool"], tape := [],
    decisions := [⟨[{ kind := .load, task := ⟨0, 0⟩, profile := 5, time := some 1, pool := some 0, worker := some 0,
                      strat := some cxLoadNow },
                    { kind := .load, task := ⟨0, 0⟩, profile := 5, time := some 2, pool := some 0, worker := some 0,
                      strat := some cxLoadSlow },
                    { kind := .evict, task := ⟨0, 0⟩, profile := 5, time := some 3, pool := some 0, worker := some 0 }],
                   1, none⟩,
                  ⟨[], 1, none⟩, ⟨[], 1, none⟩, ⟨[], 1, none⟩, ⟨[], 1, none⟩] }

set_option maxRecDepth 100000 in
/-- **COUNTEREXAMPLE (finding): "loaded ⇒ held" fails for profiles.** A run from a well-formed
world ends normally with profile 5 loaded (`_available_profiles`) on a worker whose ledger is
empty and whose capacity is entirely available. -/
theorem profile_loaded_without_entry_counterexample :
    lwf0 cxWorld = true ∧ (simulate cxWorld 30).1 = none ∧
    (cxWorker (simulate cxWorld 30).2).map (fun w => AList.keys w.availProf) = some [5] ∧
    (cxWorker (simulate cxWorld 30).2).map (fun w => w.res.allocs) = some [] ∧
    (cxWorker (simulate cxWorld 30).2).map (fun w => decide (w.res.avail = w.res.total)) = some true := by
  decide +kernel

end ErdosVerif.C04
