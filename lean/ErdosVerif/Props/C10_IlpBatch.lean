/-
C10 (ILP clause, BATCHING mode): the decision `ILPScheduler(batching=True).schedule()`
returns, read off ANY feasible point `σ` of the model it builds (`decodeB inst σ`: the
Placements of the BatchTasks merged back to the member tasks), or the all-unplaced answer
when the solver finds nothing (`decodeFailB`).

Proved for every instance / every `σ`:
* `one_decision_per_task` (no hypothesis on `σ`): the merge never answers a task twice;
* `only_members_never_running`, `answers_every_batched_task`: decisions exist exactly for the
  members of the BatchTasks that are not RUNNING;
* `at_most_one_placed_batch`, `member_gets_batch_placement`, `batch_members_agree`: for every
  feasible `σ` a task is in at most one placed BatchTask, and every member of a placed
  BatchTask is returned with that BatchTask (its `BatchStrategy`), its worker and its start;
* `placement_wellformed`: existing worker that can hold the batch strategy, start ≥ now + 1 and
  ≥ the release of every member;
* `fail_answers`.

NOT proved, because false of the code (counterexamples below, findings C10-ILPB-1…5):
* "every offered task is answered": a task that joins no BatchTask gets no decision
  (`answers_all_offered_partial` is the part that holds; `unanswered_counterexample`);
* "returns normally": `sort_crash_counterexample`, `slack_crash_counterexample`;
* joint capacity at every planned instant: a RUNNING BatchTask holds no capacity in the model
  (`running_batch_uncharged_counterexample`), dependent tasks that no precedence row separates
  are exempt from the capacity rows (`dependent_overlap_counterexample`).  What IS proved is the
  exact complement, `jointly_feasible_partial`: at every instant, on every worker and resource
  type of it, the BatchTasks that are not RUNNING, placed there and occupying the instant
  (closed occupancy, each BatchTask counted once) stay within the worker's quantity PROVIDED no
  two of them are dependent.

`I.wfShared` (two BatchTasks share a member only if both come from the queue) is a decidable
fact about the batch formation, evaluated by the driver on every extracted instance.
-/
import ErdosVerif.Lemmas.IlpBatchCapacity
namespace ErdosVerif.C10_IlpBatch
open ErdosVerif.Mip ErdosVerif.IlpBatch
open ErdosVerif.Ilp (Var compatible qty nsum)

/-- No task is answered twice, whatever the assignment: the merge keeps one Placement per task. -/
theorem one_decision_per_task (I : BInst) (σ : Var → Int) :
    ((decodeB I σ).map BDecision.task).Nodup := by
  rw [decodeB_eq]
  exact MergeLoop.mergeBy_nodup _

/-- Decisions only for member tasks of BatchTasks that are not RUNNING. -/
theorem only_members_never_running {I : BInst} {σ : Var → Int} {d : BDecision} (hd : d ∈ decodeB I σ) :
    ∃ b, b < I.nB ∧ I.bRunning b = false ∧ d.task ∈ I.members b := by
  obtain ⟨b, hb, hm, _⟩ := decision_from_batch hd
  exact ⟨b, (mem_nonRunning.mp hb).1, (mem_nonRunning.mp hb).2, hm⟩

/-- Every member of a BatchTask that is not RUNNING is answered. -/
theorem answers_every_batched_task (I : BInst) (σ : Var → Int) {b m : Nat} (hb : b < I.nB)
    (hr : I.bRunning b = false) (hm : m ∈ I.members b) : ∃ d ∈ decodeB I σ, d.task = m := by
  have : m ∈ (decodeB I σ).map BDecision.task := by
    rw [decodeB_eq]
    exact MergeLoop.mem_keys_mergeBy.mpr (List.mem_map.mpr
      ⟨⟨m, (I.chosen σ b).map (fun w => (b, w, σ (.start b)))⟩,
        mem_rawPlacements.mpr ⟨b, mem_nonRunning.mpr ⟨hb, hr⟩, m, hm, rfl⟩, rfl⟩)
  exact List.mem_map.mp this

/-- Full statement (FALSE, see `unanswered_counterexample`): every offered task that is not
RUNNING is answered.  Proved part: every offered task *that joined a non-RUNNING BatchTask*. -/
theorem answers_all_offered_partial (I : BInst) (σ : Var → Int) {t : Nat} (_ht : t < I.nOffered)
    (hb : ∃ b, b < I.nB ∧ I.bRunning b = false ∧ t ∈ I.members b) : ∃ d ∈ decodeB I σ, d.task = t := by
  obtain ⟨b, hb, hr, hm⟩ := hb
  exact answers_every_batched_task I σ hb hr hm

/-- A task belongs to at most one placed BatchTask (⇒ the merged decision is unambiguous). -/
theorem at_most_one_placed_batch {I : BInst} {σ : Var → Int} (h : sat σ (genB I))
    (hws : I.wfShared = true) {a b m wa wb : Nat} (ha : a < I.nB) (hb : b < I.nB) (hm : m < I.nT)
    (hma : m ∈ I.members a) (hmb : m ∈ I.members b)
    (hca : I.chosen σ a = some wa) (hcb : I.chosen σ b = some wb) : a = b := by
  by_cases hab : a = b
  · exact hab
  · exact absurd (IlpBatch.at_most_one_placed_batch h hws ha hb hab hm hma hmb hca hcb) id

/-- Every member of a placed BatchTask is returned with that BatchTask's placement. -/
theorem member_gets_batch_placement {I : BInst} {σ : Var → Int} (h : sat σ (genB I))
    (hws : I.wfShared = true) {b w m : Nat} (hb : b < I.nB) (hm : m < I.nT)
    (hmb : m ∈ I.members b) (hc : I.chosen σ b = some w) :
    (⟨m, some (b, w, σ (.start b))⟩ : BDecision) ∈ decodeB I σ :=
  IlpBatch.member_gets_batch_placement h hws hb hm hmb hc

/-- Two members of one placed BatchTask are returned on the same worker at the same time with the
same BatchTask: the batch is one unit of work (this is what lets the cluster hold it once). -/
theorem batch_members_agree {I : BInst} {σ : Var → Int} (h : sat σ (genB I))
    (hws : I.wfShared = true) {d1 d2 : BDecision} (h1 : d1 ∈ decodeB I σ) (h2 : d2 ∈ decodeB I σ)
    {b w1 w2 : Nat} {t1 t2 : Int} (hp1 : d1.placed = some (b, w1, t1)) (hp2 : d2.placed = some (b, w2, t2)) :
    w1 = w2 ∧ t1 = t2 :=
  same_batch_agree h1 h2 hp1 hp2

/-- A placement names an existing worker that can hold the batch's strategy, and a time not
before `now + 1` nor before the (known) release of the task. -/
theorem placement_wellformed {I : BInst} {σ : Var → Int} (h : sat σ (genB I)) {d : BDecision}
    (hd : d ∈ decodeB I σ) {b w : Nat} {time : Int} (hp : d.placed = some (b, w, time)) :
    w < I.nW ∧ compatible (I.worker w) (I.bstrat b) = true ∧
    I.now + 1 ≤ time ∧ (I.task d.task).release ≤ time := by
  obtain ⟨hb, hm, hc, rfl⟩ := placed_decision_spec hd hp
  have hs := chosen_spec hc
  have hlb : max (I.now + 1) (I.bRelease b) ≤ σ (.start b) := start_lb h hb
  have h3 := release_le_bRelease hm
  exact ⟨hs.1, (hasVar_iff.mp hs.2.1).2, by omega, by omega⟩

/-- Full statement (FALSE: `running_batch_uncharged_counterexample`,
`dependent_overlap_counterexample`): all placements together with the RUNNING work never exceed
any worker's capacity at any planned instant.  Proved part: the load of the not-RUNNING
BatchTasks occupying `τ` on `w` (`loadNR`, each BatchTask once, closed occupancy
`[start, start + runtime]` ⊇ the simulator's half-open one) is within the worker's quantity of
every resource type it has, provided no two of these BatchTasks are dependent. -/
theorem jointly_feasible_partial {I : BInst} {σ : Var → Int} (h : sat σ (genB I)) {w : Nat}
    (hw : w < I.nW) {r : String} (hr : r ∈ (I.worker w).types) (τ : Int)
    (hind : ∀ a b, a < I.nB → b < I.nB → b ≠ a → occ I σ w τ a → occ I σ w τ b → I.dependent a b = false) :
    loadNR I σ w r τ ≤ (qty (I.worker w).res r : Nat) :=
  capacity_at_instant_partial h hw hr τ hind

/-- When no solution is found: every offered task is answered "not placed", nothing else. -/
theorem fail_answers (I : BInst) :
    (decodeFailB I).map BDecision.task = List.range I.nOffered ∧ ∀ d ∈ decodeFailB I, d.placed = none := by
  refine ⟨by simp [decodeFailB, List.map_map, Function.comp_def], fun d hd => ?_⟩
  obtain ⟨t, _, rfl⟩ := List.mem_map.mp hd
  rfl

/-! ### Non-vacuity: two chains Camera → Perception offered whole, Camera has a fast batch-of-1
and a slow batch-of-2 strategy (the instance behind seeded change C11-3) -/

def exInst : BInst :=
  { now := 0
    workers := [⟨"W0", "P0", [("CPU", 20)]⟩]
    tasks := [⟨"Cam@G1", "Cam", 0, "G1", .released, 0, 32, "Cam", 0, 0, ⟨0, 0, []⟩⟩,
              ⟨"Per@G1", "Per", 0, "G1", .virtual, -1, 32, "Per", 0, 0, ⟨0, 0, []⟩⟩,
              ⟨"Cam@G2", "Cam", 0, "G2", .released, 0, 32, "Cam", 0, 0, ⟨0, 0, []⟩⟩,
              ⟨"Per@G2", "Per", 0, "G2", .virtual, -1, 32, "Per", 0, 0, ⟨0, 0, []⟩⟩]
    nOffered := 4
    nodes := [⟨"Cam@G1", "Cam", 0, "G1", .released⟩, ⟨"Per@G1", "Per", 0, "G1", .virtual⟩, ⟨"Cam@G2", "Cam", 0, "G2", .released⟩, ⟨"Per@G2", "Per", 0, "G2", .virtual⟩]
    edges := [("Cam@G1", "Per@G1"), ("Cam@G2", "Per@G2")]
    enforceDeadlines := true, retract := false, releaseTaskgraphs := true, goalSlack := false
    allowed0 := []
    profiles := [⟨"Cam", [⟨1, 10, [("CPU", 10)]⟩, ⟨2, 25, [("CPU", 12)]⟩], [2, 0]⟩, ⟨"Per", [⟨1, 10, [("CPU", 10)]⟩], [3, 1]⟩] }

/-- The solver's answer on `exInst`: the two batch-of-1 Camera BatchTasks at 1, the Perceptions at 12. -/
def exSigma : Var → Int
  | .start 0 => 1
  | .start 1 => 1
  | .x 1 0 0 => 1
  | .start 2 => 1
  | .x 2 0 0 => 1
  | .start 3 => 12
  | .x 3 0 0 => 1
  | .start 4 => 12
  | .x 4 0 0 => 1
  | .allParents 3 => 1
  | .allParents 4 => 1
  | .overlap 0 1 => 1
  | .overlap 0 2 => 1
  | .overlap 1 0 => 1
  | .overlap 1 2 => 1
  | .overlap 2 0 => 1
  | .overlap 2 1 => 1
  | .overlap 3 4 => 1
  | .overlap 4 3 => 1
  | .before 1 4 => 1
  | .before 2 3 => 1
  | .after 3 2 => 1
  | .after 4 1 => 1
  | .greward 0 => 1
  | .greward 1 => 1
  | .treward 3 => 1
  | .treward 1 => 1
  | _ => 0

example : exInst.wf = true ∧ exInst.crash = none := by decide
example : sat exSigma (genB exInst) := by decide
/-- Cam@G2 (task 2) is a member of BatchTask 0 (batch of 2, not chosen) and of BatchTask 1 (chosen):
it is returned with BatchTask 1's placement. -/
example : decodeB exInst exSigma =
    [⟨2, some (1, 0, 1)⟩, ⟨0, some (2, 0, 1)⟩, ⟨3, some (3, 0, 12)⟩, ⟨1, some (4, 0, 12)⟩] := by decide

/-- At `τ = 1` the two chosen Camera BatchTasks (1 and 2, not dependent) fill the 20 CPUs exactly. -/
example : loadNR exInst exSigma 0 "CPU" 1 = 20 ∧ exInst.dependent 1 2 = false ∧
    "CPU" ∈ (exInst.worker 0).types ∧ qty (exInst.worker 0).res "CPU" = 20 := by decide

/-! ### Finding C10-ILPB-2: an offered task that joins no BatchTask is not answered -/

/-- `now = 5`; T@G0 (deadline 6) cannot finish with any strategy started now, T@G1 can. -/
def unansweredInst : BInst :=
  { now := 5
    workers := [⟨"W0", "P0", [("CPU", 2)]⟩]
    tasks := [⟨"T@G0", "T", 0, "G0", .released, 4, 6, "A", 0, 0, ⟨0, 0, []⟩⟩,
              ⟨"T@G1", "T", 0, "G1", .released, 4, 30, "A", 0, 0, ⟨0, 0, []⟩⟩]
    nOffered := 2
    nodes := [⟨"T@G0", "T", 0, "G0", .released⟩, ⟨"T@G1", "T", 0, "G1", .released⟩]
    edges := []
    enforceDeadlines := true, retract := false, releaseTaskgraphs := false, goalSlack := false
    allowed0 := []
    profiles := [⟨"A", [⟨1, 3, [("CPU", 1)]⟩, ⟨2, 4, [("CPU", 1)]⟩], [1, 0]⟩] }

/-- The offered task 0 receives no decision, whatever the solver answers. -/
theorem unanswered_counterexample :
    unansweredInst.wf = true ∧ unansweredInst.crash = none ∧ 0 < unansweredInst.nOffered ∧
    ∀ σ : Var → Int, ∀ d ∈ decodeB unansweredInst σ, d.task ≠ 0 := by
  refine ⟨by decide, by decide, by decide, ?_⟩
  intro σ d hd
  obtain ⟨b, hb, _, hm⟩ := only_members_never_running hd
  have key : ∀ b, b < unansweredInst.nB → ∀ m ∈ unansweredInst.members b, m ≠ 0 := by decide
  exact key b hb _ hm

/-! ### Findings C10-ILPB-3 / C10-ILPB-4: the call raises -/

/-- One profile, C@G0 (its parent completed: graph G0 joins `_allowed_to_miss_deadlines`) next to
a source task of G1: the deadline sort compares an `EventTime` with `float('inf')`. -/
def sortCrashInst : BInst :=
  { now := 5
    workers := [⟨"W0", "P0", [("CPU", 2)]⟩]
    tasks := [⟨"C@G0", "C", 0, "G0", .released, 4, 30, "A", 0, 0, ⟨0, 0, []⟩⟩,
              ⟨"S@G1", "S", 0, "G1", .released, 4, 30, "A", 0, 0, ⟨0, 0, []⟩⟩]
    nOffered := 2
    nodes := [⟨"P@G0", "P", 0, "G0", .other⟩, ⟨"C@G0", "C", 0, "G0", .released⟩, ⟨"S@G1", "S", 0, "G1", .released⟩]
    edges := [("P@G0", "C@G0")]
    enforceDeadlines := true, retract := false, releaseTaskgraphs := false, goalSlack := false
    allowed0 := []
    profiles := [⟨"A", [⟨1, 3, [("CPU", 1)]⟩], [0, 1]⟩] }

theorem sort_crash_counterexample : sortCrashInst.crash = some "AttributeError" := by decide

/-- `goal = max_slack` with one BatchTask. -/
def slackCrashInst : BInst := { unansweredInst with goalSlack := true }

theorem slack_crash_counterexample : slackCrashInst.crash = some "AttributeError" := by decide

/-! ### Findings C10-ILPB-1 / C10-ILPB-5: joint capacity fails -/

/-- Demand on worker `w` for resource `r` at instant `τ` of the work the decision leaves on the
cluster: every placed BatchTask once (occupancy `[start, start + runtime)`), every RUNNING
BatchTask once on the worker of its members (`[now, now + runtime)`). -/
def loadAt (I : BInst) (σ : Var → Int) (w : Nat) (r : String) (τ : Int) : Nat :=
  nsum ((List.range I.nB).map (fun b =>
    if I.bRunning b then
      (if (I.task ((I.members b).headD 0)).prevW = w ∧ I.now ≤ τ ∧ τ < I.now + I.runtime b
        then qty (I.bstrat b).req r else 0)
    else
      (if I.chosen σ b = some w ∧ σ (.start b) ≤ τ ∧ τ < σ (.start b) + I.runtime b
        then qty (I.bstrat b).req r else 0)))

/-- A RUNNING batch of two (2 of 3 CPUs, started at 2, runtime 6) and two new tasks of the
same profile, `now = 3`. -/
def runningInst : BInst :=
  { now := 3
    workers := [⟨"W0", "P0", [("CPU", 3)]⟩]
    tasks := [⟨"T@G2", "T", 0, "G2", .released, 3, 40, "A", 0, 0, ⟨0, 0, []⟩⟩,
              ⟨"T@G3", "T", 0, "G3", .released, 3, 40, "A", 0, 0, ⟨0, 0, []⟩⟩,
              ⟨"T@G0", "T", 0, "G0", .running, 1, 40, "A", 0, 1, ⟨2, 6, [("CPU", 2)]⟩⟩,
              ⟨"T@G1", "T", 0, "G1", .running, 1, 40, "A", 0, 1, ⟨2, 6, [("CPU", 2)]⟩⟩]
    nOffered := 2
    nodes := [⟨"T@G2", "T", 0, "G2", .released⟩, ⟨"T@G3", "T", 0, "G3", .released⟩, ⟨"T@G0", "T", 0, "G0", .running⟩, ⟨"T@G1", "T", 0, "G1", .running⟩]
    edges := []
    enforceDeadlines := true, retract := false, releaseTaskgraphs := false, goalSlack := false
    allowed0 := []
    profiles := [⟨"A", [⟨2, 6, [("CPU", 2)]⟩], [0, 2, 1, 3]⟩] }

/-- The solver's answer: the new batch of two on W0 at 4. -/
def runningSigma : Var → Int
  | .start 1 => 4
  | .x 1 0 0 => 1
  | .before 0 1 => 1
  | .after 1 0 => 1
  | .greward 0 => 1
  | .greward 1 => 1
  | .greward 2 => 1
  | .greward 3 => 1
  | .treward 2 => 1
  | .treward 3 => 1
  | .treward 0 => 1
  | .treward 1 => 1
  | _ => 0

/-- A feasible point of the model whose decision puts 4 CPUs of work on the 3-CPU worker at
`τ = 4`: the RUNNING BatchTask appears in no capacity row. -/
theorem running_batch_uncharged_counterexample :
    runningInst.wf = true ∧ runningInst.crash = none ∧ sat runningSigma (genB runningInst) ∧
    loadAt runningInst runningSigma 0 "CPU" 4 = 4 ∧ qty (runningInst.worker 0).res "CPU" = 3 := by
  decide

/-- Chain T0 → T1 → T2 offered whole on a 1-CPU worker; T1 is alone in a profile whose only
strategy needs two tasks (joins no BatchTask), T0 and T2 must both start at 1. -/
def dependentInst : BInst :=
  { now := 0
    workers := [⟨"W0", "P0", [("CPU", 1)]⟩]
    tasks := [⟨"T0@G0", "T0", 0, "G0", .released, 0, 2, "A", 0, 0, ⟨0, 0, []⟩⟩,
              ⟨"T1@G0", "T1", 0, "G0", .virtual, -1, 20, "B", 0, 0, ⟨0, 0, []⟩⟩,
              ⟨"T2@G0", "T2", 0, "G0", .virtual, -1, 2, "A", 0, 0, ⟨0, 0, []⟩⟩]
    nOffered := 3
    nodes := [⟨"T0@G0", "T0", 0, "G0", .released⟩, ⟨"T1@G0", "T1", 0, "G0", .virtual⟩, ⟨"T2@G0", "T2", 0, "G0", .virtual⟩]
    edges := [("T0@G0", "T1@G0"), ("T1@G0", "T2@G0")]
    enforceDeadlines := true, retract := false, releaseTaskgraphs := false, goalSlack := false
    allowed0 := []
    profiles := [⟨"A", [⟨1, 1, [("CPU", 1)]⟩], [2, 0]⟩, ⟨"B", [⟨2, 3, [("CPU", 1)]⟩], [1]⟩] }

def dependentSigma : Var → Int
  | .start 0 => 1
  | .x 0 0 0 => 1
  | .start 1 => 1
  | .x 1 0 0 => 1
  | .greward 0 => 1
  | .treward 0 => 1
  | .treward 2 => 1
  | _ => 0

/-- T0 and T2 (ancestor / descendant, `Overlap = 0`, no precedence rows because T1 has no
variables) both occupy the single CPU at `τ = 1`. -/
theorem dependent_overlap_counterexample :
    dependentInst.wf = true ∧ dependentInst.crash = none ∧ sat dependentSigma (genB dependentInst) ∧
    loadAt dependentInst dependentSigma 0 "CPU" 1 = 2 ∧ qty (dependentInst.worker 0).res "CPU" = 1 := by
  decide

end ErdosVerif.C10_IlpBatch
