/-
C11 (TetriSched-Gurobi clause): for EVERY feasible point `σ` of the model the Gurobi
formulation builds (`sat σ (gen I)` with `I.cplex = false`), not only the returned one:

* `child_placed_parents_placed` — a child with a chosen cell has every parent *that takes part
  in the call* placed (a RUNNING parent counts as placed), and those parents are all the
  parents the graph gives the child;
* `start_after_parent` — the start variable of a child is `≥ start(parent) + slowest runtime of
  the parent + 1`, for placed and unplaced tasks alike; `start_is_slot` ties the start variable
  to the slot of the chosen cell (which is the time `schedule()` reports);
* `child_after_parent` / `child_after_parent_chosen` — in decoded terms: `slot(child) ≥
  slot(parent) + slowest + 1 ≥ slot(parent) + runtime of the parent's chosen strategy`;
* `after_running_parent` — `slot(child) ≥ now + remaining(parent) + 1` for a RUNNING parent
  (a SCHEDULED parent in non-retracting mode has variables and is covered by the first case);
* `decisions_ordered` — the same over `decode`, i.e. over what `schedule()` returns.

Hypotheses: `I.wf` (decidable well-formedness of the extracted instance, evaluated by the
driver on every instance) and `I.noModel = false` (a model is built at all).

The CPLEX formulation has no dependency rows at all (its docstring: "cannot work with DAGs");
the property does not list it.
-/
import ErdosVerif.Lemmas.TetriSound
namespace ErdosVerif.C11_Tetri
open ErdosVerif.Mip ErdosVerif.Tetri ErdosVerif.TetriSpec

variable {I : Inst} {σ : Var → Int}

theorem pick_of_chosen {t : Nat} (hr : I.running t = false) {q : Cell} (hc : I.chosen σ t = some q) :
    pick I σ t = some q := by simp [pick, hr, hc]

theorem child_placed_parents_placed (h : sat σ (gen I)) (hwf : I.wf = true) (hm : I.noModel = false)
    (hG : I.cplex = false) {c : Nat} (hc : c ∈ I.nonRunning) {q : Cell} (hq : I.chosen σ c = some q)
    {p : Nat} (hp : p ∈ I.parentVars c) :
    (I.running p = true ∨ (I.chosen σ p).isSome = true) ∧ (I.parentVars c).length = I.nParents c := by
  have hsome : (pick I σ c).isSome = true := by
    rw [pick_of_chosen (mem_nonRunning.mp hc).2.2 hq]; rfl
  obtain ⟨hlen, hall⟩ := parents_placed h hwf hm hG hc hsome (List.ne_nil_of_mem hp)
  refine ⟨?_, hlen⟩
  have := hall p hp
  cases hr : I.running p with
  | true => exact Or.inl rfl
  | false => right; simpa [pick, hr] using this

/-- **The precedence row**, for every feasible point and whether or not the tasks are placed:
`start(child) ≥ start(parent) + slowest runtime + 1`, where the start of a RUNNING parent is the
constant `now` and its "runtime" the remaining time. -/
theorem start_after_parent (h : sat σ (gen I)) (hG : I.cplex = false) {c : Nat} (hc : c ∈ I.nonRunning)
    {p : Nat} (hp : p ∈ I.parentVars c) :
    (I.startE p).eval σ + (I.parentDur p : Nat) + 1 ≤ σ (.start c) := by
  have := start_after_row h hG hc hp
  rwa [startE_eval_nonRunning σ (mem_nonRunning.mp hc).2.2] at this

/-- The start variable of a placed task is the slot of its chosen cell — the placement time
`schedule()` reports. -/
theorem start_is_slot (h : sat σ (gen I)) (hwf : I.wf = true) (hm : I.noModel = false)
    (hG : I.cplex = false) {t : Nat} (ht : t ∈ I.nonRunning) {q : Cell} (hq : I.chosen σ t = some q) :
    σ (.start t) = I.slot q.2.1 :=
  start_eq_slot h hwf hm hG ht (pick_of_chosen (mem_nonRunning.mp ht).2.2 hq)

theorem child_after_parent (h : sat σ (gen I)) (hwf : I.wf = true) (hm : I.noModel = false)
    (hG : I.cplex = false) {c p : Nat} (hc : c ∈ I.nonRunning) (hp : p ∈ I.parentVars c)
    (hrp : I.running p = false) {qc qp : Cell} (hqc : I.chosen σ c = some qc)
    (hqp : I.chosen σ p = some qp) :
    I.slot qp.2.1 + (I.slowest p : Nat) + 1 ≤ I.slot qc.2.1 := by
  have hpn : p ∈ I.nonRunning := nonRunning_of_act (List.mem_filter.mp hp).1 hrp
  have h1 := start_after_parent h hG hc hp
  rw [startE_eval_nonRunning σ hrp, start_is_slot h hwf hm hG hpn hqp,
    start_is_slot h hwf hm hG hc hqc] at h1
  simpa [Inst.parentDur, hrp] using h1

/-- Hence also not before the parent's start plus the runtime of the strategy chosen for it (at
most the slowest). -/
theorem child_after_parent_chosen (h : sat σ (gen I)) (hwf : I.wf = true) (hm : I.noModel = false)
    (hG : I.cplex = false) {c p : Nat} (hc : c ∈ I.nonRunning) (hp : p ∈ I.parentVars c)
    (hrp : I.running p = false) {qc qp : Cell} (hqc : I.chosen σ c = some qc)
    (hqp : I.chosen σ p = some qp) :
    I.slot qp.2.1 + (I.runtime p qp.2.2 : Nat) + 1 ≤ I.slot qc.2.1 := by
  have h1 := child_after_parent h hwf hm hG hc hp hrp hqc hqp
  have h2 := le_slowest (I := I) (t := p) (mem_keys.mp (chosen_spec hqp).1).2.2
  omega

/-- **RUNNING parent:** the child starts after the parent's expected finish `now + remaining`. -/
theorem after_running_parent (h : sat σ (gen I)) (hwf : I.wf = true) (hm : I.noModel = false)
    (hG : I.cplex = false) {c p : Nat} (hc : c ∈ I.nonRunning) (hp : p ∈ I.parentVars c)
    (hrp : I.running p = true) {qc : Cell} (hqc : I.chosen σ c = some qc) :
    I.now + ((I.task p).remaining : Nat) + 1 ≤ I.slot qc.2.1 := by
  have h1 := start_after_parent h hG hc hp
  rw [startE_eval_running σ hrp, start_is_slot h hwf hm hG hc hqc] at h1
  simpa [Inst.parentDur, hrp] using h1

/-- **C11 over the returned decisions.** If `schedule()` places a child, then for every parent
with variables that is not RUNNING it also returns a placement, and the child's time is at least
the parent's time plus the runtime of the parent's chosen strategy (plus one). -/
theorem decisions_ordered (h : sat σ (gen I)) (hwf : I.wf = true) (hm : I.noModel = false)
    (hG : I.cplex = false) {c p : Nat} (hc : c ∈ I.nonRunning) (hp : p ∈ I.parentVars c)
    (hrp : I.running p = false) {wc sc : Nat} {tc : Int}
    (hd : (I.decodeTask σ c).out = .placed wc sc tc) :
    ∃ wp sp tp, (I.decodeTask σ p).out = .placed wp sp tp ∧
      tp + (I.runtime p sp : Nat) + 1 ≤ tc := by
  obtain ⟨kc, hqc, rfl⟩ := decodeTask_placed hd
  have hsome := (child_placed_parents_placed h hwf hm hG hc hqc hp).1.resolve_left (by simp [hrp])
  obtain ⟨qp, hqp⟩ := Option.isSome_iff_exists.mp hsome
  refine ⟨qp.1, qp.2.2, I.slot qp.2.1, ?_, ?_⟩
  · simp [Inst.decodeTask, hqp]
  · exact child_after_parent_chosen h hwf hm hG hc hp hrp hqc hqp

/-! ### Non-vacuity: a chain `A → B` and a feasible point of the real model -/

/-- One worker (CPU 1), `now = 0`, four slots (`plan_ahead = 3`), `A` (runtime 1) → `B` (runtime 1). -/
def exInst : Inst :=
  { cplex := false, now := 0, disc := 1, planAheadOpt := 3
    workers := [⟨"W0", "P0", [("CPU", 1)]⟩]
    tasks := [⟨"A@G", "A", 0, "G", .released, 0, 9, [⟨1, [("CPU", 1)]⟩], 0, 0, 0⟩,
              ⟨"B@G", "B", 0, "G", .virtual, -1, 9, [⟨1, [("CPU", 1)]⟩], 0, 0, 0⟩]
    nOffered := 2
    nodes := [⟨"A@G", "A", 0, "G"⟩, ⟨"B@G", "B", 0, "G"⟩]
    edges := [("A@G", "B@G")]
    enforceDeadlines := true, retract := true, releaseTaskgraphs := true }

/-- `A` at slot 0, `B` at slot 2 (the earliest the rows allow: `0 + 1 + 1`). -/
def exSigma : Var → Int
  | .cell 0 0 0 0 => 1
  | .cell 1 0 2 0 => 1
  | .placedAt 0 0 => 1
  | .placedAt 1 2 => 1
  | .notPlacedAt 0 0 => 0
  | .notPlacedAt 1 2 => 0
  | .notPlacedAt _ _ => 1
  | .phase 1 2 => 1
  | .start 0 => 0
  | .start 1 => 2
  | .isPlaced _ => 1
  | .allParents 1 => 1
  | _ => 0

example : exInst.wf = true ∧ exInst.noModel = false := by decide
example : exInst.parentVars 1 = [0] := by decide
example : sat exSigma (gen exInst) := by decide
example : decode exInst exSigma = [⟨0, .placed 0 0 0⟩, ⟨1, .placed 0 0 2⟩] := by decide
/-- `B` one slot earlier is not a feasible point. -/
example : ¬ sat (fun v => match v with
    | .cell 1 0 2 0 => 0 | .cell 1 0 1 0 => 1 | .placedAt 1 2 => 0 | .placedAt 1 1 => 1
    | .notPlacedAt 1 2 => 1 | .notPlacedAt 1 1 => 0 | .phase 1 2 => 0 | .phase 1 1 => 1
    | .start 1 => 1 | v => exSigma v) (gen exInst) := by decide

end ErdosVerif.C11_Tetri
