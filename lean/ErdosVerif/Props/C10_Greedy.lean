import ErdosVerif.Props.C13
import ErdosVerif.Lemmas.GreedyOk
import ErdosVerif.Lemmas.GreedyCopy
import ErdosVerif.Lemmas.LedgerByName
/-!
# C10 (greedy clauses) — EDF / FIFO / LSF return a complete, feasible decision

Model: `ErdosVerif.Model.Greedy`. `schedule cfg offer live = .ok r`: see `Props/C13.lean`.
Clauses: at most one decision per task, only offered tasks, every offered task answered;
every placement names an existing pool, a strategy of the task, the invocation time (which is
not before the release of an offered task); all placements together with what is already
running keep every worker within its capacity (the virtual cluster at return satisfies the
ledger invariant and *is* the copy of the live cluster charged with the reported placements).

Side-effect freedom is structural in the model (`schedule` is a function of immutable values
and returns decisions only); the tie to the code is the suite, which snapshots every getter
of the live cluster and every task field before and after the real call.

LSF: finding D13 (the virtual cluster was charged with another strategy than the reported one, so
the reported placements could over-commit a worker) is fixed in /repo 366b4de; `jointly_feasible`
holds for all three policies.
-/
namespace ErdosVerif.C10_Greedy
open ErdosVerif.Model ErdosVerif.Model.Greedy

/-- The answered tasks are exactly the offered tasks, each as often as it was offered. -/
theorem decisions_perm_offer (cfg : Cfg) (offer : List Offered) (live : List Pool) (r : Result)
    (h : schedule cfg offer live = .ok r) :
    (r.placements.map (·.task)).Perm (offer.map (·.id)) :=
  schedule_tasks_perm h

/-- At most one decision per task (`get_schedulable_tasks` offers a task once). -/
theorem one_decision (cfg : Cfg) (offer : List Offered) (live : List Pool) (r : Result)
    (h : schedule cfg offer live = .ok r) (hnd : (offer.map (·.id)).Nodup) :
    (r.placements.map (·.task)).Nodup :=
  (decisions_perm_offer cfg offer live r h).nodup_iff.mpr hnd

/-- Decisions only for offered tasks. -/
theorem only_offered (cfg : Cfg) (offer : List Offered) (live : List Pool) (r : Result)
    (h : schedule cfg offer live = .ok r) : ∀ d ∈ r.placements, ∃ o ∈ offer, o.id = d.task := by
  intro d hd
  have : d.task ∈ offer.map (·.id) :=
    (decisions_perm_offer cfg offer live r h).mem_iff.mp (List.mem_map.mpr ⟨d, hd, rfl⟩)
  obtain ⟨o, ho, he⟩ := List.mem_map.mp this
  exact ⟨o, ho, he⟩

/-- Every offered task is answered. -/
theorem answers_all (cfg : Cfg) (offer : List Offered) (live : List Pool) (r : Result)
    (h : schedule cfg offer live = .ok r) : ∀ o ∈ offer, ∃ d ∈ r.placements, d.task = o.id := by
  intro o ho
  have : o.id ∈ r.placements.map (·.task) :=
    (decisions_perm_offer cfg offer live r h).mem_iff.mpr (List.mem_map.mpr ⟨o, ho, rfl⟩)
  obtain ⟨d, hd, he⟩ := List.mem_map.mp this
  exact ⟨d, hd, he⟩

/-- Every decision `d` (given for the offered task `o`) is a cancellation, a "not placed"
answer, or a placement naming an existing pool of the cluster, a strategy from the task's own
list, the invocation time, and no worker. -/
theorem placement_wellformed (cfg : Cfg) (offer : List Offered) (live : List Pool) (r : Result)
    (h : schedule cfg offer live = .ok r) :
    r.placements.length = r.order.length ∧
    ∀ o d, (o, d) ∈ r.order.zip r.placements → o ∈ offer ∧ Wf cfg live.length o d := by
  obtain ⟨hc, _, ho, hr⟩ := schedule_ok cfg offer live r h
  refine ⟨run_length cfg _ _ _ _ hr, ?_⟩
  intro o d hm
  have hw := run_wf cfg r.virt0 r.order r.placements r.virt hr o d hm
  rw [copyPools_length live r.virt0 hc] at hw
  refine ⟨?_, hw⟩
  have := (List.of_mem_zip hm).1
  rw [ho] at this
  exact (mem_sortBy o offer).mp this

/-- Placement time: the invocation time, hence not before now, and not before the release of
the task whenever the offer only contains tasks released by now (what
`get_schedulable_tasks` with lookahead 0 guarantees for RELEASED tasks). -/
theorem placement_time (cfg : Cfg) (offer : List Offered) (live : List Pool) (r : Result)
    (h : schedule cfg offer live = .ok r) (hrel : ∀ o ∈ offer, o.task.release ≤ cfg.now) :
    ∀ o d, (o, d) ∈ r.order.zip r.placements → ∀ τ, d.time = some τ →
      τ = cfg.now ∧ o.task.release ≤ τ := by
  intro o d hm τ hτ
  obtain ⟨hoff, _, _, hw⟩ := (placement_wellformed cfg offer live r h).2 o d hm
  rcases hw with ⟨_, _, _, ht⟩ | ⟨_, _, _, ht⟩ | ⟨_, i, s, _, _, _, _, ht⟩
  · rw [ht] at hτ; cases hτ
  · rw [ht] at hτ; cases hτ
  · rw [ht] at hτ; cases hτ
    exact ⟨rfl, hrel o hoff⟩

/-- **jointly_feasible** — EDF, FIFO and LSF. The copy the policy plans on and the virtual
cluster at return satisfy the ledger invariant; availability only went down; and the virtual
cluster at return is exactly the copy of the live cluster — running tasks included — charged in
order with the reported placements through the ledger API.  So the reported placements, charged
in order to the live occupancy, leave a consistent ledger (that each single charge is accepted is
`placed_fits`, not part of this statement). -/
theorem jointly_feasible (cfg : Cfg) (offer : List Offered) (live : List Pool) (r : Result)
    (h : schedule cfg offer live = .ok r) (hinv : ClusterInv live) :
    ClusterInv r.virt0 ∧ ClusterInv r.virt ∧ ClusterLe r.virt r.virt0 ∧
    accountAll r.virt0 r.order r.placements = r.virt := by
  obtain ⟨hc, _, _, hr⟩ := schedule_ok cfg offer live r h
  have h0 := copyPools_inv live r.virt0 hinv hc
  have h1 := run_le cfg r.virt0 r.order r.placements r.virt h0 hr
  exact ⟨h0, h1.1, h1.2, C13.reported_accounting cfg offer live r h hinv⟩

/-- **The plan starts from the live occupancy**: the copy the policy plans on has the same pools
and workers as the live cluster, with the same totals, the same availability per resource type and
the same resident (running) tasks — so "charged to `r.virt0`" in `jointly_feasible` means "together
with the already running tasks". -/
theorem plans_on_live_occupancy (cfg : Cfg) (offer : List Offered) (live : List Pool) (r : Result)
    (h : schedule cfg offer live = .ok r) (hinv : ClusterInv live) :
    r.virt0.length = live.length ∧
    ∀ (i : Nat) p p0, live[i]? = some p → r.virt0[i]? = some p0 → SamePool p0 p :=
  copyPools_same live r.virt0 hinv (schedule_ok cfg offer live r h).1

/-- Consequence for every worker of the virtual cluster at return and every resource type:
what is held (by running tasks and by the new placements) never exceeds the capacity, and
available + held = capacity. -/
theorem within_capacity (cfg : Cfg) (offer : List Offered) (live : List Pool) (r : Result)
    (h : schedule cfg offer live = .ok r) (hinv : ClusterInv live) :
    ∀ p ∈ r.virt, ∀ w ∈ p.workers, ∀ n : String,
      byName w.res.avail n + allocByName w.res.allocs n = byName w.res.total n ∧
      allocByName w.res.allocs n ≤ byName w.res.total n := by
  obtain ⟨hc, _, _, hr⟩ := schedule_ok cfg offer live r h
  have h0 := copyPools_inv live r.virt0 hinv hc
  have h1 := (run_le cfg r.virt0 r.order r.placements r.virt h0 hr).1
  intro p hp w hw n
  have := Resources.conserve_byName w.res (h1 p hp w hw) n
  exact ⟨this, by omega⟩

/-- A placed task's strategy really fitted a worker of the pool it names, in the virtual
cluster reached after the tasks processed before it. -/
theorem placed_fits (cfg : Cfg) (offer : List Offered) (live : List Pool) (r : Result)
    (h : schedule cfg offer live = .ok r) (pre post : List Offered) (t : Offered)
    (hsplit : r.order = pre ++ t :: post) (d : PlacementS) (hd : r.placements[pre.length]? = some d)
    (i : Nat) (s : Strategy) (hp : d.pool = some i) (hst : d.strat = some s) :
    ∃ dpre Vpre p, run cfg r.virt0 pre = .ok (dpre, Vpre) ∧ Vpre[i]? = some p ∧
      p.canAccommodate s = true := by
  obtain ⟨dpre, Vpre, d', Vt, dpost, h1, hstep, _, _, _, hd', _⟩ := schedule_at h hsplit
  obtain rfl : d' = d := Option.some.inj (hd'.symm.trans hd)
  obtain ⟨_, q, hq, hcq⟩ := step_placed hstep hp hst
  exact ⟨dpre, Vpre, q, h1, hq, hcq⟩

/-- **Returns normally** on what the loaders build: every offered task has at least one strategy,
all strategies are plain `ExecutionStrategy` objects whose requirement has one entry per resource
name (`NiceTask`); `copy(worker_pools)` succeeds (a hypothesis: that it does on clusters whose
resources carry concrete ids is checked by the suite only, docs/planner_greedy.md) and the LSF keys
are defined (`lsf_keys_defined`). No hypothesis on occupancy, deadlines, releases or the policy. -/
theorem returns_normally (cfg : Cfg) (offer : List Offered) (live V0 : List Pool)
    (hcopy : copyPools live = .ok V0) (hkey : keyError? cfg offer = none)
    (hn : ∀ o ∈ offer, NiceTask o) : ∃ r, schedule cfg offer live = .ok r :=
  schedule_ok_of_nice cfg offer live V0 hcopy hkey hn

/-- The sort keys never raise for EDF / FIFO, and for LSF when every offered task is RELEASED or
VIRTUAL with a strategy, or PREEMPTED with a recorded remaining time. -/
theorem lsf_keys_defined (cfg : Cfg) (offer : List Offered)
    (h : ∀ o ∈ offer, (o.task.strategies ≠ [] ∧ (o.task.state = .released ∨ o.task.state = .virtual)) ∨
      o.task.remaining.isSome ∧ o.task.state = .preempted) : keyError? cfg offer = none :=
  keyError_none cfg offer h

/-- The witness offer is `NiceTask` throughout (the hypothesis is satisfiable with multi-strategy
tasks and contention). -/
example : ∀ o ∈ Witness.offer, NiceTask o := by
  unfold NiceTask Resources.NiceReq
  decide

open Witness in
/-- On the input of the former finding D13 (LSF reported A and C both on the single GPU; fixed in
/repo 366b4de) every reported placement of LSF now fits the cluster charged with the earlier
reported placements: C is left unplaced and does not fit after A and B. -/
example :
    ∃ r, schedule (cfg .lsf) offer live = .ok r ∧
      (summary r == [(⟨0, 0⟩, some 0, some 0), (⟨1, 0⟩, some 0, some 2), (⟨2, 0⟩, none, none)]
        && !fitsSomewhere (accountAll r.virt0 (r.order.take 2) (r.placements.take 2)) sC) = true :=
  ok_of_match _ _ (by decide)

open Witness in
/-- EDF on the witness returns normally with three decisions, the hypotheses of the theorems
above hold for it (`C13`'s example shows `ClusterInv live`; the offer ids are distinct). -/
example : (∃ r, schedule (cfg .edf) offer live = .ok r ∧ (r.placements.length == 3) = true) ∧
    (offer.map (·.id)).Nodup :=
  ⟨ok_of_match _ _ (by decide), by decide⟩

/-- A partially occupied cluster: task 7 runs on the CPU worker of the witness pool; EDF then
leaves B unplaced (and A takes the GPU). -/
example :
    let liveBusy := Witness.live.map (fun p => (p.placeTask 7 [Witness.sB] (some Witness.sB) (some 0)).1)
    ∃ r, schedule (Witness.cfg .edf) Witness.offer liveBusy = .ok r ∧
      (Witness.summary r == [(⟨0, 0⟩, some 0, some 0), (⟨1, 0⟩, none, none), (⟨2, 0⟩, none, none)]) = true :=
  ok_of_match _ _ (by decide)

end ErdosVerif.C10_Greedy
