/-
C11 (Z3 clause): for EVERY assignment `σ` satisfying the hard assertions the Z3 scheduler
hands to `z3.Optimize` (not only the optimum z3 happens to return), a task is placed only if
every predecessor offered in the same invocation is placed, and it starts no earlier than
`parent start + parent.remaining_time` (the slowest strategy of a VIRTUAL / RELEASED parent).

The last clause of C11 ("for predecessors that are already running or scheduled, not earlier
than their expected finish") does NOT hold for the Z3 scheduler: a predecessor that is not
offered in the call imposes nothing (finding C11-Z3-1, `unoffered_parent_counterexample`);
what does hold for such a child is `start ≥ now` only (`start_not_before_now_partial`).
-/
import ErdosVerif.Lemmas.Z3Chain
import ErdosVerif.Lemmas.Z3Decode
namespace ErdosVerif.C11_Z3
open ErdosVerif.Z3m

/-- **C11 (a).** Child placed ⇒ every parent offered in the same call is placed. -/
theorem child_placed_parents_placed {I : Inst} {σ : Assign Var} (h : sat σ (gen I)) {c p : Nat}
    (hc : c < I.nT) (hp : p ∈ I.parentVars c) (hpl : σ.b (.placed c) = true) :
    σ.b (.placed p) = true := (parent_ordered h hc hp hpl).1

/-- **C11 (b).** Child placed ⇒ `start child ≥ start parent + remaining(parent)`. -/
theorem start_after_parent {I : Inst} {σ : Assign Var} (h : sat σ (gen I)) {c p : Nat}
    (hc : c < I.nT) (hp : p ∈ I.parentVars c) (hpl : σ.b (.placed c) = true) :
    σ.i (.start c) ≥ σ.i (.start p) + (I.rem p : Int) := (parent_ordered h hc hp hpl).2

/-- The same along any chain of offered tasks (ancestor `a`, descendant `b`). -/
theorem start_after_ancestor {I : Inst} {σ : Assign Var} (h : sat σ (gen I)) {k a b : Nat}
    (hb : b ∈ I.descIn k a) (hpl : σ.b (.placed b) = true) :
    σ.b (.placed a) = true ∧ σ.i (.start b) ≥ σ.i (.start a) + (I.rem a : Int) :=
  linked_ordered h hb hpl

/-- **C11 over what `schedule()` returns**: if the decision for `c` is a placement at `tc`,
every offered parent `p` has a decision that is a placement at some `tp` with
`tc ≥ tp + remaining(p)`. -/
theorem decisions_ordered {I : Inst} {σ : Assign Var} (h : sat σ (gen I)) {c p wc : Nat} {tc : Int}
    (hc : c < I.nT) (hp : p ∈ I.parentVars c) (hd : (⟨c, some (wc, tc)⟩ : Decision) ∈ decode I σ) :
    ∃ wp tp, (⟨p, some (wp, tp)⟩ : Decision) ∈ decode I σ ∧ tc ≥ tp + (I.rem p : Int) := by
  obtain ⟨_, hplc, _, rfl⟩ := decision_spec hd
  obtain ⟨hpp, hle⟩ := parent_ordered h hc hp hplc
  obtain ⟨k, _, hk⟩ := (placed_ok h (parentVars_lt hp) hpp).worker
  exact ⟨k, σ.i (.start p), placed_mem_decode (parentVars_lt hp) hpp hk, hle⟩

/-! ### Predecessors that are not part of the call (finding C11-Z3-1)

Full statement that the property asks for and that is FALSE for the current code:

  ∀ I σ, sat σ (gen I) → ∀ c < I.nT, ∀ n ∈ I.nodes, (n.uniq, I.tname c) ∈ I.edges →
    I.idxOf n.uniq = none → 0 ≤ n.finish → σ.b (.placed c) = true → σ.i (.start c) ≥ n.finish

(`n.finish` = expected finish of a RUNNING / SCHEDULED node.) -/

/-- What remains true for a child whose predecessor is not offered: it starts at or after `now`. -/
theorem start_not_before_now_partial {I : Inst} {σ : Assign Var} (h : sat σ (gen I)) {c : Nat}
    (hc : c < I.nT) (hpl : σ.b (.placed c) = true) : σ.i (.start c) ≥ I.now :=
  (placed_ok h hc hpl).now_le

/-- now = 3; A (RUNNING on W0 with 1 of its 2 CPUs, 3 µs left: expected finish 6) → B (VIRTUAL,
offered by lookahead, 1 CPU, runtime 2). -/
def exRun : Inst :=
  { now := 3,
    workers := [⟨"W0", "P0", [⟨"CPU", 2, 1⟩]⟩],
    tasks := [⟨"B@G0", "G0", .virtual, -1, 30, 0, [⟨2, [("CPU", 1)]⟩]⟩],
    nodes := [⟨"A@G0", "G0", 30, 6⟩, ⟨"B@G0", "G0", 30, -1⟩],
    edges := [("A@G0", "B@G0")],
    enforceDeadlines := true }

/-- The optimum z3 returns on `exRun`: B on W0 at 3. -/
def exRunσ : Assign Var :=
  { i := fun v => match v with
      | .start 0 => 3 | .penalty => -2000000000 | .slack _ => 25 | .slackSum => 25 | _ => 0,
    b := fun v => match v with | .placed 0 => true | _ => false,
    v := fun v => match v with | .worker 0 => [true] | .res 0 _ => [true] | _ => [] }

/-- **Finding C11-Z3-1.** The child of a RUNNING parent is placed before the parent's
expected finish by a satisfying assignment (here: the one the solver returns). -/
theorem unoffered_parent_counterexample :
    exRun.crash = none ∧ sat exRunσ (gen exRun) ∧
    decode exRun exRunσ = [⟨0, some (0, 3)⟩] ∧
    ¬ (∀ n ∈ exRun.nodes, (n.uniq, exRun.tname 0) ∈ exRun.edges → exRun.idxOf n.uniq = none →
        0 ≤ n.finish → exRunσ.i (.start 0) ≥ n.finish) := by
  refine ⟨by decide, by decide, by decide, ?_⟩
  intro hall
  have := hall ⟨"A@G0", "G0", 30, 6⟩ (by decide) (by decide) (by decide) (by decide)
  revert this; decide

/-! ### Non-vacuity: a chain with both tasks offered -/

/-- A (RELEASED, runtime 4) → B (VIRTUAL, runtime 2, needs the GPU of W1), C unrelated. -/
def exChain : Inst :=
  { now := 0,
    workers := [⟨"W0", "P0", [⟨"CPU", 2, 2⟩]⟩, ⟨"W1", "P0", [⟨"CPU", 1, 1⟩, ⟨"GPU", 1, 1⟩]⟩],
    tasks := [⟨"A@G0", "G0", .released, 0, 30, 0, [⟨4, [("CPU", 1)]⟩]⟩,
              ⟨"B@G0", "G0", .virtual, -1, 30, 0, [⟨2, [("CPU", 1), ("GPU", 1)]⟩]⟩,
              ⟨"C@G1", "G1", .released, 0, 30, 0, [⟨3, [("CPU", 2)]⟩]⟩],
    nodes := [⟨"A@G0", "G0", 30, -1⟩, ⟨"B@G0", "G0", 30, -1⟩, ⟨"C@G1", "G1", 30, -1⟩],
    edges := [("A@G0", "B@G0")],
    enforceDeadlines := true }

/-- A on W1 at 0, B on W1 at 4, C on W0 at 0 (what z3 returns). -/
def exChainσ : Assign Var :=
  { i := fun v => match v with
      | .start 0 => 0 | .start 1 => 4 | .start 2 => 0
      | .penalty => -2000000000 | .slack "G0" => 24 | .slack "G1" => 27 | .slackSum => 75 | _ => 0,
    b := fun v => match v with
      | .placed _ => true
      | .endsBefore 0 2 => false | .endsBefore 2 0 => false | .overlap 0 2 => true
      | .endsBefore 1 2 => false | .endsBefore 2 1 => true | .overlap 1 2 => false
      | .indep _ _ _ _ => false
      | _ => false,
    v := fun v => match v with
      | .worker 0 => [false, true] | .worker 1 => [false, true] | .worker 2 => [true, false]
      | .res 0 _ => [true, true] | .res 1 "CPU" => [true, true] | .res 1 _ => [true]
      | .res 2 _ => [true, true]
      | _ => [] }

example : exChain.crash = none ∧ exChain.wf = true := by decide
example : sat exChainσ (gen exChain) := by decide
example : 1 ∈ exChain.descIn 3 0 ∧ exChain.parentVars 1 = [0] := by decide
example : decode exChain exChainσ = [⟨0, some (1, 0)⟩, ⟨1, some (1, 4)⟩, ⟨2, some (0, 0)⟩] := by decide

end ErdosVerif.C11_Z3
