import ErdosVerif.Lemmas.SimLedgerRun
import ErdosVerif.Lemmas.SimLedgerRunSum
import ErdosVerif.Props.C01_Run
/-!
# C01 over a whole run — what the ledgers hold

In every state a run of the simulator model can be in — at the head of the `simulate()` loop, at
a normal end, out of fuel or at the raise point of an aborted handler (any world satisfying
`lwf0`, any decision tape, any draw tape, any fuel) — for every worker of every pool:

* every resident task placed with a non-batch strategy has a ledger entry that holds, per
  resource type, exactly the demand of that strategy;
* every live batch has one placeholder entry (whatever the number of members) that holds the
  demand of a strategy with the batch's identity — the one that opened the batch;
* per resource type, Σ demand of the strategies of the resident (non-batch) tasks + what the
  batch placeholders and the profiles hold = total − available, hence ≤ total (C01's statement
  with the *demands of the placed strategies* instead of the ledger's own sums).

The three together are `HoldsDemands`, proved of every worker by `resident_demands*`.
-/
namespace ErdosVerif.C01
open ErdosVerif.Model ErdosVerif.Model.Sim

def HoldsDemands (w : Worker) : Prop :=
  (∀ t s, AList.get? w.placed t = some s → s.isBatch = false →
    ∃ l, AList.get? w.res.allocs (.task t) = some l ∧ ∀ n, pairsByName l n = byName s.req n) ∧
  (∀ n, byName w.res.avail n + (taskDemand w.placed n + heldBy Comp.isBatch w.res.allocs n +
      heldBy Comp.isProfile w.res.allocs n) = byName w.res.total n) ∧
  (∀ n, taskDemand w.placed n ≤ byName w.res.total n) ∧
  (∀ sid ms, AList.get? w.batches sid = some ms → ∃ (g : Nat) (l : List (Res × Nat)) (s0 : Strategy),
    AList.get? w.batchTask sid = some (.batch g) ∧ AList.get? w.res.allocs (.batch g) = some l ∧
    s0.sid = sid ∧ s0.isBatch = true ∧ ∀ n, pairsByName l n = byName s0.req n)

theorem holdsDemands_of_lok (w : Worker) (hl : w.LOK) : HoldsDemands w :=
  ⟨hl.1.taskHeld, fun n => (hl.1.demand_eq n).1, fun n => (hl.1.demand_eq n).2, hl.2.batchHeld⟩

/-- **In every state a run can be in** — after the constructor and any number of loop iterations,
ended normally, out of fuel or aborted by an exception at any point of any handler — **every
resident holds the demand of the strategy it was placed with** (a batch once, in its placeholder's
entry) **and Σ demand of the resident strategies (+ batch placeholders + profiles) = total −
available ≤ total**, per worker and resource type. -/
theorem resident_demands (s0 : SimS) (fuel : Nat) (h : lwf0 s0 = true) :
    ∀ p ∈ (simulate s0 fuel).2.pools.toList, ∀ w ∈ p.workers, HoldsDemands w :=
  fun p hp w hw => holdsDemands_of_lok w ((simulate_ledger_weak s0 fuel (good_initial s0 h)).2 p hp w hw)

/-- The same when the run ended normally (a corollary, kept for the registry). -/
theorem resident_demands_at_end (s0 : SimS) (fuel : Nat) (h : lwf0 s0 = true) (_hok : (simulate s0 fuel).1 = none) :
    ∀ p ∈ (simulate s0 fuel).2.pools.toList, ∀ w ∈ p.workers, HoldsDemands w :=
  resident_demands s0 fuel h

/-- **… and at the head of the `simulate()` loop after any number `k` of completed iterations**
(and at the raise point if one of them raised). -/
theorem resident_demands_at_loop_head (s0 : SimS) (k : Nat) (h : lwf0 s0 = true) :
    HoldsAfter (fun _ s => ∀ p ∈ s.pools.toList, ∀ w ∈ p.workers, HoldsDemands w)
      (fun s => ∀ p ∈ s.pools.toList, ∀ w ∈ p.workers, HoldsDemands w)
      ((ExceptT.run (do init; runK k : SimM Bool)).run s0) :=
  (loop_head_ledger s0 k (good_initial s0 h)).imp
    (fun _ _ hA p hp w hw => holdsDemands_of_lok w (hA.2 p hp w hw))
    (fun _ hW p hp w hw => holdsDemands_of_lok w (hW.2 p hp w hw))

/-- C01's inequality alone: in every state no worker's resident strategies demand more of a
resource type than the worker has. -/
theorem resident_demand_le_total (s0 : SimS) (fuel : Nat) (h : lwf0 s0 = true) :
    ∀ p ∈ (simulate s0 fuel).2.pools.toList, ∀ w ∈ p.workers, ∀ n, taskDemand w.placed n ≤ byName w.res.total n :=
  fun p hp w hw => (resident_demands s0 fuel h p hp w hw).2.2.1

theorem exWorld_lwf : lwf0 exWorld = true := by
  simp [lwf0, wf0, quietB, workerFresh, exWorld, Worker.ofVec, Resources.ofVec]

example : ∀ fuel, (simulate exWorld fuel).1 = none →
    ∀ p ∈ (simulate exWorld fuel).2.pools.toList, ∀ w ∈ p.workers, HoldsDemands w :=
  fun fuel => resident_demands_at_end exWorld fuel exWorld_lwf

/-- Non-vacuity of the conclusion: a worker with a resident task that demands one GPU satisfies
`HoldsDemands` with a non-zero sum; the same worker with a doubled ledger entry does not. -/
example :
    let st : Strategy := ⟨0, false, 1, 5, [(⟨"GPU", none⟩, 1)]⟩
    let w1 := ((Worker.ofVec [(⟨"GPU", some 1⟩, 2)]).placeTask 7 st).1
    HoldsDemands w1 ∧ taskDemand w1.placed "GPU" = 1 ∧
    ¬ HoldsDemands { w1 with res := { w1.res with allocs := [(.task 7, [(⟨"GPU", some 1⟩, 2)])] } } := by
  intro st w1
  refine ⟨?_, by decide, ?_⟩
  · exact holdsDemands_of_lok _ (Worker.lk_placeTask _ 7 _ (Worker.LOK.ofVec _ (by decide)) (by decide) (by decide))
  · intro h
    obtain ⟨l, hl, hamt⟩ := h.1 7 st (by decide) rfl
    have hl' : l = [(⟨"GPU", some 1⟩, 2)] := by
      have : AList.get? [(Comp.task 7, [((⟨"GPU", some 1⟩ : Res), 2)])] (Comp.task 7) = some l := hl
      simp [AList.get?] at this
      exact this.symm
    have := hamt "GPU"
    rw [hl'] at this
    revert this
    decide

/-! ### profiles: "each profile holds its loading strategy's demand" is FALSE of the model (finding) -/

def cxLoad : Strategy := ⟨9, false, 1, 5, [(⟨"GPU", none⟩, 1)]⟩

/-- One pool with one two-GPU worker, no task graph; the first scheduler answer loads profile 5 twice. -/
def cxWorld2 : SimS :=
  { flags := { loopTimeout := 1000 }, jobs := #[], allGraphs := #[], allMeta := #[],
    pools := #[⟨[Worker.ofVec [(⟨"GPU", some 1⟩, 2)]], []⟩], poolNames := #["pool"], tape := [],
    decisions := [⟨[{ kind := .load, task := ⟨0, 0⟩, profile := 5, time := some 1, pool := some 0, worker := some 0,
                      strat := some cxLoad },
                    { kind := .load, task := ⟨0, 0⟩, profile := 5, time := some 1, pool := some 0, worker := some 0,
                      strat := some cxLoad }], 1, none⟩] }

set_option maxRecDepth 100000 in
/-- **COUNTEREXAMPLE (finding): a profile can hold twice its loading strategy's demand.** After 8
iterations of the `simulate()` loop (a loop head) of a run from a well-formed world, profile 5 is
loading with a strategy that demands 1 GPU and its ledger entry holds 2 GPUs: `load_profile` of a
profile that is already loading charges the entry again and overwrites the recorded strategy. -/
theorem profile_double_charge_counterexample :
    lwf0 cxWorld2 = true ∧
    (match ((ExceptT.run (do init; runK 8 : SimM Bool)).run cxWorld2).1 with | .ok false => true | _ => false) = true ∧
    (let w := (((ExceptT.run (do init; runK 8 : SimM Bool)).run cxWorld2).2.pools[0]?).bind (fun p => p.workers[0]?)
     w.map (fun w => w.pendProf) = some [(5, cxLoad)] ∧
     w.map (fun w => (AList.get? w.res.allocs (.profile 5)).map (fun l => pairsByName l "GPU")) = some (some 2) ∧
     byName cxLoad.req "GPU" = 1) := by
  decide +kernel

/-! ### the same task placed twice in one scheduler answer: the model follows the second placement

When one scheduler answer places the same task twice, `__create_events_from_task_placement` re-schedules the
task and mutates the cached TASK_PLACEMENT event *object* — which at that moment is still in the local list
`simulator_events` of `__handle_scheduler_finish`, not in the queue. An edit that reaches queued events only
(`editEvent`) leaves the pending event with the first placement while the task records the second one's pool
(`cxTwiceOld` below; `docs/ledger_run.md` Findings 3). `handleSchedulerFinish` therefore applies the same edit
to its pending list (`Sim.cachedOf` / `Sim.editPending`); the end-to-end correspondence covers it with a
duplicate-placing policy (`docs/dupfix.md`). -/

def cxStrat3 : Strategy := ⟨0, false, 1, 5, [(⟨"GPU", none⟩, 1)]⟩

/-- Two one-GPU pools, one task released at 0; the first scheduler answer places it at time 2 on pool 0 and,
in the same answer, on pool 1. -/
def cxWorld3 : SimS :=
  let w : Worker := Worker.ofVec [(⟨"GPU", some 1⟩, 1)]
  let tk : TaskS :=
    { name := "a", conditional := false, terminal := false, prob := 1000, strategies := [cxStrat3], profile := 0,
      deadline := 100, release := 0, intendedRelease := 0 }
  let g : GraphS := { name := "g", tasks := #[tk], children := #[[]], parents := #[[]], topo := [0] }
  { flags := { loopTimeout := 1000 }, jobs := #[⟨"j", false, 0, 0, g, 5⟩], allGraphs := #[g], allMeta := #[⟨0, 0, 5⟩],
    pools := #[⟨[w], []⟩, ⟨[w], []⟩], poolNames := #["p0", "p1"], tape := [.fuzz 5, .fuzz 5],
    decisions := [⟨[{ kind := .place, task := ⟨0, 0⟩, time := some 2, pool := some 0, strat := some cxStrat3 },
                    { kind := .place, task := ⟨0, 0⟩, time := some 2, pool := some 1, strat := some cxStrat3 }], 1, none⟩,
                  ⟨[], 1, none⟩, ⟨[], 1, none⟩, ⟨[], 1, none⟩] }

/-- The two placements of the first answer, processed as `handleSchedulerFinish` (`__handle_scheduler_finish`)
does: the events of all placements are collected first — the second placement re-times the cached event of the
first one, which is still in the local list (`cachedOf` / `editPending`) — and queued afterwards, sorted. -/
def cxTwice : SimM Unit := do
  let p1 : PlacementS := { kind := .place, task := ⟨0, 0⟩, time := some 2, pool := some 0, strat := some cxStrat3 }
  let p2 : PlacementS := { kind := .place, task := ⟨0, 0⟩, time := some 2, pool := some 1, strat := some cxStrat3 }
  let e1 ← placementEvents 1 p1
  let c := cachedOf (← get) p2
  let e2 ← placementEvents 1 p2
  for e in Heap.pySorted SEvent.lt (editPending c p2 e1 ++ e2) do addEvent e

/-- The same without the edit of the pending list (`editEvent` reaches queued events only). -/
def cxTwiceOld : SimM Unit := do
  let e1 ← placementEvents 1 { kind := .place, task := ⟨0, 0⟩, time := some 2, pool := some 0, strat := some cxStrat3 }
  let e2 ← placementEvents 1 { kind := .place, task := ⟨0, 0⟩, time := some 2, pool := some 1, strat := some cxStrat3 }
  for e in e1 ++ e2 do addEvent e

/-- `cxWorld3` after the loader handed over its task graph. -/
def cxState3 : SimS := { cxWorld3 with graphs := cxWorld3.allGraphs, metas := cxWorld3.allMeta, loaderReleased := true }

set_option maxRecDepth 100000 in
/-- **The model follows the second placement** (as /repo does: the cached event object is mutated
wherever it is). After the two placements of one answer for the same task, the only queued event is the
TASK_PLACEMENT event created by the first placement (id 0), it carries the SECOND placement (pool 1, its time),
and the task is SCHEDULED with `pool = some 1`: event and task agree. (`#eval` of the whole run
`Sim.simulate cxWorld3 50`: TASK_PLACEMENT row on `p1` at time 2, TASK_FINISHED at 7, normal end at 9. The whole
run is not evaluated in the kernel here: `get_schedulable_tasks` of the graph model does not reduce by `decide`.) -/
theorem duplicate_placement_follows_second :
    let s := ((ExceptT.run cxTwice).run cxState3).2
    s.queue.toList.map (fun e => (e.ev.eid, e.ev.etype, e.ev.time, e.placement.bind (·.pool))) =
      [(0, ET.taskPlacement, 2, some 1)] ∧
    s.future.get? ⟨0, 0⟩ = some 0 ∧
    (taskAt s.graphs ⟨0, 0⟩).map (fun x => (decide (x.state = .scheduled), x.pool)) = some (true, some 1) := by
  decide +kernel

set_option maxRecDepth 100000 in
/-- What the edit of the pending list is needed for: without it (`cxTwiceOld`) the queued
event keeps the first placement (pool 0) while the task records pool 1 — `__handle_task_placement` would make
the task resident in pool 0 and `__handle_task_finished` would try to remove it from pool 1. -/
theorem duplicate_placement_needs_pending_edit :
    let s := ((ExceptT.run cxTwiceOld).run cxState3).2
    s.queue.toList.map (fun e => (e.ev.etype, e.placement.bind (·.pool))) = [(ET.taskPlacement, some 0)] ∧
    (taskAt s.graphs ⟨0, 0⟩).map (fun x => (decide (x.state = .scheduled), x.pool)) = some (true, some 1) := by
  decide +kernel

end ErdosVerif.C01
