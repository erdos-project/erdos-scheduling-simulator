import ErdosVerif.Props.C03
/-!
# C12 — the end-to-end consequence (task level)

"Consequently, in runs of those planners with exact runtimes, every task that completes
does so by its deadline."

A planner decision for a task is a `PlacementS` (start time, strategy).  The simulator
hands every decision to `Task.schedule` (`doSchedule`) — also when the task is already
SCHEDULED by an earlier decision with another strategy (a re-planning policy) —, later
calls `Task.start` (`doStart`) at the time the TASK_PLACEMENT event fires, and steps the
task at every clock advance (`C03.runSteps`).  The theorems below are for ALL tasks, states,
placements, times and step sequences:

* the remaining time after a successful `schedule` is the runtime of the strategy of THAT
  decision, whatever the task held before (`schedule_takes_runtime_of_this_decision`,
  `reschedule_takes_runtime_of_last_decision`);
* with exact runtimes (`fuzz((0, 0))` returns the remaining time itself) the task then
  completes at `start + runtime of the last decision`
  (`completes_at_start_plus_runtime_of_last_decision`);
* hence a task whose last decision meets its deadline and whose start is not deferred
  completes by its deadline (`completed_by_deadline`), and in general it completes by its
  deadline iff `actual start + runtime ≤ deadline` (`completed_by_deadline_iff`): a deferred
  start (TASK_NOT_READY / WORKER_NOT_READY) is the only way to miss
  (`deferred_start_misses_counterexample`).

That the simulator (a) calls `schedule` with the last decision, (b) starts the task at the
decided time unless it defers it, (c) steps every running task at every advance is the
trace correspondence of the end-to-end suites plus the run-level oracle
(`harness/suites/_e2e_common.py: planner_run_oracle`); that the planners' decisions meet the
deadline is `C12_Ilp.decision_meets_deadline` / `C12_Tetri.decision_meets_deadline`.
-/
namespace ErdosVerif.C12_E2E
open ErdosVerif.Model

/-- **Every successful `schedule` installs the runtime of the strategy of THIS decision**, from
every state in which the call is accepted — in particular for a task that is already
SCHEDULED with another strategy.  State, placement, pool follow the decision; the deadline is
untouched. -/
theorem schedule_takes_runtime_of_this_decision (t t' : TaskS) (time : Int) (p : PlacementS)
    (h : t.doSchedule time p = (t', none)) :
    ∃ s, p.strat = some s ∧ t'.remaining = some s.runtime ∧ t'.state = .scheduled ∧
      t'.placement = some p ∧ t'.pool = p.pool ∧ t'.deadline = t.deadline ∧ t'.release = t.release := by
  obtain ⟨s, hs, _, _, rfl⟩ := TaskS.doSchedule_ok.mp h
  exact ⟨s, hs, rfl, rfl, rfl, rfl, rfl, rfl⟩

/-- **Re-planning**: after two successive decisions the task carries the runtime of the LAST
one (the first one's runtime does not survive). -/
theorem reschedule_takes_runtime_of_last_decision (t t1 t2 : TaskS) (τ1 τ2 : Int) (p1 p2 : PlacementS)
    (_h1 : t.doSchedule τ1 p1 = (t1, none)) (h2 : t1.doSchedule τ2 p2 = (t2, none)) :
    ∃ s2, p2.strat = some s2 ∧ t2.remaining = some s2.runtime ∧ t2.placement = some p2 := by
  obtain ⟨s, hs, hr, _, hp, _⟩ := schedule_takes_runtime_of_this_decision t1 t2 τ2 p2 h2
  exact ⟨s, hs, hr, hp⟩

/-- A SCHEDULED task accepts a further decision whenever that decision names a strategy with a
non-negative runtime (so the hypotheses of the two theorems above are satisfiable for every
such re-decision). -/
theorem scheduled_accepts_redecision (t : TaskS) (τ : Int) (p : PlacementS) (s : Strategy)
    (hst : t.state = .scheduled) (hp : p.strat = some s) (hr : 0 ≤ s.runtime) :
    (t.doSchedule τ p).2 = none := by
  rw [TaskS.doSchedule_ok.mpr ⟨s, hp, hr, .inr (.inr (.inr hst)), rfl⟩]

/-- `start` with exact runtimes: the task runs from `time` with the remaining time it was
given; deadline unchanged. -/
theorem exact_start (t t' : TaskS) (time r : Int) (h : t.doStart time r = (t', none)) :
    t'.state = .running ∧ t'.start = time ∧ t'.lastStep = time ∧ t'.remaining = some r ∧
      t'.deadline = t.deadline := by
  rcases TaskS.doStart_cases t time r with ⟨_, e⟩ | ⟨_, ⟨_, e⟩ | ⟨_, _, e⟩ | ⟨_, _, e⟩⟩
  · exact absurd (by rw [h]) e
  all_goals rw [h] at e; cases e
  exact ⟨rfl, rfl, rfl, rfl, rfl⟩

theorem doStep_deadline (t : TaskS) (now dt : Int) : (t.doStep now dt).1.deadline = t.deadline := by
  rcases TaskS.doStep_cases t now dt with ⟨_, e⟩ | ⟨r, _, _, _, _, ⟨_, e⟩ | ⟨_, e⟩⟩ <;> rw [e]

theorem runSteps_deadline (dts : List Int) : ∀ (t : TaskS) (now : Int), (C03.runSteps t now dts).1.deadline = t.deadline := by
  induction dts with
  | nil => intro t now; rfl
  | cons d ds ih =>
    intro t now
    simp only [C03.runSteps]
    split
    · exact doStep_deadline t now d
    · rw [ih]; exact doStep_deadline t now d

theorem doFinish_deadline (t : TaskS) (time : Option Int) : (t.doFinish time).1.deadline = t.deadline := by
  unfold TaskS.doFinish
  split <;> rfl

/-- **Completion = start + runtime of the LAST decision** (exact runtimes): a task — in any
state in which `schedule` is accepted, e.g. SCHEDULED by an earlier decision with another
strategy — that is given the decision `p` (strategy `s`, `0 < s.runtime`), is started at
`start` with the remaining time unfuzzed and is stepped at every clock advance, is reported
COMPLETED at exactly `start + s.runtime`. -/
theorem completes_at_start_plus_runtime_of_last_decision
    (t t1 t2 : TaskS) (τ start : Int) (p : PlacementS) (s : Strategy) (dts : List Int)
    (hp : p.strat = some s) (hpos : 0 < s.runtime)
    (hsched : t.doSchedule τ p = (t1, none))
    (hstart : t1.doStart start s.runtime = (t2, none))
    (hd : ∀ d ∈ dts, 0 ≤ d) (hfin : (C03.runSteps t2 start dts).2.1 = true) :
    ((C03.runSteps t2 start dts).1.doFinish none).1.completion = start + s.runtime ∧
    ((C03.runSteps t2 start dts).1.doFinish none).1.state = .completed ∧
    ((C03.runSteps t2 start dts).1.doFinish none).1.deadline = t.deadline := by
  obtain ⟨s', hs', _, _, _, _, hdl1, _⟩ := schedule_takes_runtime_of_this_decision t t1 τ p hsched
  have hss : s' = s := by rw [hp] at hs'; exact (Option.some.inj hs').symm
  subst hss
  obtain ⟨hrun, hst, hls, hrem, hdl2⟩ := exact_start t1 t2 start s'.runtime hstart
  have hfin' : (C03.runSteps t2 t2.start dts).2.1 = true := by rw [hst]; exact hfin
  have h := C03.completes_at_start_plus_runtime t2 s'.runtime dts hrun (by rw [hls, hst]) hrem hpos hd hfin'
  rw [hst] at h
  refine ⟨h.1, h.2.1, ?_⟩
  rw [doFinish_deadline, runSteps_deadline, hdl2, hdl1]

/-- **The consequence, in general**: under the hypotheses above the task completes by its
deadline iff its ACTUAL start plus the runtime of its last decision does. -/
theorem completed_by_deadline_iff
    (t t1 t2 : TaskS) (τ start : Int) (p : PlacementS) (s : Strategy) (dts : List Int)
    (hp : p.strat = some s) (hpos : 0 < s.runtime)
    (hsched : t.doSchedule τ p = (t1, none))
    (hstart : t1.doStart start s.runtime = (t2, none))
    (hd : ∀ d ∈ dts, 0 ≤ d) (hfin : (C03.runSteps t2 start dts).2.1 = true) :
    (((C03.runSteps t2 start dts).1.doFinish none).1.completion ≤
      ((C03.runSteps t2 start dts).1.doFinish none).1.deadline) ↔ start + s.runtime ≤ t.deadline := by
  obtain ⟨hc, _, hdl⟩ := completes_at_start_plus_runtime_of_last_decision t t1 t2 τ start p s dts hp hpos hsched hstart hd hfin
  rw [hc, hdl]

/-- **The consequence**: the last decision meets the deadline (`ptime + runtime ≤ deadline`,
what `C12_Ilp.decision_meets_deadline` / `C12_Tetri.decision_meets_deadline` give for the
planners) and the task starts at the decided time (not deferred) ⟹ it completes by its
deadline. -/
theorem completed_by_deadline
    (t t1 t2 : TaskS) (τ ptime : Int) (p : PlacementS) (s : Strategy) (dts : List Int)
    (hp : p.strat = some s) (hpt : p.time = some ptime) (hpos : 0 < s.runtime)
    (hmeets : ptime + s.runtime ≤ t.deadline)
    (hsched : t.doSchedule τ p = (t1, none))
    (hstart : t1.doStart ptime s.runtime = (t2, none))
    (hd : ∀ d ∈ dts, 0 ≤ d) (hfin : (C03.runSteps t2 ptime dts).2.1 = true) :
    ((C03.runSteps t2 ptime dts).1.doFinish none).1.completion ≤
      ((C03.runSteps t2 ptime dts).1.doFinish none).1.deadline := by
  -- the proof does not use `hpt`, which only says that `ptime` is the start time the decision names
  have _ := hpt
  exact (completed_by_deadline_iff t t1 t2 τ ptime p s dts hp hpos hsched hstart hd hfin).2 hmeets

private def slow : Strategy := { sid := 0, isBatch := false, batchSize := 1, runtime := 20, req := [] }
private def fast : Strategy := { sid := 1, isBatch := false, batchSize := 1, runtime := 5, req := [] }
private def tid : TaskId := ⟨0, 0⟩
private def t0 : TaskS :=
  { name := "T", conditional := false, terminal := false, prob := 1000, strategies := [slow, fast], profile := 0,
    state := .released, pre := .released, release := 30, deadline := 45 }
private def pSlow : PlacementS := { kind := .place, task := tid, time := some 31, pool := some 0, strat := some slow }
private def pFast : PlacementS := { kind := .place, task := tid, time := some 34, pool := some 0, strat := some fast }

/-- Non-vacuity: a task first decided with
the 20 µs strategy is re-decided, while still SCHEDULED, to start at 34 with the 5 µs strategy
(deadline 45); it is started at 34 and stepped 2 + 2 + 3: COMPLETED at 39 ≤ 45 — not at
34 + 20 = 54. -/
example :
    let t1 := (t0.doSchedule 30 pSlow).1
    let t2 := (t1.doSchedule 32 pFast).1
    let t3 := (t2.doStart 34 5).1
    (t0.doSchedule 30 pSlow).2 = none ∧ t1.state = .scheduled ∧ t1.remaining = some 20 ∧
    (t1.doSchedule 32 pFast).2 = none ∧ t2.remaining = some 5 ∧
    (t2.doStart 34 5).2 = none ∧ (C03.runSteps t3 34 [2, 2, 3]).2.1 = true ∧
    ((C03.runSteps t3 34 [2, 2, 3]).1.doFinish none).1.completion = 39 ∧
    ((C03.runSteps t3 34 [2, 2, 3]).1.doFinish none).1.state = .completed := by decide

/-- **A deferred start can miss the deadline although the decision met it** (what the known
finding C12-E2E-1 shows on real runs of TetriSched-CPLEX with lookahead): decided 34 + 5 ≤ 45,
started at 42 because a parent was still running, completed at 47 > 45. -/
theorem deferred_start_misses_counterexample :
    let t2 := (t0.doSchedule 32 pFast).1
    let t3 := (t2.doStart 42 5).1
    (34 : Int) + fast.runtime ≤ t0.deadline ∧
    (t0.doSchedule 32 pFast).2 = none ∧ (t2.doStart 42 5).2 = none ∧
    (C03.runSteps t3 42 [5]).2.1 = true ∧
    ¬ (((C03.runSteps t3 42 [5]).1.doFinish none).1.completion ≤ ((C03.runSteps t3 42 [5]).1.doFinish none).1.deadline) := by
  decide

end ErdosVerif.C12_E2E
