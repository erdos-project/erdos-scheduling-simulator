/-
C12 (ILP clause, BATCHING mode): deadline enforcement, for EVERY feasible point of `genB inst`.

The deadline of a BatchTask is the earliest deadline of its members; its deadline row exists iff
`I.bEnforce b`: `enforce_deadlines` is on and NOT all members belong to graphs in
`_allowed_to_miss_deadlines` (`enforce_iff`).

* `batch_deadline_row`, `placed_batch_meets_deadline`: an enforced, placed BatchTask finishes by
  the deadline of every member;
* `decision_meets_deadline`: the same on the returned decisions;
* `hopeless_member_unplaced`, `hopeless_decision_unplaced`: an enforced BatchTask with a member
  that cannot finish from `now + 1` (in particular from `now`) with the batch's strategy is never
  placed.

FALSE of the code in task-by-task mode (`unenforced_counterexample`, finding C12-ILPB-1): the
property says enforcement is unconditional without `release_taskgraphs`; the batching branch
drops the row for every graph whose sources are not all offered.  `enforce_unconditional_partial`
is what remains: enforcement is unconditional for BatchTasks with a member whose graph is not in
`_allowed_to_miss_deadlines`.
-/
import ErdosVerif.Props.C10_IlpBatch
namespace ErdosVerif.C12_IlpBatch
open ErdosVerif.Mip ErdosVerif.IlpBatch
open ErdosVerif.Ilp (Var compatible qty nsum)

/-- When the deadline row of a BatchTask exists. -/
theorem enforce_iff (I : BInst) (b : Nat) :
    I.bEnforce b = true ↔ I.enforceDeadlines = true ∧ ∃ m ∈ I.members b, I.isAllowed m = false := by
  have hex : (∃ m ∈ I.members b, I.isAllowed m = false) ↔ (I.members b).all I.isAllowed = false := by
    simp [List.all_eq_false]
  rw [hex]
  unfold BInst.bEnforce
  cases (I.members b).all I.isAllowed <;> simp

/-- Full statement (FALSE, `unenforced_counterexample`): in task-by-task mode
(`release_taskgraphs = false`) every BatchTask's deadline is enforced.  Proved part: every
BatchTask with a member whose graph is not in `_allowed_to_miss_deadlines`. -/
theorem enforce_unconditional_partial (I : BInst) (b : Nat) (he : I.enforceDeadlines = true)
    {m : Nat} (hm : m ∈ I.members b) (hna : I.isAllowed m = false) : I.bEnforce b = true :=
  (enforce_iff I b).mpr ⟨he, m, hm, hna⟩

theorem batch_deadline_row {I : BInst} {σ : Var → Int} (h : sat σ (genB I)) {b : Nat} (hb : b < I.nB)
    (hr : I.bRunning b = false) (he : I.bEnforce b = true) :
    σ (.start b) + dur I σ b ≤ I.bDeadline b := by
  have := (rows h).deadline b (mem_nonRunning.mpr ⟨hb, hr⟩) he
  rwa [sval_var hr] at this

/-- A placed BatchTask whose deadline is enforced finishes by the deadline of every member. -/
theorem placed_batch_meets_deadline {I : BInst} {σ : Var → Int} (h : sat σ (genB I)) {b w m : Nat}
    (hb : b < I.nB) (he : I.bEnforce b = true) (hc : I.chosen σ b = some w) (hm : m ∈ I.members b) :
    σ (.start b) + I.runtime b ≤ (I.task m).deadline := by
  have h1 := batch_deadline_row h hb (chosen_nonRunning hc) he
  have h2 := runtime_le_dur h hb (chosen_spec hc).1 (chosen_xval hc)
  have h3 := bDeadline_le_deadline hm
  omega

/-- **No returned placement misses an enforced deadline.** -/
theorem decision_meets_deadline {I : BInst} {σ : Var → Int} (h : sat σ (genB I)) {d : BDecision}
    (hd : d ∈ decodeB I σ) {b w : Nat} {time : Int} (hp : d.placed = some (b, w, time))
    (he : I.bEnforce b = true) : time + I.runtime b ≤ (I.task d.task).deadline := by
  obtain ⟨hb, hm, hc, rfl⟩ := placed_decision_spec hd hp
  exact placed_batch_meets_deadline h (mem_nonRunning.mp hb).1 he hc hm

/-- A placed BatchTask whose deadline is enforced leaves every member its runtime after the earliest
start the model allows, `max(now + 1, latest release of a member)`. -/
theorem placed_batch_fits_from_lb {I : BInst} {σ : Var → Int} (h : sat σ (genB I)) {b w m : Nat}
    (hb : b < I.nB) (he : I.bEnforce b = true) (hc : I.chosen σ b = some w) (hm : m ∈ I.members b) :
    I.startLb b + I.runtime b ≤ (I.task m).deadline := by
  have h1 := placed_batch_meets_deadline h hb he hc hm
  have h2 := IlpBatch.start_lb h (mem_nonRunning.mpr ⟨hb, chosen_nonRunning hc⟩)
  omega

/-- An enforced BatchTask with a member that cannot finish with the batch's strategy started at
`now + 1` is never placed (a fortiori a member with `deadline < now + runtime`). -/
theorem hopeless_member_unplaced {I : BInst} {σ : Var → Int} (h : sat σ (genB I)) {b m : Nat}
    (hb : b < I.nB) (he : I.bEnforce b = true) (hm : m ∈ I.members b)
    (hopeless : (I.task m).deadline < I.now + 1 + I.runtime b) : I.chosen σ b = none := by
  cases hc : I.chosen σ b with
  | none => rfl
  | some w =>
    have h1 := placed_batch_fits_from_lb h hb he hc hm
    have h3 : I.now + 1 ≤ I.startLb b := by unfold BInst.startLb; omega
    omega

/-- The same on the returned decisions: such a task is not returned placed through that BatchTask. -/
theorem hopeless_decision_unplaced {I : BInst} {σ : Var → Int} (h : sat σ (genB I)) {d : BDecision}
    (hd : d ∈ decodeB I σ) {b w : Nat} {time : Int} (hp : d.placed = some (b, w, time))
    (he : I.bEnforce b = true) : I.now + 1 + I.runtime b ≤ (I.task d.task).deadline := by
  obtain ⟨hb, hm, hc, _⟩ := placed_decision_spec hd hp
  have h1 := placed_batch_fits_from_lb h (mem_nonRunning.mp hb).1 he hc hm
  have h3 : I.now + 1 ≤ I.startLb b := by unfold BInst.startLb; omega
  omega

/-! ### Non-vacuity -/

open C10_IlpBatch in
example : sat exSigma (genB exInst) ∧ exInst.bEnforce 3 = true ∧ exInst.chosen exSigma 3 = some 0 ∧
    exSigma (.start 3) + exInst.runtime 3 ≤ (exInst.task 3).deadline := by decide

/-! ### Finding C12-ILPB-1 -/

/-- Task-by-task mode, `enforce_deadlines` on; two graphs P → C whose parents completed; the two
C's (4 µs, 2 of 2 CPUs, deadline 10) are offered at `now = 5`. -/
def unenforcedInst : BInst :=
  { now := 5
    workers := [⟨"W0", "P0", [("CPU", 2)]⟩]
    tasks := [⟨"C@G0", "C", 0, "G0", .released, 4, 10, "B", 0, 0, ⟨0, 0, []⟩⟩,
              ⟨"C@G1", "C", 0, "G1", .released, 4, 10, "B", 0, 0, ⟨0, 0, []⟩⟩]
    nOffered := 2
    nodes := [⟨"P@G0", "P", 0, "G0", .other⟩, ⟨"C@G0", "C", 0, "G0", .released⟩, ⟨"P@G1", "P", 0, "G1", .other⟩, ⟨"C@G1", "C", 0, "G1", .released⟩]
    edges := [("P@G0", "C@G0"), ("P@G1", "C@G1")]
    enforceDeadlines := true, retract := false, releaseTaskgraphs := false, goalSlack := false
    allowed0 := []
    profiles := [⟨"B", [⟨1, 4, [("CPU", 2)]⟩], [0, 1]⟩] }

/-- The solver's answer: C@G0 at 6, C@G1 at 11. -/
def unenforcedSigma : Var → Int
  | .start 0 => 6
  | .x 0 0 0 => 1
  | .start 1 => 11
  | .x 1 0 0 => 1
  | .before 0 1 => 1
  | .after 1 0 => 1
  | .greward 0 => 1
  | .greward 1 => 1
  | .treward 0 => 1
  | .treward 1 => 1
  | _ => 0

/-- A feasible point of the model built with `enforce_deadlines = True`, `release_taskgraphs =
False`, whose decision starts C@G1 at 11 with a 4 µs strategy against the deadline 10. -/
theorem unenforced_counterexample :
    unenforcedInst.wf = true ∧ unenforcedInst.crash = none ∧
    unenforcedInst.enforceDeadlines = true ∧ unenforcedInst.releaseTaskgraphs = false ∧
    sat unenforcedSigma (genB unenforcedInst) ∧
    (⟨1, some (1, 0, 11)⟩ : BDecision) ∈ decodeB unenforcedInst unenforcedSigma ∧
    ¬ ((11 : Int) + unenforcedInst.runtime 1 ≤ (unenforcedInst.task 1).deadline) := by
  decide

end ErdosVerif.C12_IlpBatch
