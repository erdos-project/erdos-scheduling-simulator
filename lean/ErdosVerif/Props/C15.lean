/-
C15 — Clockwork batching: full, same-model, loaded, on-time batches only.

Theorems over the executable model `ErdosVerif.Clockwork` (Model/Clockwork.lean) of
`/repo/schedulers/clockwork_scheduler.py`, for every history of invocations
`(now, offered tasks, loading state)`: a state is `Reachable` when it is produced by
`start` followed by any sequence of `schedule` calls with arbitrary invocations
(arbitrary times, offered lists, worker views, load-phase outcomes).

The load / evict phase (`run_load`, float priorities) is a tape input: the theorems
speak about the worker views the inference loop is given. See docs/C15.md.
-/
import ErdosVerif.Lemmas.ClockworkSchedule

namespace ErdosVerif.C15
open ErdosVerif.Clockwork

/-- States reachable by a history: `start(models)` then any invocations. -/
inductive Reachable (c : Cfg) : SState → Prop
  | start (ms : List Nat) : Reachable c (startModels c ms)
  | step {st : SState} (inv : Invocation) : Reachable c st → Reachable c (schedule c st inv).1

theorem start_inv (c : Cfg) (ms : List Nat) : SInv c (startModels c ms) := by
  unfold startModels
  have : ∀ (l : List Nat) (st : SState), SInv c st → SInv c (l.foldl (addModel c) st) := by
    intro l
    induction l with
    | nil => intro st h; exact h
    | cons m l ih => intro st h; exact ih _ (addModel_spec h m).1.sinv
  exact this ms [] ⟨by simp, by simp⟩

theorem reachable_inv {c : Cfg} {st : SState} (h : Reachable c st) : SInv c st := by
  induction h with
  | start ms => exact start_inv c ms
  | step inv _ ih => exact (schedule_spec ih inv).sinv

/-- The driver's `run` only visits reachable states and its outputs are `schedule` results. -/
theorem run_outputs {c : Cfg} {st : SState} (h : Reachable c st) (invs : List Invocation) :
    ∀ r ∈ run c st invs, ∃ st' inv, Reachable c st' ∧ inv ∈ invs ∧ r = schedule c st' inv := by
  induction invs generalizing st with
  | nil => simp [run]
  | cons inv rest ih =>
    intro r hr
    simp only [run, List.mem_cons] at hr
    rcases hr with rfl | hr
    · exact ⟨st, inv, h, List.mem_cons_self, rfl⟩
    · obtain ⟨st', inv', h1, h2, h3⟩ := ih (Reachable.step inv h) r hr
      exact ⟨st', inv', h1, List.mem_cons_of_mem _ h2, h3⟩

/-- Every per-strategy request queue is sorted by deadline and holds a request at most once. -/
theorem queues_sorted_nodup {c : Cfg} {st : SState} (h : Reachable c st) :
    ∀ s ∈ st, ∀ q ∈ s.queues,
      q.Pairwise (fun a b => a.deadline ≤ b.deadline) ∧ (q.map (·.tid)).Nodup := by
  intro s hs q hq
  have hi := (reachable_inv h).1 s hs
  exact ⟨hi.qsorted q hq, List.pairwise_map.mpr (hi.qnodup q hq)⟩

/-- A queued request is a task of that model, with its own deadline, and is in the model's
task table (`Model._tasks`); the table has no duplicates. -/
theorem queues_consistent {c : Cfg} {st : SState} (h : Reachable c st) :
    ∀ s ∈ st, (s.tasks.map (·.tid)).Nodup ∧ ∀ q ∈ s.queues, ∀ r ∈ q,
      r.tid ∈ s.tasks.map (·.tid) ∧
      ∃ t, c.tasks[r.tid]? = some t ∧ t.model = s.mid ∧ t.deadline = r.deadline := by
  intro s hs
  have hi := (reachable_inv h).1 s hs
  exact ⟨hi.tnodup, fun q hq r hr => ⟨hi.qsub q hq r hr, hi.qcfg q hq r hr⟩⟩

/-- A task placed by an invocation is afterwards in no queue of any model. -/
theorem placed_in_no_queue {c : Cfg} {st : SState} (h : Reachable c st) (inv : Invocation) :
    ∀ b ∈ (schedule c st inv).2.batches, ∀ tid ∈ b.tids,
      ∀ s ∈ (schedule c st inv).1, ∀ q ∈ s.queues, ∀ r ∈ q, r.tid ≠ tid := by
  intro b hb tid ht s hs q hq r hr heq
  have sp := schedule_spec (reachable_inv h) inv
  apply sp.placed_gone b hb tid ht
  exact mem_allTids.mpr ⟨s, hs, heq ▸ (sp.sinv.1 s hs).qsub q hq r hr⟩

/-- Every placement batch: members of one model, as many as the `batch_size` of the strategy
it was derived from, on a worker where the profile is available, and on time
(`now + runtime ≤` every member's deadline, in particular the earliest). -/
theorem batch_wellformed {c : Cfg} {st : SState} (h : Reachable c st) (inv : Invocation) :
    ∀ b ∈ (schedule c st inv).2.batches, ∃ s wv,
      (c.strategiesOf b.model)[b.strategy]? = some s ∧
      b.tids.length = s.batch ∧
      (∀ tid ∈ b.tids, ∃ t, c.tasks[tid]? = some t ∧ t.model = b.model ∧
        inv.now + s.runtime ≤ t.deadline) ∧
      inv.workers[b.worker]? = some wv ∧ b.model ∈ wv.loaded := by
  intro b hb
  obtain ⟨wv, hw, hok⟩ := (schedule_spec (reachable_inv h) inv).ok b hb
  obtain ⟨s, h1, h2, h3⟩ := hok.strat
  exact ⟨s, wv, h1, h2, h3, hw, hok.isLoaded⟩

/-- The worker accommodated every batch placed on it: replaying the batches of worker `w`
in order on the availability vector the inference loop was given, each strategy's
requirement is covered (`Resources.__gt__`) by what the earlier batches left. -/
theorem batches_fit_worker {c : Cfg} {st : SState} (h : Reachable c st) (inv : Invocation) :
    ∀ w wv, inv.workers[w]? = some wv →
      (fitsRun c wv.avail ((schedule c st inv).2.batches.filter (fun b => b.worker == w))).isSome :=
  (schedule_spec (reachable_inv h) inv).fits

/-- Within one invocation no task is placed twice (neither in one batch nor in two). -/
theorem placed_once_invocation {c : Cfg} {st : SState} (h : Reachable c st) (inv : Invocation) :
    ((schedule c st inv).2.batches.flatMap (·.tids)).Nodup :=
  (schedule_spec (reachable_inv h) inv).placed_nodup

def placedOf (outs : List (SState × StepOut)) : List Nat :=
  outs.flatMap (fun r => r.2.batches.flatMap (·.tids))

/-- "A placed task is not offered again": no invocation offers a task placed earlier
(`placed` = tasks placed before the history starts). -/
def NoReoffer (c : Cfg) : SState → List Nat → List Invocation → Prop
  | _, _, [] => True
  | st, placed, inv :: rest =>
    (∀ tid ∈ inv.offered, tid ∉ placed) ∧
    NoReoffer c (schedule c st inv).1
      (placed ++ (schedule c st inv).2.batches.flatMap (·.tids)) rest

theorem placed_once_aux {c : Cfg} (invs : List Invocation) {st : SState} {placed : List Nat}
    (hi : SInv c st) (hd : ∀ tid ∈ placed, tid ∉ allTids st) (hn : placed.Nodup)
    (hno : NoReoffer c st placed invs) : (placed ++ placedOf (run c st invs)).Nodup := by
  induction invs generalizing st placed with
  | nil => simpa [run, placedOf] using hn
  | cons inv rest ih =>
    have sp := schedule_spec hi inv
    obtain ⟨hoff, hrest⟩ := hno
    have hn' : (placed ++ (schedule c st inv).2.batches.flatMap (·.tids)).Nodup := by
      refine List.nodup_append.mpr ⟨hn, sp.placed_nodup, ?_⟩
      intro x hx y hy hxy
      subst hxy
      obtain ⟨b, hb, ht⟩ := List.mem_flatMap.mp hy
      rcases sp.placed_from b hb x ht with h1 | h1
      · exact hd x hx h1
      · exact hoff x h1 hx
    have hd' : ∀ tid ∈ placed ++ (schedule c st inv).2.batches.flatMap (·.tids),
        tid ∉ allTids (schedule c st inv).1 := by
      intro tid htid hin
      rcases List.mem_append.mp htid with h1 | h1
      · rcases sp.sub tid hin with h2 | h2
        · exact hd tid h1 h2
        · exact hoff tid h2 h1
      · obtain ⟨b, hb, ht⟩ := List.mem_flatMap.mp h1
        exact sp.placed_gone b hb tid ht hin
    have := ih sp.sinv hd' hn' hrest
    simpa [run, placedOf, List.append_assoc] using this

/-- `placed_once`: under "a placed task is not offered again" no task is placed twice over
the whole history. -/
theorem placed_once {c : Cfg} (ms : List Nat) (invs : List Invocation)
    (hno : NoReoffer c (startModels c ms) [] invs) :
    (placedOf (run c (startModels c ms) invs)).Nodup := by
  have := placed_once_aux invs (start_inv c ms) (by simp) (by simp) hno
  simpa using this

/-- A batch never contains a request that cannot meet its deadline with the fastest strategy. -/
theorem never_places_hopeless {c : Cfg} {st : SState} (h : Reachable c st) (inv : Invocation) :
    ∀ b ∈ (schedule c st inv).2.batches, ∀ tid ∈ b.tids, ¬ Hopeless c inv.now tid := by
  intro b hb tid ht hh
  obtain ⟨s, _, h1, _, h3, _, _⟩ := batch_wellformed h inv b hb
  obtain ⟨t, e1, e2, e3⟩ := h3 tid ht
  obtain ⟨t', f, e1', e2', e3'⟩ := hh
  rw [e1] at e1'; cases e1'
  rw [e2] at e2'
  have := fastest_le e2' s (List.mem_of_getElem? h1)
  omega

/-- `hopeless_cancelled`: an offered request with `deadline < now + fastest` gets a cancel
decision (when `schedule` returns) and is not placed. -/
theorem hopeless_cancelled {c : Cfg} {st : SState} (h : Reachable c st) (inv : Invocation)
    (herr : (schedule c st inv).2.err = none) :
    ∀ tid ∈ inv.offered, Hopeless c inv.now tid →
      tid ∈ (schedule c st inv).2.cancels ∧
      ∀ b ∈ (schedule c st inv).2.batches, tid ∉ b.tids :=
  fun tid ht hh =>
    ⟨(schedule_spec (reachable_inv h) inv).cancel_hopeless herr tid ht hh,
     fun b hb hin => never_places_hopeless h inv b hb tid hin hh⟩

/-- Only offered hopeless requests are cancelled, and a cancelled request is not placed by
the same invocation. -/
theorem cancel_only_hopeless {c : Cfg} {st : SState} (h : Reachable c st) (inv : Invocation) :
    ∀ tid ∈ (schedule c st inv).2.cancels, tid ∈ inv.offered ∧ Hopeless c inv.now tid ∧
      ∀ b ∈ (schedule c st inv).2.batches, tid ∉ b.tids :=
  fun tid ht =>
    have hc := (schedule_spec (reachable_inv h) inv).cancel_only tid ht
    ⟨hc.1, hc.2, fun b hb hin => never_places_hopeless h inv b hb tid hin hc.2⟩

/-- One model with a batch-2 strategy (runtime 10) and a batch-1 strategy (runtime 5), both
needing one unit of resource 0; four requests, the last hopeless at time 20. -/
def exCfg : Cfg :=
  { models := [{ strategies := [{ batch := 2, runtime := 10, req := [(0, 1)] },
                                { batch := 1, runtime := 5, req := [(0, 1)] }], hasLoad := true }],
    tasks := [{ model := 0, deadline := 30 }, { model := 0, deadline := 40 },
              { model := 0, deadline := 50 }, { model := 0, deadline := 22 }],
    goal := .clockwork }

def exInvs : List Invocation :=
  [ { now := 0, offered := [0, 1, 2], workers := [{ pool := 0, loaded := [0], avail := [(0, 1)] }] },
    { now := 20, offered := [2, 3], workers := [{ pool := 0, loaded := [], avail := [(0, 1)] },
                                                { pool := 0, loaded := [0], avail := [(0, 2)] }] } ]

/-- First invocation: the full batch {0,1} is placed (one unit free: the third request waits);
second invocation: request 3 is hopeless (22 < 20 + 5) and cancelled, request 2 is placed
alone on the second worker (the first has not loaded the model). -/
example : (run exCfg (startModels exCfg []) exInvs).map (fun r => (r.2.cancels, r.2.batches)) =
    [([], [{ model := 0, strategy := 0, worker := 0, tids := [0, 1] }]),
     ([3], [{ model := 0, strategy := 1, worker := 1, tids := [2] }])] := by decide

example : NoReoffer exCfg (startModels exCfg []) [] exInvs :=
  ⟨by decide, by decide, trivial⟩
example : Hopeless exCfg 20 3 := ⟨_, 5, rfl, rfl, by decide⟩
example : placedOf (run exCfg (startModels exCfg []) exInvs) = [0, 1, 2] := by decide

/-- Expiry leaves a request only in the queue of the strategy it can still meet: at time 25
request 2 (deadline 32) left the runtime-10 queue but stays in the runtime-5 queue. -/
example :
    (schedule { exCfg with tasks := [{ model := 0, deadline := 32 }] } []
      { now := 25, offered := [0], workers := [{ pool := 0, loaded := [], avail := [] }] }).1
    = [{ mid := 0, tasks := [{ tid := 0, deadline := 32, cnt := 1 }],
         queues := [[], [{ tid := 0, deadline := 32 }]] }] := by decide

end ErdosVerif.C15
