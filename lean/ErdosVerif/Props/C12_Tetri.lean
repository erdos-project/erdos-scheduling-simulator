/-
C12 (TetriSched clauses, both formulations): with `enforce_deadlines`

* every cell `(worker, slot, strategy)` with `slot + runtime > deadline` is the constant 0 —
  it carries no solver variable (`late_cell_constant`, `late_cell_no_var`) — so whatever
  assignment the solver returns (feasible or not), any chosen cell meets the deadline
  (`chosen_meets_deadline`) and every placement returned by `schedule()` completes by the
  deadline (`decision_meets_deadline`);
* a hopeless task (`deadline < now + fastest runtime`) has no variable cell at all
  (`hopeless_no_cell`): the Gurobi formulation returns it unplaced (`hopeless_unplaced`), the
  CPLEX scheduler answers it with a cancellation and gives it no other decision
  (`hopeless_cancelled`), also when no model is built or the solver finds nothing
  (`hopeless_cancelled_fail`);
* the boundary `deadline = now + fastest` is not cancelled (`cancel_only_hopeless`).

All statements quantify over every assignment `σ`; none needs `sat`, because the guarantee is
structural (the offending cells do not exist), which is exactly the mechanism the property
names ("space-time cells past the deadline are fixed to 0").
-/
import ErdosVerif.Lemmas.TetriDecode
namespace ErdosVerif.C12_Tetri
open ErdosVerif.Mip ErdosVerif.Tetri

/-- A cell whose completion would be after the deadline is not a variable … -/
theorem late_cell_no_var {I : Inst} {t w k s : Nat} (he : I.enforceDeadlines = true)
    (hl : I.slot k + (I.runtime t s : Nat) > (I.task t).deadline) : I.hasVar t w k s = false := by
  simp [Inst.hasVar, Inst.cellOk, he, hl]

/-- … it is the constant 0 in every row and in the objective. -/
theorem late_cell_constant {I : Inst} {t w k s : Nat} (hr : I.running t = false)
    (he : I.enforceDeadlines = true)
    (hl : I.slot k + (I.runtime t s : Nat) > (I.task t).deadline) :
    I.cellE t w k s = LinExpr.ofConst 0 := by
  simp [Inst.cellE, hr, Inst.cellOk, he, hl]

/-- **C12, model level.** Whatever the assignment, the chosen cell of a task meets its deadline. -/
theorem chosen_meets_deadline {I : Inst} (σ : Var → Int) {t w k s : Nat}
    (he : I.enforceDeadlines = true) (hc : I.chosen σ t = some (w, k, s)) :
    I.slot k + (I.runtime t s : Nat) ≤ (I.task t).deadline :=
  (hasVar_spec (chosen_spec hc).2.1).2.2.2 he

/-- **C12, decision level.** Every placement returned by `schedule()` (decoded from any
assignment) completes by the task's deadline. -/
theorem decision_meets_deadline {I : Inst} (σ : Var → Int) (he : I.enforceDeadlines = true)
    {d : Decision} (hd : d ∈ decode I σ) {w s : Nat} {time : Int} (hp : d.out = .placed w s time) :
    time + (I.runtime d.task s : Nat) ≤ (I.task d.task).deadline := by
  rcases mem_decode.mp hd with ⟨t, _, rfl⟩ | ⟨t, _, rfl⟩
  · simp at hp
  · obtain ⟨k, hc, rfl⟩ := decodeTask_placed hp
    simpa using chosen_meets_deadline σ he hc

theorem hopeless_no_cell {I : Inst} {t : Nat} (hh : I.hopeless t = true) (w k : Nat) {s : Nat}
    (hs : s < (I.task t).nS) : I.hasVar t w k s = false := by
  simp only [Inst.hopeless, Bool.and_eq_true, decide_eq_true_eq] at hh
  apply late_cell_no_var hh.1
  have h1 := slot_ge_now I k
  have h2 := fastest_le (I := I) (t := t) hs
  omega

/-- **C12, hopeless tasks (Gurobi formulation; also any hopeless task that reaches a model).**
The task is returned unplaced, whatever the solver's assignment. -/
theorem hopeless_unplaced {I : Inst} (σ : Var → Int) {t : Nat} (hh : I.hopeless t = true) :
    I.decodeTask σ t = ⟨t, .unplaced⟩ := by
  apply decodeTask_unplaced
  cases hc : I.chosen σ t with
  | none => rfl
  | some q =>
    obtain ⟨hk, hv, _⟩ := chosen_spec hc
    have := hopeless_no_cell hh q.1 q.2.1 (mem_keys.mp hk).2.2
    simp [this] at hv

/-- In the Gurobi formulation every offered hopeless task that is not RUNNING is answered,
and answered "not placed". -/
theorem hopeless_unplaced_G {I : Inst} (σ : Var → Int) (hG : I.cplex = false) {t : Nat} (ht : t < I.nT)
    (hr : I.running t = false) (hh : I.hopeless t = true) :
    (⟨t, .unplaced⟩ : Decision) ∈ decode I σ ∧ ∀ d ∈ decode I σ, d.task = t → d.out = .unplaced := by
  have hact : I.active t = true := by simp [Inst.active, hG]
  constructor
  · exact mem_decode.mpr (Or.inr ⟨t, mem_nonRunning.mpr ⟨ht, hact, hr⟩, (hopeless_unplaced σ hh).symm⟩)
  · intro d hd hdt
    rcases mem_decode.mp hd with ⟨t', ht', rfl⟩ | ⟨t', _, rfl⟩
    · simp only at hdt; subst hdt
      simp [mem_cancelled, hact] at ht'
    · simp only [decodeTask_task] at hdt; subst hdt
      rw [hopeless_unplaced σ hh]

/-- **C12, hopeless tasks (CPLEX scheduler).** An offered hopeless task is answered with a
cancellation and receives no other decision. -/
theorem hopeless_cancelled {I : Inst} (σ : Var → Int) (hC : I.cplex = true) {t : Nat}
    (ht : t < I.nOffered) (hh : I.hopeless t = true) :
    (⟨t, .cancel⟩ : Decision) ∈ decode I σ ∧ ∀ d ∈ decode I σ, d.task = t → d.out = .cancel := by
  have hact : I.active t = false := by simp [Inst.active, hC, ht, hh]
  constructor
  · exact mem_decode.mpr (Or.inl ⟨t, mem_cancelled.mpr ⟨ht, hact⟩, rfl⟩)
  · intro d hd hdt
    rcases mem_decode.mp hd with ⟨t', _, rfl⟩ | ⟨t', ht', rfl⟩
    · rfl
    · simp only [decodeTask_task] at hdt; subst hdt
      have := (mem_nonRunning.mp ht').2.1
      simp [hact] at this

/-- The same when the solver finds no solution or when no model is built at all. -/
theorem hopeless_cancelled_fail {I : Inst} (hC : I.cplex = true) {t : Nat}
    (ht : t < I.nOffered) (hh : I.hopeless t = true) :
    (⟨t, .cancel⟩ : Decision) ∈ decodeFail I ∧ (⟨t, .cancel⟩ : Decision) ∈ decodeNoModel I := by
  have hact : I.active t = false := by simp [Inst.active, hC, ht, hh]
  have hm : t ∈ I.cancelled := mem_cancelled.mpr ⟨ht, hact⟩
  constructor
  · simp only [decodeFail, List.mem_append, List.mem_map]
    exact Or.inl ⟨t, hm, rfl⟩
  · simp only [decodeNoModel, List.mem_map]
    exact ⟨t, hm, rfl⟩

/-- Only hopeless tasks are cancelled: at the boundary `deadline = now + fastest` (and beyond)
the task reaches the model. -/
theorem cancel_only_hopeless {I : Inst} (σ : Var → Int) {d : Decision} (hd : d ∈ decode I σ)
    (hc : d.out = .cancel) :
    I.cplex = true ∧ d.task < I.nOffered ∧ I.enforceDeadlines = true ∧
    (I.task d.task).deadline < I.now + (I.fastest d.task : Nat) := by
  rcases mem_decode.mp hd with ⟨t, ht, rfl⟩ | ⟨t, _, rfl⟩
  · obtain ⟨hto, hact⟩ := mem_cancelled.mp ht
    simp only [Inst.active, Bool.not_eq_false', Bool.and_eq_true, decide_eq_true_eq, Inst.hopeless] at hact
    exact ⟨hact.1.1, hto, hact.2.1, hact.2.2⟩
  · exact absurd hc (decodeTask_ne_cancel I σ t)

/-! ### Non-vacuity: concrete instances -/

/-- One worker (CPU 2), `now = 2`, discretisation 2, two offered tasks: `T0` (runtime 3 or 5,
deadline 9) and the hopeless `T1` (runtime 4, deadline 5 < 2 + 4). -/
def exInst (cplex : Bool) : Inst :=
  { cplex := cplex, now := 2, disc := 2, planAheadOpt := -1
    workers := [⟨"W0", "P0", [("CPU", 2)]⟩]
    tasks := [⟨"T0@G0", "T0", 0, "G0", .released, 1, 9, [⟨3, [("CPU", 1)]⟩, ⟨5, [("CPU", 2)]⟩], 0, 0, 0⟩,
              ⟨"T1@G1", "T1", 0, "G1", .released, 1, 5, [⟨4, [("CPU", 1)]⟩], 0, 0, 0⟩]
    nOffered := 2
    nodes := [⟨"T0@G0", "T0", 0, "G0"⟩, ⟨"T1@G1", "T1", 0, "G1"⟩]
    edges := []
    enforceDeadlines := true, retract := false, releaseTaskgraphs := false }

/-- `T0` at slot index 1 (time 4) with the slow strategy: finishes exactly at its deadline 9. -/
def exSigma : Var → Int
  | .cell 0 0 1 1 => 1
  | _ => 0

example : (exInst false).hopeless 1 = true := by decide
example : (exInst false).hopeless 0 = false := by decide
example : (exInst false).nSlots = 5 := by decide
example : decode (exInst false) exSigma = [⟨0, .placed 0 1 4⟩, ⟨1, .unplaced⟩] := by decide
example : decode (exInst true) exSigma = [⟨1, .cancel⟩, ⟨0, .placed 0 1 4⟩] := by decide
/-- The boundary `slot + runtime = deadline` is a variable cell, one slot later is not. -/
example : (exInst false).hasVar 0 0 1 1 = true ∧ (exInst false).hasVar 0 0 2 1 = false := by decide

end ErdosVerif.C12_Tetri
