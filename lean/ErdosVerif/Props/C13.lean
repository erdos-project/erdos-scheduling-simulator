import ErdosVerif.Lemmas.GreedyOk
/-!
# C13 — EDF, FIFO and LSF honour their priority order (no priority inversion)

Model: `ErdosVerif.Model.Greedy` (`schedule`, `run`, `step`, `order`) over the ledger model
`Model.Pool`.  `schedule cfg offer live = .ok r` is one invocation of the policy `cfg.policy`
at time `cfg.now` on the offered tasks `offer` (what `get_schedulable_tasks` returned, in its
order) and the live cluster `live`; `r.order` is `ordered_tasks`, `r.placements` the returned
`Placements`, `r.virt0` the virtual cluster right after `copy(worker_pools)`, `r.virt` the
virtual cluster at return.

Everything is for all offers (ties included), all strategy lists, all clusters (any number of
pools and workers, any occupancy); the only hypothesis about the cluster is the ledger
invariant `ClusterInv live` (C04: it holds in every reachable state).

`fitsSomewhere V s` = some worker of some pool of `V` can accommodate `s`
(`fitsSomewhere_false_iff` spells the negation out worker by worker).

**LSF (finding D13, fixed in /repo 366b4de).**  `LSFScheduler` used to call
`worker_pool.place_task(task)` without the strategy it had just tested, so its virtual cluster was
not the cluster charged with the reported placements.  It now passes the strategy
(`Policy.passesStrategy` is `true` for all three policies, `passes_all`), and every theorem below
holds for EDF, FIFO and LSF alike; the input that exhibited the defect is a positive example below.
-/
namespace ErdosVerif.C13
open ErdosVerif.Model ErdosVerif.Model.Greedy

/-- `ordered_tasks` is a permutation of the offer, sorted by the policy's priority
(`prioLt cfg a b` = "a strictly before b": earlier deadline, then smaller graph name (EDF);
earlier release (FIFO); less slack `deadline − now − remaining` (LSF)), and stable: any
sub-sequence of the offer that is already in priority order — in particular two tasks of equal
priority — keeps its order. These three facts determine the list uniquely. -/
theorem order_is_stable_sort (cfg : Cfg) (offer : List Offered) (live : List Pool) (r : Result)
    (h : schedule cfg offer live = .ok r) :
    r.order.Perm offer ∧ SortedBy (prioLt cfg) r.order ∧
    ∀ c : List Offered, c.Sublist offer → SortedBy (prioLt cfg) c → c.Sublist r.order := by
  obtain ⟨_, _, ho, _⟩ := schedule_ok cfg offer live r h
  rw [ho]
  exact ⟨sortBy_perm offer, sortBy_sorted (prioLt_strictWeak cfg) offer,
    fun c hc hs => sortBy_stable c offer hc hs⟩

/-- Ties: if `a` was offered before `b` and `b` is not of strictly higher priority, `a` is
processed before `b`. -/
theorem ties_keep_offer_order (cfg : Cfg) (offer : List Offered) (live : List Pool) (r : Result)
    (h : schedule cfg offer live = .ok r) (a b : Offered) (hab : [a, b].Sublist offer)
    (hprio : prioLt cfg b a = false) : [a, b].Sublist r.order :=
  (order_is_stable_sort cfg offer live r h).2.2 [a, b] hab (by simp [SortedBy, hprio])

/-- The decisions are returned in processing order, one per processed task. -/
theorem decisions_in_order (cfg : Cfg) (offer : List Offered) (live : List Pool) (r : Result)
    (h : schedule cfg offer live = .ok r) : r.placements.map (·.task) = r.order.map (·.id) := by
  obtain ⟨_, _, _, hr⟩ := schedule_ok cfg offer live r h
  exact run_tasks cfg r.virt0 r.order r.placements r.virt hr

/-- Everything processed before `t` has priority at least `t`'s; nothing processed after `t`
has strictly higher priority. -/
theorem priority_split (cfg : Cfg) (offer : List Offered) (live : List Pool) (r : Result)
    (h : schedule cfg offer live = .ok r) (pre post : List Offered) (t : Offered)
    (hsplit : r.order = pre ++ t :: post) :
    (∀ u ∈ pre, prioLt cfg t u = false) ∧ (∀ u ∈ post, prioLt cfg u t = false) := by
  have hs := (order_is_stable_sort cfg offer live r h).2.1
  rw [hsplit] at hs
  have := List.pairwise_append.mp hs
  exact ⟨fun u hu => this.2.2 u hu t (List.mem_cons_self ..),
    fun u hu => (List.pairwise_cons.mp this.2.1).1 u hu⟩

/-- If `t` is answered "not placed", then in the virtual cluster `Vpre` reached after exactly
the tasks processed before `t` (computed from the copy of the live cluster and those tasks
alone) no strategy of `t` can be accommodated by any worker of any pool. -/
theorem unplaced_means_no_fit (cfg : Cfg) (offer : List Offered) (live : List Pool) (r : Result)
    (h : schedule cfg offer live = .ok r) (pre post : List Offered) (t : Offered)
    (hsplit : r.order = pre ++ t :: post) :
    ∃ dpre Vpre d dpost, run cfg r.virt0 pre = .ok (dpre, Vpre) ∧
      r.placements = dpre ++ d :: dpost ∧ dpre.length = pre.length ∧ d.task = t.id ∧
      (d.kind = .place → d.pool = none →
        ∀ s ∈ t.task.strategies, ∀ p ∈ Vpre, ∀ w ∈ p.workers, w.canAccommodate s = false) := by
  obtain ⟨dpre, Vpre, d, Vt, dpost, h1, hst, _, hds, hl, _⟩ := schedule_at h hsplit
  exact ⟨dpre, Vpre, d, dpost, h1, hds, hl, step_task cfg Vpre t d Vt hst, fun hk hp s hs =>
    (fitsSomewhere_false_iff Vpre s).mp (step_unplaced hst hk hp s hs)⟩

/-- One placement through the ledger API never increases any availability, so a (non-batch)
strategy that a worker of the pool accommodates afterwards was accommodated before. -/
theorem fit_antitone_place (p : Pool) (t : Nat) (strats : List Strategy) (s? : Option Strategy)
    (wid? : Option Nat) (hinv : p.Inv) (s : Strategy) (hb : s.isBatch = false)
    (hfit : (p.placeTask t strats s? wid?).1.canAccommodate s = true) : p.canAccommodate s = true :=
  Pool.canAccommodate_antitone (Pool.placeTask_le p t strats s? wid? hinv) s hb hfit

/-- **fit_antitone** — along the scheduling loop availability only decreases: whatever fits
the virtual cluster after more tasks were processed fitted it before. -/
theorem fit_antitone (cfg : Cfg) (V : List Pool) (os : List Offered) (ds : List PlacementS)
    (Vf : List Pool) (hinv : ClusterInv V) (h : run cfg V os = .ok (ds, Vf)) (s : Strategy)
    (hb : s.isBatch = false) (hfit : fitsSomewhere Vf s = true) : fitsSomewhere V s = true :=
  fitsSomewhere_antitone (run_le cfg V os ds Vf hinv h).2 s hb hfit

/-- Every policy hands the tested strategy to `WorkerPool.place_task`. -/
theorem passes_all (p : Policy) : p.passesStrategy = true := by cases p <;> rfl

/-- **reported_accounting** — for EDF, FIFO and LSF: the virtual cluster at return is exactly the
copy of the live cluster charged, in order, with the reported placements (each through
`WorkerPool.place_task(task, strategy)` on the pool it names). -/
theorem reported_accounting (cfg : Cfg) (offer : List Offered) (live : List Pool) (r : Result)
    (h : schedule cfg offer live = .ok r) (hinv : ClusterInv live) :
    accountAll r.virt0 r.order r.placements = r.virt :=
  run_account cfg r.virt0 r.order r.placements r.virt (schedule_ok cfg offer live r h).2.2.2

/-- **no_inversion** — EDF, FIFO and LSF. Let `t` be answered "not placed". Then
* every task processed before `t` has priority higher than or equal to `t`'s and none
  processed after it has strictly higher priority;
* the copy of the live cluster charged with exactly the reported placements of the tasks
  processed before `t` (all of higher or equal priority) and nothing else — in particular with no
  lower-priority task — accommodates no strategy of `t` on any worker of any pool;
* a fortiori neither does the final virtual cluster, where every placed task is accounted for. -/
theorem no_inversion (cfg : Cfg) (offer : List Offered) (live : List Pool) (r : Result)
    (h : schedule cfg offer live = .ok r) (hinv : ClusterInv live)
    (pre post : List Offered) (t : Offered) (hsplit : r.order = pre ++ t :: post)
    (d : PlacementS) (hd : r.placements[pre.length]? = some d) (hk : d.kind = .place)
    (hun : d.pool = none) :
    (∀ u ∈ pre, prioLt cfg t u = false) ∧ (∀ u ∈ post, prioLt cfg u t = false) ∧
    ∀ s ∈ t.task.strategies,
      fitsSomewhere (accountAll r.virt0 pre (r.placements.take pre.length)) s = false ∧
      (s.isBatch = false → fitsSomewhere r.virt s = false) := by
  obtain ⟨hp1, hp2⟩ := priority_split cfg offer live r h pre post t hsplit
  refine ⟨hp1, hp2, ?_⟩
  obtain ⟨dpre, Vpre, d', Vt, dpost, hrun, hst, hpost, _, _, hd', htake⟩ := schedule_at h hsplit
  obtain rfl : d' = d := Option.some.inj (hd'.symm.trans hd)
  intro s hsm
  -- the iteration for `t` found no fit on `Vpre`, which is the copy charged with `dpre`
  have hfalse : fitsSomewhere Vpre s = false := step_unplaced hst hk hun s hsm
  refine ⟨by rw [htake, run_account cfg r.virt0 pre dpre Vpre hrun]; exact hfalse, fun hb => ?_⟩
  -- and availability only went down from `Vpre` to the cluster at return
  have hinvV := (run_le cfg r.virt0 pre dpre Vpre (copyPools_inv live r.virt0 hinv (schedule_ok cfg offer live r h).1) hrun).1
  have hrest := run_cons_intro cfg Vpre Vt r.virt t post d' dpost hst hpost
  cases hfin : fitsSomewhere r.virt s with
  | false => rfl
  | true => exact (fit_antitone cfg Vpre (t :: post) _ r.virt hinvV hrest s hb hfin).symm.trans hfalse

/-- **Lower priority is irrelevant** — withdraw every task of strictly lower priority than `t`
from the offer: the decisions for `t` and for everything processed before it do not change.
Hence no lower-priority task ever occupies a resource that would have let `t` run. -/
theorem lower_priority_irrelevant (cfg : Cfg) (offer : List Offered) (live : List Pool) (r r' : Result)
    (h : schedule cfg offer live = .ok r) (pre post : List Offered) (t : Offered)
    (hsplit : r.order = pre ++ t :: post)
    (h' : schedule cfg (offer.filter (fun u => !prioLt cfg t u)) live = .ok r') :
    r'.order.take (pre.length + 1) = pre ++ [t] ∧
    r'.placements.take (pre.length + 1) = r.placements.take (pre.length + 1) := by
  obtain ⟨hp1, _⟩ := priority_split cfg offer live r h pre post t hsplit
  obtain ⟨hc, _, ho, hr⟩ := schedule_ok cfg offer live r h
  obtain ⟨hc', _, ho', hr'⟩ := schedule_ok cfg _ live r' h'
  have hv : r'.virt0 = r.virt0 := (Except.ok.inj (hc.symm.trans hc')).symm
  have hord : r'.order = (pre ++ [t]) ++ post.filter (fun u => !prioLt cfg t u) := by
    rw [ho', order, ← sortBy_filter (prioLt_strictWeak cfg), ← order, ← ho, hsplit]
    have hpre : pre.filter (fun u => !prioLt cfg t u) = pre :=
      List.filter_eq_self.mpr (fun u hu => by simp [hp1 u hu])
    simp [List.filter_append, hpre, (prioLt_strictWeak cfg).irrefl (x := t) trivial]
  have hsplit' : r.order = (pre ++ [t]) ++ post := by simp [hsplit]
  rw [hsplit'] at hr
  rw [hord, hv] at hr'
  obtain ⟨da, Va, db, h1, _, hds, hl⟩ := run_append cfg r.virt0 (pre ++ [t]) post _ _ hr
  obtain ⟨da', Va', db', h1', _, hds', hl'⟩ := run_append cfg r.virt0 (pre ++ [t]) _ _ _ hr'
  rw [h1] at h1'
  cases h1'
  have hlen : da.length = pre.length + 1 := by simp [hl]
  refine ⟨by rw [hord]; exact List.take_left' (by simp), ?_⟩
  rw [hds, hds', ← hlen]
  simp

/-- On loader-built inputs (`NiceTask`: at least one strategy, plain strategies with one entry per
resource name) the reduced invocation of `lower_priority_irrelevant` does return, so that theorem
is not vacuous: the decisions for `t` and everything before it are those of the invocation from
which every strictly-lower-priority task was withdrawn. -/
theorem lower_priority_irrelevant_total (cfg : Cfg) (offer : List Offered) (live : List Pool) (r : Result)
    (h : schedule cfg offer live = .ok r) (hn : ∀ o ∈ offer, NiceTask o)
    (pre post : List Offered) (t : Offered) (hsplit : r.order = pre ++ t :: post) :
    ∃ r', schedule cfg (offer.filter (fun u => !prioLt cfg t u)) live = .ok r' ∧
      r'.order.take (pre.length + 1) = pre ++ [t] ∧
      r'.placements.take (pre.length + 1) = r.placements.take (pre.length + 1) := by
  obtain ⟨hc, hk, _, _⟩ := schedule_ok cfg offer live r h
  obtain ⟨r', h'⟩ := schedule_ok_of_nice cfg (offer.filter (fun u => !prioLt cfg t u)) live r.virt0 hc
    (keyError_filter cfg offer _ hk) (fun o ho => hn o (List.mem_filter.mp ho).1)
  exact ⟨r', h', lower_priority_irrelevant cfg offer live r r' h pre post t hsplit h'⟩

open Witness in
/-- The input on which LSF used to report A on the GPU strategy, B not placed and C on the
(already taken) GPU (finding D13, fixed in /repo 366b4de): one pool, worker 0 with one CPU,
worker 1 with one GPU; A (deadline 5, [GPU, CPU]), B (deadline 6, [CPU]), C (deadline 7, [GPU]).
LSF now places A on the GPU, B on the CPU and leaves C unplaced, and its virtual cluster is the
reported accounting. -/
example :
    ∃ r, schedule (cfg .lsf) offer live = .ok r ∧
      (summary r == [(⟨0, 0⟩, some 0, some 0), (⟨1, 0⟩, some 0, some 2), (⟨2, 0⟩, none, none)]
        && !fitsSomewhere (accountAll r.virt0 (r.order.take 2) (r.placements.take 2)) sC
        && (r.virt == accountAll r.virt0 r.order r.placements)) = true :=
  ok_of_match _ _ (by decide)

open Witness in
/-- The same input under EDF and FIFO: A on the GPU, B on the CPU, C not placed — and C's GPU
strategy indeed does not fit once A is accounted for. -/
example :
    ∃ r, schedule (cfg .edf) offer live = .ok r ∧
      (summary r == [(⟨0, 0⟩, some 0, some 0), (⟨1, 0⟩, some 0, some 2), (⟨2, 0⟩, none, none)]
        && !fitsSomewhere (accountAll r.virt0 (r.order.take 2) (r.placements.take 2)) sC
        && (r.virt == accountAll r.virt0 r.order r.placements)) = true :=
  ok_of_match _ _ (by decide)

open Witness in
example :
    ∃ r, schedule (cfg .fifo) offer live = .ok r ∧
      (summary r == [(⟨0, 0⟩, some 0, some 0), (⟨1, 0⟩, some 0, some 2), (⟨2, 0⟩, none, none)]) = true :=
  ok_of_match _ _ (by decide)

/-- The witness cluster satisfies the only hypothesis about clusters. -/
example : ClusterInv Witness.live := by
  intro p hp
  obtain rfl := List.mem_singleton.mp hp
  exact Pool.inv_ofVecs [[(⟨"CPU", some 0⟩, 1)], [(⟨"GPU", some 1⟩, 1)]] [] (by decide)

/-- A tie: two EDF tasks with the same deadline, graph names "G2" and "G10": "G10" < "G2" as
strings, so the task offered second is processed first; with equal names too the offer order
is kept. -/
example :
    (order (Witness.cfg .edf)
      [⟨⟨0, 0⟩, "G2", Witness.mkTask [Witness.sB] 9⟩, ⟨⟨1, 0⟩, "G10", Witness.mkTask [Witness.sB] 9⟩,
       ⟨⟨2, 0⟩, "G10", Witness.mkTask [Witness.sB] 9⟩]).map (·.id) = [⟨1, 0⟩, ⟨2, 0⟩, ⟨0, 0⟩] := by
  decide

end ErdosVerif.C13
