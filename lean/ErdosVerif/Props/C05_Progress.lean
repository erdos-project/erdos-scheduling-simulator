import ErdosVerif.Lemmas.SimProgressMain
import ErdosVerif.Props.C01_Run
/-!
# C05 (run level) — progress of the `simulate()` loop: no zero-length-step livelock

`simulate()` is `while True:` — pop the next event after stepping to its time, *or*, when a
placed task finishes earlier, step by the smallest remaining time of the placed tasks and go
round again **without** popping. An iteration of the second kind with step size 0 changes
nothing but the history: if it can happen once it happens forever (defect D4 of the design:
a strategy with runtime 0 used to make `Task.step` never report completion).

For whole runs of the simulator model (`Model/Sim.lean`; every world, every decision tape =
scheduler, every draw tape, any number of loop iterations) from a well-formed initial state
(`Sim.wfP`, decidable) this file proves, at **every loop head** (the state after the
constructor and `k` completed iterations, for every `k`) and at the normal end of a run:

* `running_zero_remaining_has_finish_event` — every RUNNING task with remaining time 0 has a
  TASK_FINISHED event in the queue, due now or earlier (the invariant the model's
  `placementPlace` / `step` maintain: a task that starts with no work left gets its event at
  once; `__step` creates the event when the remaining time reaches 0; `removeEvent` /
  in-place edits never hit a TASK_FINISHED event);
* `placed_tasks_are_running` — every task `get_placed_tasks()` returns is RUNNING (the
  pool-level map only mentions resident tasks, `Sim.PFM`; resident ⇒ RUNNING, C01);
* `head_due_when_zero_remaining` — hence, whenever a placed task has remaining time 0, the
  event at the head of the queue is due now or earlier, so the loop takes the popping branch;
* `no_zero_length_step_livelock` — **in the history, of two adjacent clock entries (no pop
  in between) the second is strictly later, unless it is immediately followed by a pop**:
  an iteration that does not end the run either pops an event or advances the clock by a
  strictly positive amount; `three_clock_entries_advance` is the corollary "between two
  consecutive pops a clock value is never written more than twice".
* `stall_state_counterexample` — the states that *would* stall (a RUNNING placed task with
  remaining time 0, no TASK_FINISHED event queued, next event in the future): `iter` returns
  without popping and without moving the clock, and the state after it stalls again. Such
  states violate the invariant, i.e. they are unreachable from well-formed initial states.

Not proved here (PARTIAL for C05): a bound on the number of events handled at one instant (a
per-handler same-instant causality table) and termination of the loop for all fuel above an
explicit bound. Runs aborted by an exception: the theorems hold at the last loop head before
the aborting iteration (the exceptional post-condition of the triples is trivial).
-/
namespace ErdosVerif.C05
open ErdosVerif.Model ErdosVerif.Model.Sim

/-- `P` holds of the state at the loop head after the constructor and `k` completed iterations
of the loop (nothing is claimed if an exception was raised before). -/
def AtLoopHead (s0 : SimS) (k : Nat) (P : SimS → Prop) : Prop :=
  HoldsAfter (fun _ s => P s) (fun _ => True) ((ExceptT.run (do init; runK k : SimM Bool)).run s0)

theorem atLoopHead_of_pj (s0 : SimS) (k : Nat) (h : wfP s0 = true) (P : SimS → Prop) (hP : ∀ s, PJ s → P s) :
    AtLoopHead s0 k P :=
  (loop_head_pj s0 k h).imp (fun _ => hP) (fun _ => id)

/-- A TASK_FINISHED event of task `t`, due now or earlier, is queued. -/
def FinishQueued (s : SimS) (t : TaskId) : Prop :=
  ∃ e ∈ s.queue.toList, e.ev.etype = ET.taskFinished ∧ e.tid = some t ∧ e.ev.time ≤ s.now

theorem finishQueued_of_pj {s : SimS} (h : PJ s) (t : TaskId) (x : TaskS) (ht : taskAt s.graphs t = some x)
    (hs : x.state = .running) (hr : x.remaining = some 0) : FinishQueued s t := by
  obtain ⟨e, he, h1, h2, h3⟩ := h.pg.due t x ht hs hr (by simp)
  exact ⟨e, by simpa using he, h1, h2, h3⟩

/-- **Every RUNNING task with remaining time 0 has its TASK_FINISHED event queued, due now or
earlier** — at every loop head of every run. -/
theorem running_zero_remaining_has_finish_event (s0 : SimS) (k : Nat) (h : wfP s0 = true) :
    AtLoopHead s0 k (fun s => ∀ t x, taskAt s.graphs t = some x → x.state = .running → x.remaining = some 0 →
      FinishQueued s t) :=
  atLoopHead_of_pj s0 k h _ (fun _ hJ t x => finishQueued_of_pj hJ t x)

/-- **Every task `get_placed_tasks()` returns is RUNNING** — at every loop head of every run. -/
theorem placed_tasks_are_running (s0 : SimS) (k : Nat) (h : wfP s0 = true) :
    AtLoopHead s0 k (fun s => ∀ t ∈ placedList s, ∃ x, taskAt s.graphs t = some x ∧ x.state = .running) :=
  atLoopHead_of_pj s0 k h _ (fun _ hJ t ht => hJ.placed_running t ht)

/-- **Whenever a placed task has remaining time 0, the event at the head of the queue is due
now or earlier**: the loop cannot take the non-popping branch with step size 0. -/
theorem head_due_when_zero_remaining (s0 : SimS) (k : Nat) (h : wfP s0 = true) :
    AtLoopHead s0 k NoStallPre :=
  atLoopHead_of_pj s0 k h _ (fun _ hJ => hJ.noStall)

/-- **No zero-length-step livelock.** In the clock / pop skeleton of the history (`some c` = the
clock was set to `c` by `__step`, `none` = an event was popped) at any loop head: of two adjacent
clock entries the second is strictly later, unless it is immediately followed by a pop — every
iteration that does not end the run pops an event or advances the clock by a strictly positive
amount. -/
theorem no_zero_length_step_livelock (s0 : SimS) (k : Nat) (h : wfP s0 = true) :
    AtLoopHead s0 k (fun s => ∀ i a b, (pg_skel s.log.toList)[i]? = some (some a) →
      (pg_skel s.log.toList)[i + 1]? = some (some b) → a < b ∨ (pg_skel s.log.toList)[i + 2]? = some none) :=
  atLoopHead_of_pj s0 k h _ (fun _ hJ => hJ.pg.lg.1)

/-- Between two consecutive pops a clock value is written at most twice: of three consecutive
clock entries the first two differ (strictly increase). -/
theorem three_clock_entries_advance (s0 : SimS) (k : Nat) (h : wfP s0 = true) :
    AtLoopHead s0 k (fun s => ∀ i a b c, (pg_skel s.log.toList)[i]? = some (some a) →
      (pg_skel s.log.toList)[i + 1]? = some (some b) → (pg_skel s.log.toList)[i + 2]? = some (some c) → a < b) :=
  atLoopHead_of_pj s0 k h _ (fun _ hJ i a b c h1 h2 h3 => by
    rcases hJ.pg.lg.1 i a b h1 h2 with h4 | h4
    · exact h4
    · rw [h3] at h4; cases h4)

/-- The same at the normal end of a run (`simulate` returned without exception). -/
theorem no_zero_length_step_livelock_at_end (s0 : SimS) (fuel : Nat) (h : wfP s0 = true)
    (hok : (simulate s0 fuel).1 = none) :
    let l := pg_skel (simulate s0 fuel).2.log.toList
    ∀ i a b, l[i]? = some (some a) → l[i + 1]? = some (some b) → a < b ∨ l[i + 2]? = some none :=
  (simulate_pj s0 fuel h hok).pg.lg.1

/-- The clock entry written last (if no pop followed it) carries the current clock value. -/
theorem trailing_clock_entry_is_now (s0 : SimS) (k : Nat) (h : wfP s0 = true) :
    AtLoopHead s0 k (fun s => ∀ a, (pg_skel s.log.toList).getLast? = some (some a) → a = s.now) :=
  atLoopHead_of_pj s0 k h _ (fun _ hJ => hJ.pg.lg.2)

/-- The world of `C01.exWorld` (two workers, a two-task chain, a closed-loop job) is a
well-formed initial state. -/
theorem exWorld_wfP : wfP C01.exWorld = true := by
  simp [wfP, wf0, quietB, C01.exWorld, Worker.ofVec, Resources.ofVec]

example : ∀ k, AtLoopHead C01.exWorld k NoStallPre := fun k => head_due_when_zero_remaining _ k exWorld_wfP

/-- The skeleton property is not trivially true: it fails for a history that writes the same
clock value twice and then a third clock entry, and holds when a pop follows. -/
example : ¬ SF [some 5, some 5, some 7] ∧ SF [some 5, some 5, none, some 7] := by
  constructor
  · intro h
    rcases h 0 5 5 rfl rfl with h1 | h1
    · omega
    · simp at h1
  · intro i a b h1 h2
    match i with
    | 0 => right; rfl
    | 1 => simp at h2
    | 2 => simp at h1
    | (n + 3) => simp at h2

/-- A RUNNING task with remaining time 0 resident on a worker, **no** TASK_FINISHED event
queued, the next event (SIMULATOR_END) at time 100, clock 0. -/
def stallState : SimS :=
  let st : Strategy := ⟨0, false, 1, 0, []⟩
  let w : Worker := { Worker.ofVec [] with placed := [(0, st)] }
  let x : TaskS :=
    { name := "a", conditional := false, terminal := false, prob := 1000, strategies := [st], profile := 0, deadline := 100,
      state := .running, pre := .released, release := 0, start := 0, lastStep := 0, remaining := some 0, pool := some 0 }
  let g : GraphS := { name := "g", tasks := #[x], children := #[[]], parents := #[[]], topo := [0] }
  { flags := { loopTimeout := 100 }, jobs := #[], allGraphs := #[], allMeta := #[], graphs := #[g],
    metas := #[⟨0, 0, 0⟩], loaderReleased := true, pools := #[⟨[w], [(0, 0)]⟩], poolNames := #["p"],
    queue := #[{ ev := ⟨0, 100, ET.simulatorEnd, none⟩ }], nextEid := 1, tape := [], decisions := [] }

/-- **The stall.** From `stallState` an iteration of the loop returns `false` (the run goes
on) without popping anything and without moving the clock; it only appends a clock entry
with the same value — and the state it leaves stalls in exactly the same way. The state
violates `running_zero_remaining_has_finish_event`, so it is unreachable. -/
theorem stall_state_counterexample :
    let r1 := (ExceptT.run iter).run stallState
    let r2 := (ExceptT.run iter).run r1.2
    (match r1.1 with | .ok b => b == false | _ => false) = true ∧ r1.2.now = stallState.now ∧
    r1.2.queue.size = 1 ∧ r1.2.log.size = 1 ∧ pg_skel r1.2.log.toList = [some 0] ∧
    (match r2.1 with | .ok b => b == false | _ => false) = true ∧ r2.2.now = stallState.now ∧
    r2.2.queue.size = 1 ∧ r2.2.log.size = 2 ∧ pg_skel r2.2.log.toList = [some 0, some 0] ∧
    ¬ FinishQueued stallState ⟨0, 0⟩ := by
  refine ⟨by decide, by decide, by decide, by decide, by decide, by decide, by decide, by decide, by decide, by decide, ?_⟩
  rintro ⟨e, he, h1, _, _⟩
  have : e = { ev := ⟨0, 100, ET.simulatorEnd, none⟩ } := by simpa [stallState] using he
  subst this
  cases h1

end ErdosVerif.C05
