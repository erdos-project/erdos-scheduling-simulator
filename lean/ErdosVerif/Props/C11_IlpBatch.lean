/-
C11 (ILP clause, BATCHING mode): for EVERY feasible point `σ` of the model that
`ILPScheduler(batching=True)` builds (`genB inst`), not only the solver's answer.

"Parent variable" of a BatchTask `c` (`p ∈ I.parentVars c`, characterised by
`parent_variable_iff`): a BatchTask that holds a graph parent of some member of `c`.

* `child_batch_after_parent_batch`: a placed parent BatchTask finishes (`start + runtime + 1`)
  before the child BatchTask starts — whether or not the child is placed;
* `child_not_before_parent_var`: `start c ≥ start p` even for an unplaced parent variable;
* `self_parent_never_placed`: a BatchTask that holds a parent of one of its own members is never
  placed (a parent and its child are never returned in one batch);
* `placed_child_parents_counted`, `child_placed_parents_placed_partial`,
  `decision_parents_placed_partial`: a placed child BatchTask with at least one parent variable
  has `all_parents_placed = 1`, hence (exchange of the double sum + at most one placed BatchTask
  per task) every graph parent of every member in a RUNNING or placed BatchTask — also on the
  returned decisions; without a parent variable nothing holds (C11-ILPB-2);
* `decisions_ordered`: the same on what `schedule()` returns (`decodeB`): a task returned placed
  through BatchTask `c` starts at or after `start + runtime + 1` of every returned-placed
  graph parent whose BatchTask is a parent variable of `c`.

FALSE of the code (counterexamples below):
* `running_parent_counterexample` (C11-ILPB-1): a RUNNING parent BatchTask contributes runtime 0;
* `unbatched_parent_counterexample` (C11-ILPB-2): an offered parent that joins no BatchTask has no
  variables; its child (here even its grandchild next to the grandparent) is placed freely.
-/
import ErdosVerif.Props.C10_IlpBatch
import ErdosVerif.Lemmas.IlpBatchParents
namespace ErdosVerif.C11_IlpBatch
open ErdosVerif.Mip ErdosVerif.IlpBatch
open ErdosVerif.Ilp (Var compatible qty nsum)

theorem parent_variable_iff {I : BInst} {c p : Nat} :
    p ∈ I.parentVars c ↔ p < I.nB ∧
      ∃ m ∈ I.members c, ∃ u ∈ I.base.parentsOf (I.task m).uniq, I.hasMember p u = true := by
  rw [mem_parentVars, nParentsIn_ne_zero]

/-- **Child batch after parent batch**: a parent BatchTask placed on worker `w` ends
(`start + runtime + 1`) before the child BatchTask starts. -/
theorem child_batch_after_parent_batch {I : BInst} {σ : Var → Int} (h : sat σ (genB I)) {c p w : Nat}
    (hc : c < I.nB) (hcr : I.bRunning c = false) (hp : p ∈ I.parentVars c)
    (hpl : I.chosen σ p = some w) :
    σ (.start p) + I.runtime p + 1 ≤ σ (.start c) := by
  have hrow := ((rows h).deps c (mem_nonRunning.mpr ⟨hc, hcr⟩) (List.ne_nil_of_mem hp)).1 p hp w (chosen_spec hpl).1
  rw [chosen_xval hpl, sval_var (chosen_nonRunning hpl), sval_var hcr] at hrow
  omega

/-- The child's start variable is never before the parent variable's start (`now` for a RUNNING
parent BatchTask), placed or not. -/
theorem child_not_before_parent_var {I : BInst} {σ : Var → Int} (h : sat σ (genB I)) {c p : Nat}
    (hc : c < I.nB) (hcr : I.bRunning c = false) (hp : p ∈ I.parentVars c) (hw : 0 < I.nW) :
    sval I σ p ≤ σ (.start c) := by
  have hrow := ((rows h).deps c (mem_nonRunning.mpr ⟨hc, hcr⟩) (List.ne_nil_of_mem hp)).1 p hp 0 hw
  have hx := xval_nonneg h (mem_parentVars.mp hp).1 0 (List.mem_range.mpr hw)
  have hr : (0 : Int) ≤ I.runtime p + 1 := by have := runtime_nonneg I p; omega
  have := Int.mul_nonneg hr hx
  rw [sval_var hcr] at hrow
  omega

/-- A BatchTask holding a parent of one of its own members can never be placed. -/
theorem self_parent_never_placed {I : BInst} {σ : Var → Int} (h : sat σ (genB I)) {c : Nat}
    (hc : c < I.nB) (hp : c ∈ I.parentVars c) : I.chosen σ c = none := by
  cases hch : I.chosen σ c with
  | none => rfl
  | some w =>
    exfalso
    have := child_batch_after_parent_batch h hc (chosen_nonRunning hch) hp hch
    have hr := runtime_nonneg I c
    omega

/-- The counting row a placed child BatchTask satisfies: `all_parents_placed = 1` and
`Σ_p (#parents in p) · Σ x_p` = number of distinct graph parents of its members. -/
theorem placed_child_parents_counted {I : BInst} {σ : Var → Int} (h : sat σ (genB I)) {c w : Nat}
    (hc : c < I.nB) (hne : I.parentVars c ≠ []) (hpl : I.chosen σ c = some w) :
    σ (.allParents c) = 1 ∧ (I.parentExpr c).eval σ = ((I.parentTasks c).length : Int) := by
  have h1 := one_le_psum_of_chosen h hc hpl
  exact parents_counted h (mem_nonRunning.mpr ⟨hc, chosen_nonRunning hpl⟩) hne (by omega)

/-- Full statement (FALSE without the hypothesis `hne`, see `unbatched_parent_counterexample`):
a placed child BatchTask has every graph parent of every member in a BatchTask that is RUNNING
or placed.  Proved for every child BatchTask with at least one parent variable (then also the
parents that joined no BatchTask are counted, and block the child). -/
theorem child_placed_parents_placed_partial {I : BInst} {σ : Var → Int} (h : sat σ (genB I))
    (hws : I.wfShared = true) (hwu : I.wfUniq = true) {c w m : Nat} (hc : c < I.nB)
    (hne : I.parentVars c ≠ []) (hpl : I.chosen σ c = some w) (hm : m ∈ I.members c)
    {u : String} (hu : u ∈ I.base.parentsOf (I.task m).uniq) :
    ∃ p, p < I.nB ∧ I.hasMember p u = true ∧ (I.bRunning p = true ∨ (I.chosen σ p).isSome = true) := by
  apply placed_child_all_parents_placed h hws hwu hc hne hpl
  unfold BInst.parentTasks
  simp only [List.mem_eraseDups]
  exact List.mem_flatMap.mpr ⟨m, hm, hu⟩

/-- The same on the returned decisions: if task `d.task` is returned placed through a BatchTask
with a parent variable, every graph parent `t` that is a task of the call is a member of a RUNNING
BatchTask or is itself returned placed. -/
theorem decision_parents_placed_partial {I : BInst} {σ : Var → Int} (h : sat σ (genB I))
    (hws : I.wfShared = true) (hwu : I.wfUniq = true) {d : BDecision} (hd : d ∈ decodeB I σ)
    {c w : Nat} {time : Int} (hp : d.placed = some (c, w, time)) (hne : I.parentVars c ≠ [])
    {t : Nat} (ht : t < I.nT) (hu : (I.task t).uniq ∈ I.base.parentsOf (I.task d.task).uniq) :
    (∃ p, p < I.nB ∧ I.bRunning p = true ∧ t ∈ I.members p) ∨
    (∃ d' ∈ decodeB I σ, d'.task = t ∧ d'.placed.isSome = true) := by
  obtain ⟨hcn, hm, hcc, _⟩ := placed_decision_spec hd hp
  obtain ⟨p, hpb, hmem, hor⟩ :=
    child_placed_parents_placed_partial h hws hwu (mem_nonRunning.mp hcn).1 hne hcc hm hu
  have htp : t ∈ I.members p := (hasMember_iff hwu hpb ht).mp hmem
  rcases hor with hr | hs
  · exact Or.inl ⟨p, hpb, hr, htp⟩
  · right
    cases hch : I.chosen σ p with
    | none => rw [hch] at hs; cases hs
    | some w' =>
      exact ⟨_, IlpBatch.member_gets_batch_placement h hws hpb ht htp hch, rfl, rfl⟩

/-- **What `schedule()` returns is ordered**: two returned decisions, both placed, the BatchTask of
the parent task being a parent variable of the BatchTask of the child task. -/
theorem decisions_ordered {I : BInst} {σ : Var → Int} (h : sat σ (genB I)) {dc dp : BDecision}
    (hdc : dc ∈ decodeB I σ) (hdp : dp ∈ decodeB I σ) {c p wc wp : Nat} {tc tp : Int}
    (hpc : dc.placed = some (c, wc, tc)) (hpp : dp.placed = some (p, wp, tp))
    (hpar : p ∈ I.parentVars c) : tp + I.runtime p + 1 ≤ tc := by
  obtain ⟨hcn, _, hcc, rfl⟩ := placed_decision_spec hdc hpc
  obtain ⟨_, _, hcp, rfl⟩ := placed_decision_spec hdp hpp
  exact child_batch_after_parent_batch h (mem_nonRunning.mp hcn).1 (mem_nonRunning.mp hcn).2 hpar hcp

/-- The parent variable relation holds in particular for a graph edge between the two tasks. -/
theorem parent_variable_of_edge {I : BInst} {c p mc mp : Nat} (hp : p < I.nB)
    (hmc : mc ∈ I.members c) (hmp : mp ∈ I.members p)
    (hedge : (I.task mp).uniq ∈ I.base.parentsOf (I.task mc).uniq) : p ∈ I.parentVars c := by
  rw [parent_variable_iff]
  refine ⟨hp, mc, hmc, _, hedge, ?_⟩
  simp only [BInst.hasMember, List.any_eq_true]
  exact ⟨mp, hmp, by simp⟩

/-! ### Non-vacuity (the two-chain instance of `C10_IlpBatch`) -/

open C10_IlpBatch in
/-- Per@G2 (BatchTask 3) is a child of Cam@G2, held by BatchTasks 0 (batch of 2) and 1 (chosen). -/
example : sat exSigma (genB exInst) ∧ 1 ∈ exInst.parentVars 3 ∧ 0 ∈ exInst.parentVars 3 ∧
    exInst.chosen exSigma 1 = some 0 ∧ exInst.chosen exSigma 3 = some 0 ∧
    exSigma (.start 1) + exInst.runtime 1 + 1 ≤ exSigma (.start 3) := by decide

/-! ### Finding C11-ILPB-1: RUNNING parent -/

/-- `now = 3`; P runs since 2 with a 6 µs strategy; its child C is offered ahead (lookahead). -/
def runningParentInst : BInst :=
  { now := 3
    workers := [⟨"W0", "P0", [("CPU", 4)]⟩]
    tasks := [⟨"C@G0", "C", 0, "G0", .virtual, -1, 40, "B", 0, 0, ⟨0, 0, []⟩⟩,
              ⟨"P@G0", "P", 0, "G0", .running, 1, 40, "A", 0, 1, ⟨1, 6, [("CPU", 1)]⟩⟩]
    nOffered := 1
    nodes := [⟨"P@G0", "P", 0, "G0", .running⟩, ⟨"C@G0", "C", 0, "G0", .virtual⟩]
    edges := [("P@G0", "C@G0")]
    enforceDeadlines := true, retract := false, releaseTaskgraphs := false, goalSlack := false
    allowed0 := []
    profiles := [⟨"B", [⟨1, 2, [("CPU", 1)]⟩], [0]⟩, ⟨"A", [⟨1, 6, [("CPU", 1)]⟩], [1]⟩] }

def runningParentSigma : Var → Int
  | .start 0 => 4
  | .x 0 0 0 => 1
  | .allParents 0 => 1
  | .greward 0 => 1
  | .treward 0 => 1
  | _ => 0

/-- A feasible point in which the child starts at `now + 1 = 4`, although its RUNNING parent
(BatchTask 1, a parent variable of BatchTask 0) started at 2 with runtime 6: the non-batching
bound `now + runtime + 1` (`C11_Ilp.after_running_parent`) fails. -/
theorem running_parent_counterexample :
    runningParentInst.wf = true ∧ runningParentInst.crash = none ∧
    sat runningParentSigma (genB runningParentInst) ∧
    1 ∈ runningParentInst.parentVars 0 ∧ runningParentInst.bRunning 1 = true ∧
    decodeB runningParentInst runningParentSigma = [⟨0, some (0, 0, 4)⟩] ∧
    ¬ (runningParentInst.now + runningParentInst.runtime 1 + 1 ≤ runningParentSigma (.start 0)) := by
  decide

/-! ### Finding C11-ILPB-2: a parent without BatchTask -/

open C10_IlpBatch in
/-- In `dependentInst` (T0 → T1 → T2) the offered T1 joins no BatchTask; T2 (task 2) is returned
placed at 1 although its parent T1 (task 1) gets no decision, at the same instant as its
grandparent T0 (task 0). -/
theorem unbatched_parent_counterexample :
    sat dependentSigma (genB dependentInst) ∧
    (("T1@G0", "T2@G0") ∈ dependentInst.edges) ∧ 1 < dependentInst.nOffered ∧
    decodeB dependentInst dependentSigma = [⟨2, some (0, 0, 1)⟩, ⟨0, some (1, 0, 1)⟩] ∧
    dependentInst.parentVars 0 = [] := by
  decide

end ErdosVerif.C11_IlpBatch
