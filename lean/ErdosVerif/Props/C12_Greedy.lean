import ErdosVerif.Props.C13
/-!
# C12 (greedy clauses) — EDF / FIFO with `enforce_deadlines` drop hopeless tasks

Model: `ErdosVerif.Model.Greedy`. `schedule cfg offer live = .ok r`: see `Props/C13.lean`;
`(o, d) ∈ r.order.zip r.placements` reads "`d` is the decision given for the offered task `o`".
`TaskS.fastest? o.task.strategies = some f`: `f` is `get_fastest_strategy()`, a strategy of the
task with the least runtime (`fastest_is_min`).

With `enforce_deadlines` (EDF, FIFO): `deadline < now + fastest runtime` ⇒ the decision is a
cancellation and names no pool; the boundary `deadline = now + fastest runtime` (and anything
later) is not cancelled.  LSF has no admission test and never cancels.
-/
namespace ErdosVerif.C12_Greedy
open ErdosVerif.Model ErdosVerif.Model.Greedy

/-- "Fastest" is what the property says: a strategy of the task whose runtime is minimal. -/
theorem fastest_is_min (l : List Strategy) (f : Strategy) (h : TaskS.fastest? l = some f) :
    f ∈ l ∧ ∀ x ∈ l, f.runtime ≤ x.runtime := fastest_min l f h

theorem decision_by_admission (cfg : Cfg) (offer : List Offered) (live : List Pool) (r : Result)
    (h : schedule cfg offer live = .ok r) :
    ∀ o d, (o, d) ∈ r.order.zip r.placements →
      (hopeless cfg o = .ok true ∧ d.kind = .cancel ∧ d.pool = none ∧ d.strat = none) ∨
      (hopeless cfg o = .ok false ∧ d.kind = .place) := by
  obtain ⟨_, _, _, hr⟩ := schedule_ok cfg offer live r h
  intro o d hm
  obtain ⟨Vb, Va, _, hs⟩ := run_zip cfg r.virt0 r.order r.placements r.virt hr o d hm
  exact step_hopeless cfg Vb o d Va hs

/-- **hopeless_cancelled** — EDF / FIFO with `enforce_deadlines`: a task that cannot finish by
its deadline even with its fastest strategy starting now is answered with a cancellation, which
names no pool and no strategy (the task is in no placement). -/
theorem hopeless_cancelled (cfg : Cfg) (offer : List Offered) (live : List Pool) (r : Result)
    (h : schedule cfg offer live = .ok r) (hpol : cfg.policy.checksDeadline = true)
    (hen : cfg.enforce = true) :
    ∀ o d, (o, d) ∈ r.order.zip r.placements → ∀ f, TaskS.fastest? o.task.strategies = some f →
      o.task.deadline < cfg.now + f.runtime → d.kind = .cancel ∧ d.pool = none ∧ d.strat = none := by
  intro o d hm f hf hlt
  have hh : hopeless cfg o = .ok true := by simp [hopeless, hpol, hen, hf, hlt]
  rcases decision_by_admission cfg offer live r h o d hm with ⟨_, h2⟩ | ⟨h1, _⟩
  · exact h2
  · rw [hh] at h1; cases h1

/-- With distinct offered tasks, a cancelled task has no other decision: it is in no placement. -/
theorem hopeless_in_no_placement (cfg : Cfg) (offer : List Offered) (live : List Pool) (r : Result)
    (h : schedule cfg offer live = .ok r) (hpol : cfg.policy.checksDeadline = true)
    (hen : cfg.enforce = true) (hnd : (offer.map (·.id)).Nodup) :
    ∀ o d, (o, d) ∈ r.order.zip r.placements → ∀ f, TaskS.fastest? o.task.strategies = some f →
      o.task.deadline < cfg.now + f.runtime → ∀ d' ∈ r.placements, d'.task = o.id → d'.pool = none := by
  intro o d hm f hf hlt d' hd' ht
  have hc := hopeless_cancelled cfg offer live r h hpol hen o d hm f hf hlt
  have hdm : d ∈ r.placements := (List.of_mem_zip hm).2
  obtain ⟨_, _, _, hr⟩ := schedule_ok cfg offer live r h
  obtain ⟨Vb, Va, _, hs⟩ := run_zip cfg r.virt0 r.order r.placements r.virt hr o d hm
  have hdt : d.task = o.id := step_task cfg Vb o d Va hs
  have hnd' : (r.placements.map (·.task)).Nodup := (schedule_tasks_perm h).nodup_iff.mpr hnd
  have : d' = d := eq_of_nodup_map (·.task) hnd' hd' hdm (ht.trans hdt.symm)
  rw [this]; exact hc.2.1

/-- **boundary** — a task with `deadline ≥ now + fastest runtime`, in particular exactly at the
boundary `deadline = now + fastest runtime`, is *not* cancelled. -/
theorem boundary_not_cancelled (cfg : Cfg) (offer : List Offered) (live : List Pool) (r : Result)
    (h : schedule cfg offer live = .ok r) :
    ∀ o d, (o, d) ∈ r.order.zip r.placements → ∀ f, TaskS.fastest? o.task.strategies = some f →
      cfg.now + f.runtime ≤ o.task.deadline → d.kind = .place := by
  intro o d hm f hf hle
  have hh : hopeless cfg o = .ok false := by
    unfold hopeless
    split
    · simp only [hf]
      have : ¬ o.task.deadline < cfg.now + f.runtime := by omega
      simp [this]
    · rfl
  rcases decision_by_admission cfg offer live r h o d hm with ⟨h1, _⟩ | ⟨_, h2⟩
  · rw [hh] at h1; cases h1
  · exact h2

/-- Without `enforce_deadlines`, and for LSF always, nothing is ever cancelled. -/
theorem never_cancelled_without_enforcement (cfg : Cfg) (offer : List Offered) (live : List Pool)
    (r : Result) (h : schedule cfg offer live = .ok r)
    (hoff : cfg.enforce = false ∨ cfg.policy.checksDeadline = false) :
    ∀ o d, (o, d) ∈ r.order.zip r.placements → d.kind = .place := by
  intro o d hm
  have hh : hopeless cfg o = .ok false := by
    unfold hopeless
    rcases hoff with e | e <;> simp [e]
  rcases decision_by_admission cfg offer live r h o d hm with ⟨h1, _⟩ | ⟨_, h2⟩
  · rw [hh] at h1; cases h1
  · exact h2

namespace Ex
open Witness

def fast : Strategy := ⟨10, false, 1, 2, cpuReq⟩
def slow : Strategy := ⟨11, false, 1, 4, cpuReq⟩
/-- now = 5; fastest runtime 2: A (deadline 7) is exactly at the boundary, B (deadline 6) is
hopeless, C (deadline 30) is loose but needs more CPUs than exist. -/
def offer : List Offered :=
  [⟨⟨0, 0⟩, "G0", mkTask [slow, fast] 7⟩, ⟨⟨1, 0⟩, "G1", mkTask [slow, fast] 6⟩,
   ⟨⟨2, 0⟩, "G2", mkTask [⟨12, false, 1, 3, [(⟨"CPU", none⟩, 9)]⟩] 30⟩]
def live : List Pool := [⟨[Worker.ofVec [(⟨"CPU", some 0⟩, 4)]], []⟩]
def kinds (r : Result) : List (TaskId × Bool × Option Nat) :=
  r.placements.map (fun d => (d.task, d.kind == .cancel, d.pool))
end Ex

/-- EDF with enforcement: B cancelled (processed first: earliest deadline), A placed, C left
unplaced (not cancelled). -/
example :
    ∃ r, schedule ⟨.edf, true, 5⟩ Ex.offer Ex.live = .ok r ∧
      (Ex.kinds r == [(⟨1, 0⟩, true, none), (⟨0, 0⟩, false, some 0), (⟨2, 0⟩, false, none)]) = true :=
  ok_of_match _ _ (by decide)

/-- FIFO with enforcement (all released at 0: offer order kept). -/
example :
    ∃ r, schedule ⟨.fifo, true, 5⟩ Ex.offer Ex.live = .ok r ∧
      (Ex.kinds r == [(⟨0, 0⟩, false, some 0), (⟨1, 0⟩, true, none), (⟨2, 0⟩, false, none)]) = true :=
  ok_of_match _ _ (by decide)

/-- The flag off: B is placed. -/
example :
    ∃ r, schedule ⟨.edf, false, 5⟩ Ex.offer Ex.live = .ok r ∧
      (Ex.kinds r == [(⟨1, 0⟩, false, some 0), (⟨0, 0⟩, false, some 0), (⟨2, 0⟩, false, none)]) = true :=
  ok_of_match _ _ (by decide)

end ErdosVerif.C12_Greedy
