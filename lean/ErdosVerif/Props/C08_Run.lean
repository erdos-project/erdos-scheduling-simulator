import ErdosVerif.Lemmas.SimCensus
/-!
# C08 (run level) — the end-of-run counters are the census of the trace

`Props/C08.lean` proves what one `__handle_task_finished` reports. Here the statements are
about **whole runs** of the simulator model (`Sim.simulate`), for every world, every
scheduler (decision tape), every draw tape and every number of loop iterations. They are
obtained from Hoare triples over every handler (`Lemmas/SimWalk.lean`) and the census of every
step a handler makes (`Lemmas/SimCensus*.lean`).

* `counters_match_trace` — when the run ends normally, each counter equals the number of
  rows of its kind in the trace (`finishedTasks` = #TASK_FINISHED rows = #`.finish` history
  entries, `cancelledTasks` = #TASK_CANCEL, `missedTaskDeadlines` = #MISSED_DEADLINE,
  `finishedGraphs` = #TASK_GRAPH_FINISHED).
* `missed_graph_deadlines_relation` — `missedGraphDeadlines` is **not** the number of
  MISSED_TASK_GRAPH_DEADLINE rows: it is the number of TASK_GRAPH_FINISHED rows with a
  non-zero tardiness column, and at most the number of MISSED_TASK_GRAPH_DEADLINE rows (the
  row is written for every task that finishes after its graph's deadline, the counter moves
  once per finished graph): `missed_graph_rows_exceed_counter_counterexample`.
* `end_row_reports_census` — the last row of a run that ended normally is the SIMULATOR_END
  row and carries exactly these numbers; `every_end_row_reports_census` — in any reachable
  state every SIMULATOR_END row reports the census of the rows before it.
* `aborted_run_census` — a run that stops with an exception leaves the same equalities,
  except that `cancelledTasks` may be one ahead of the TASK_CANCEL rows
  (`cancel_counter_ahead_counterexample`: the counter is incremented before the row is
  formatted, and formatting raises for a task without execution strategy).
-/
namespace ErdosVerif.C08
open ErdosVerif.Model ErdosVerif.Model.Sim

theorem counters_match_trace (s0 : SimS) (fuel : Nat) (h0 : Census s0) (hend : (simulate s0 fuel).1 = none) :
    let s := (simulate s0 fuel).2
    s.finishedTasks = countRows "TASK_FINISHED" s.rows.toList ∧
    s.finishedTasks = s.log.toList.countP isFinishLog ∧
    s.cancelledTasks = countRows "TASK_CANCEL" s.rows.toList ∧
    s.missedTaskDeadlines = countRows "MISSED_DEADLINE" s.rows.toList ∧
    s.finishedGraphs = countRows "TASK_GRAPH_FINISHED" s.rows.toList := by
  have h := ((simulate_census s0 fuel h0).2 hend).1
  exact ⟨h.fin, h.finLog, h.can, h.mis, h.gra⟩

/-- **`missedGraphDeadlines` versus the MISSED_TASK_GRAPH_DEADLINE rows** (any reachable
state, also of an aborted run): the counter is the number of TASK_GRAPH_FINISHED rows whose
tardiness column is not `0`, and it never exceeds the number of
MISSED_TASK_GRAPH_DEADLINE rows. -/
theorem missed_graph_deadlines_relation (s0 : SimS) (fuel : Nat) (h0 : Census s0) :
    let s := (simulate s0 fuel).2
    s.missedGraphDeadlines = s.rows.toList.countP lateGraphRow ∧
    s.missedGraphDeadlines ≤ countRows "MISSED_TASK_GRAPH_DEADLINE" s.rows.toList ∧
    s.missedGraphDeadlines ≤ s.finishedGraphs := by
  have h := (simulate_census s0 fuel h0).1
  refine ⟨h.misG, h.misGle, ?_⟩
  rw [h.misG, h.gra]
  unfold countRows
  apply List.countP_mono_left
  intro r _ hr
  simp only [lateGraphRow, Bool.and_eq_true] at hr
  exact hr.1

/-- The rows can outnumber the counter: a task that finishes after the deadline of its
(still incomplete) task graph gets a MISSED_TASK_GRAPH_DEADLINE row and no counter
increment. -/
theorem missed_graph_rows_exceed_counter_counterexample :
    let x : TaskS := { name := "a", conditional := false, terminal := false, prob := 1000, strategies := [],
                       profile := 0, deadline := 50, state := .completed }
    let y : TaskS := { x with name := "b", state := .released }
    let g : GraphS := ⟨"g", #[x, y], #[[1], []], #[[], [0]], [0, 1]⟩
    (finishOut x g "0" "g0.t0" 60).dMissedGraphDeadlines = 0 ∧
    (∃ r ∈ (finishOut x g "0" "g0.t0" 60).rows, rowKind r = "MISSED_TASK_GRAPH_DEADLINE") := by
  refine ⟨by decide, ?_⟩
  refine ⟨[istr 60, "MISSED_TASK_GRAPH_DEADLINE", "g", istr 50], ?_, rfl⟩
  simp [finishOut, GraphS.isComplete, GraphS.sinks, GraphS.nodes, GraphS.isSink, GraphS.kids, GraphS.completeOf,
    GraphS.task?, TaskS.isComplete, GraphS.deadline]

def EndRowOf (pre : List Row) (r : Row) : Prop :=
  ∃ time cancelledGraphs, r = [time, "SIMULATOR_END", nstr (countRows "TASK_FINISHED" pre),
    nstr (countRows "TASK_CANCEL" pre), nstr (countRows "MISSED_DEADLINE" pre),
    nstr (countRows "TASK_GRAPH_FINISHED" pre), cancelledGraphs, nstr (pre.countP lateGraphRow)]

/-- **The SIMULATOR_END row carries the census.** When the run ends normally, `ended` is
set, the trace is `pre ++ [r]` where `r` is the SIMULATOR_END row, and `r` reports the
numbers of TASK_FINISHED, TASK_CANCEL, MISSED_DEADLINE and TASK_GRAPH_FINISHED rows and of
late TASK_GRAPH_FINISHED rows of `pre` — which are the final values of the counters. -/
theorem end_row_reports_census (s0 : SimS) (fuel : Nat) (h0 : Census s0) (hend : (simulate s0 fuel).1 = none) :
    let s := (simulate s0 fuel).2
    s.ended = true ∧ ∃ pre r, s.rows.toList = pre ++ [r] ∧ EndRowOf pre r ∧
      countRows "TASK_FINISHED" pre = s.finishedTasks ∧ countRows "TASK_CANCEL" pre = s.cancelledTasks ∧
      countRows "MISSED_DEADLINE" pre = s.missedTaskDeadlines ∧
      countRows "TASK_GRAPH_FINISHED" pre = s.finishedGraphs ∧ pre.countP lateGraphRow = s.missedGraphDeadlines := by
  obtain ⟨hc, he, time, cg, hlast⟩ := (simulate_census s0 fuel h0).2 hend
  refine ⟨he, ?_⟩
  generalize (simulate s0 fuel).2 = s at *
  have hne : s.rows.toList ≠ [] := by
    intro h; rw [h] at hlast; cases hlast
  obtain ⟨pre, r, hpr⟩ : ∃ pre r, s.rows.toList = pre ++ [r] := by
    rcases List.eq_nil_or_concat s.rows.toList with h | ⟨pre, r, h⟩
    · exact absurd h hne
    · exact ⟨pre, r, by simpa using h⟩
  have hr : r = [time, "SIMULATOR_END", nstr s.finishedTasks, nstr s.cancelledTasks, nstr s.missedTaskDeadlines,
      nstr s.finishedGraphs, cg, nstr s.missedGraphDeadlines] := by
    rw [hpr] at hlast
    simpa using hlast
  have hk : rowKind r = "SIMULATOR_END" := by rw [hr]; rfl
  have hcnt : ∀ k : String, k ≠ "SIMULATOR_END" → countRows k s.rows.toList = countRows k pre := by
    intro k hk'
    rw [hpr]
    exact countRows_push_neutral k pre r (by rw [hk]; exact fun h => hk' h.symm)
  have hlate : s.rows.toList.countP lateGraphRow = pre.countP lateGraphRow := by
    rw [hpr, List.countP_append, List.countP_cons, List.countP_nil]
    have : lateGraphRow r = false := by simp [lateGraphRow, hk]
    simp [this]
  have e1 := hcnt "TASK_FINISHED" (by decide)
  have e2 := hcnt "TASK_CANCEL" (by decide)
  have e3 := hcnt "MISSED_DEADLINE" (by decide)
  have e4 := hcnt "TASK_GRAPH_FINISHED" (by decide)
  refine ⟨pre, r, hpr, ⟨time, cg, ?_⟩, ?_, ?_, ?_, ?_, ?_⟩
  · rw [hr, ← e1, ← e2, ← e3, ← e4, ← hlate, ← hc.fin, ← hc.can, ← hc.mis, ← hc.gra, ← hc.misG]
  · rw [← e1, ← hc.fin]
  · rw [← e2, ← hc.can]
  · rw [← e3, ← hc.mis]
  · rw [← e4, ← hc.gra]
  · rw [← hlate, ← hc.misG]

theorem every_end_row_reports_census (s0 : SimS) (fuel : Nat) (h0 : Census s0) (pre post : List Row) (r : Row)
    (hrows : (simulate s0 fuel).2.rows.toList = pre ++ r :: post) (hk : rowKind r = "SIMULATOR_END") :
    EndRowOf pre r :=
  (simulate_census s0 fuel h0).1.ends pre r post hrows hk

/-- **Aborted runs.** Whatever way the run stops (exception, fuel), the final state satisfies
all the equalities, except that `cancelledTasks` is the number of TASK_CANCEL rows or one more. -/
theorem aborted_run_census (s0 : SimS) (fuel : Nat) (h0 : Census s0) :
    let s := (simulate s0 fuel).2
    s.finishedTasks = countRows "TASK_FINISHED" s.rows.toList ∧
    s.finishedTasks = s.log.toList.countP isFinishLog ∧
    (s.cancelledTasks = countRows "TASK_CANCEL" s.rows.toList ∨
     s.cancelledTasks = countRows "TASK_CANCEL" s.rows.toList + 1) ∧
    s.missedTaskDeadlines = countRows "MISSED_DEADLINE" s.rows.toList ∧
    s.finishedGraphs = countRows "TASK_GRAPH_FINISHED" s.rows.toList := by
  have h := (simulate_census s0 fuel h0).1
  exact ⟨h.fin, h.finLog, h.can, h.mis, h.gra⟩

/-- The slack is real: TASK_CANCEL for a task without execution strategy raises
(`task.slowest_execution_strategy.runtime` on `None`) after the counter was incremented and
before the row is written. -/
theorem cancel_counter_ahead_counterexample :
    let x : TaskS := { name := "a", conditional := false, terminal := false, prob := 1000, strategies := [],
                       profile := 0, deadline := 50, state := .cancelled }
    let g : GraphS := ⟨"g", #[x], #[[]], #[[]], [0]⟩
    let s : SimS := { flags := { loopTimeout := 100 }, jobs := #[], allGraphs := #[], allMeta := #[], graphs := #[g],
                      pools := #[], poolNames := #[], tape := [], decisions := [] }
    let ev : SEvent := { ev := ⟨7, 0, ET.taskCancel, some "a@g"⟩, tid := some ⟨0, 0⟩ }
    let out := (ExceptT.run (handleTaskCancel ev)).run s
    Census s ∧ (match out.1 with | .error .attributeError => true | _ => false) = true ∧
    out.2.cancelledTasks = 1 ∧ countRows "TASK_CANCEL" out.2.rows.toList = 0 := by
  refine ⟨census_initial _ rfl rfl rfl rfl rfl rfl rfl, by decide, by decide, by decide⟩

/-- Non-vacuity of the hypothesis `Census s0`: every initial state with an empty trace, an
empty history and zero counters (what the harness builds). -/
example : Census { flags := { loopTimeout := 100 }, jobs := #[], allGraphs := #[], allMeta := #[],
                   pools := #[], poolNames := #[], tape := [], decisions := [] } :=
  census_initial _ rfl rfl rfl rfl rfl rfl rfl

end ErdosVerif.C08
