/-
C10 (TetriSched-CPLEX, **batching mode**): what the merged decision of `schedule()` guarantees.

For every assignment `σ` (structural, no feasibility needed):
* `one_decision_per_task`, `fail_one_decision` — at most one decision per task (the merge map is
  keyed by task; cancelled tasks are members of no batch);
* `only_known_tasks` — decisions only for offered tasks (cancellations) and for tasks of the call
  that survived the admission control (members of a batch);
* `batched_task_answered`, `cancelled_answered` — every member of a batch with variables and every
  cancelled task is answered;
* `placement_wellformed` — a placement names an existing worker that can hold the reported
  `BatchStrategy`, a start on the grid, not before `now` nor before the release of **the member
  task** (the batch release is the maximum), and the batch the task is a member of.

For every *feasible* `σ` (`sat σ (genB I)`):
* `placed_batch_unique` — at most one placed batch per task (the `…_not_placed` rows);
* `members_share_placement` — every member of a placed batch is answered with the batch's cell:
  the decoded plan consists exactly of the placed batches;
* **`batch_charged_once`** — at every slot that carries capacity rows, for every worker and
  resource, the requirement of each placed batch **counted once** (not once per member) plus the
  RUNNING batches fits the worker; `capacity_at_instant` — hence at every instant of those slots'
  intervals `[slot k, slot k + disc)` (all starts lie on the grid).

Counterexamples (the code violates the clause; findings C10-TETRI-B1..B3):
* `raises_counterexample` — a well-formed instance on which `schedule()` raises `ValueError`
  (a profile without `BatchTask`);
* `unanswered_counterexample` — an offered task that survives the admission control and gets no
  decision under any `σ` (it is a member of no batch): "every offered task is answered" is false;
* `horizon_counterexample` — a feasible point whose decoded plan over-subscribes a worker at a
  slot beyond the capacity rows (`nSlotsR ≤ k < nSlotsV`): `batch_charged_once` cannot be
  extended to all slots that carry variables.
-/
import ErdosVerif.Lemmas.TetriBatch
namespace ErdosVerif.C10_TetriBatch
open ErdosVerif.Mip ErdosVerif.Tetri ErdosVerif.TetriBatch

variable {I : BInst} {σ : BVar → Int}

theorem decision_origin {d : BDecision} (hd : d ∈ decodeB I σ) :
    (d.out = .cancel ∧ d.task < I.nOffered ∧ I.active d.task = false) ∨
    (d.out ≠ .cancel ∧ ∃ bi ∈ I.free, d.task ∈ (I.batch bi).members) := by
  rcases mem_decodeB hd with ⟨hc, hm⟩ | ⟨bi, hb, hdb⟩
  · exact Or.inl ⟨hc, mem_cancelledB.mp hm⟩
  · refine Or.inr ⟨?_, bi, hb, (mem_decodeBatch hdb).1⟩
    rcases (mem_decodeBatch hdb).2 with h | ⟨q, _, h⟩ <;> simp [h]

/-- **At most one decision per task**, for every assignment. -/
theorem one_decision_per_task (I : BInst) (σ : BVar → Int) : ((decodeB I σ).map (·.task)).Nodup := by
  simp only [decodeB, List.map_append, List.map_map, Function.comp_def, List.map_id']
  rw [List.nodup_append]
  refine ⟨?_, mergeB_nodup _, ?_⟩
  · unfold BInst.cancelled
    exact List.Nodup.sublist List.filter_sublist List.nodup_range
  · intro a ha b hb hab
    subst hab
    obtain ⟨d, hd, rfl⟩ := List.mem_map.mp hb
    obtain ⟨bi, hbi, hdb⟩ := List.mem_flatMap.mp (mem_mergeB hd)
    have hact := (members_active (mem_free.mp hbi).1 (mem_decodeBatch hdb).1).2
    simp [(mem_cancelledB.mp ha).2] at hact

theorem no_duplicate_decisions (I : BInst) (σ : BVar → Int) {d e : BDecision} (hd : d ∈ decodeB I σ)
    (he : e ∈ decodeB I σ) (hde : d.task = e.task) : d = e := by
  have hn := one_decision_per_task I σ
  exact eq_of_nodup_map (·.task) hn hd he hde

/-- The same when the solver finds no solution. -/
theorem fail_one_decision (I : BInst) : ((decodeFailB I).map (·.task)).Nodup := by
  simp only [decodeFailB, List.map_append, List.map_map, Function.comp_def, List.map_id']
  rw [List.nodup_append]
  refine ⟨?_, ?_, ?_⟩
  · unfold BInst.cancelled
    exact List.Nodup.sublist List.filter_sublist List.nodup_range
  · unfold BInst.offeredAct
    exact List.Nodup.sublist List.filter_sublist List.nodup_range
  · intro a ha b hb hab
    subst hab
    simp [BInst.offeredAct, (mem_cancelledB.mp ha).2] at hb

/-- Decisions only for tasks of the call: an offered task (a cancellation) or a task of the list (a
member of a batch; `decision_origin` says which, `members_active` that it survived the admission
control). -/
theorem only_known_tasks {d : BDecision} (hd : d ∈ decodeB I σ) :
    d.task < I.nT ∨ d.task < I.nOffered := by
  rcases decision_origin hd with ⟨_, h, _⟩ | ⟨_, bi, hb, hm⟩
  · exact Or.inr h
  · exact Or.inl (members_active (mem_free.mp hb).1 hm).1

theorem batched_task_answered {bi t : Nat} (hb : bi ∈ I.free) (ht : t ∈ (I.batch bi).members) :
    ∃ d ∈ decodeB I σ, d.task = t := by
  obtain ⟨d, hd, rfl⟩ := decodeBatch_answers (σ := σ) ht
  obtain ⟨e, he, het⟩ := List.mem_map.mp (task_mem_mergeB (List.mem_flatMap.mpr ⟨bi, hb, hd⟩))
  exact ⟨e, List.mem_append.mpr (Or.inr he), het⟩

theorem cancelled_answered {t : Nat} (ht : t ∈ I.cancelled) : (⟨t, .cancel⟩ : BDecision) ∈ decodeB I σ := by
  simp only [decodeB, List.mem_append, List.mem_map]
  exact Or.inl ⟨t, ht, rfl⟩

/-- **A placement is well-formed**: existing worker that can hold the reported `BatchStrategy`, a
batch the task is a member of, a start on the grid, not before `now` nor before the member's own
release. -/
theorem placement_wellformed {t w b : Nat} {time : Int}
    (hd : (⟨t, .placed w b time⟩ : BDecision) ∈ decodeB I σ) :
    b < I.nB ∧ t ∈ (I.batch b).members ∧ w < I.nW ∧
    compatible (I.worker w) (I.batch b).strat.toStrat = true ∧
    (∃ k, k < I.nSlotsV ∧ time = I.slot k) ∧ I.now ≤ time ∧ (I.task t).release ≤ time := by
  obtain ⟨hb, hm, k, hc, rfl⟩ := placed_origin hd
  obtain ⟨hq, _, hok, _⟩ := chosen_spec hc
  have hk := mem_keysB.mp hq
  obtain ⟨hcomp, hrel, _⟩ := cellOk_spec hok
  refine ⟨(mem_free.mp hb).1, hm, hk.1, hcomp, ⟨k, hk.2, rfl⟩, ?_, ?_⟩
  · simp only [BInst.slot]; omega
  · exact Int.le_trans (le_bRelease I (I.batch b) hm) hrel

/-- **At most one placed batch per task** in every feasible point. -/
theorem placed_batch_unique (h : sat σ (genB I)) {t b1 b2 : Nat} (h1 : b1 < I.nB) (h2 : b2 < I.nB)
    (m1 : t ∈ (I.batch b1).members) (m2 : t ∈ (I.batch b2).members)
    (p1 : (I.isPlacedE b1).eval σ = 1) (p2 : (I.isPlacedE b2).eval σ = 1) : b1 = b2 :=
  TetriBatch.placed_batch_unique h h1 h2 m1 m2 p1 p2

/-- **The merge is exact on feasible points**: every member of a placed batch is answered with
that batch's cell (worker, start, `BatchStrategy`). -/
theorem members_share_placement (h : sat σ (genB I)) {bi w k : Nat} (hb : bi ∈ I.free)
    (hc : I.chosen σ bi = some (w, k)) {t : Nat} (ht : t ∈ (I.batch bi).members) :
    (⟨t, .placed w bi (I.slot k)⟩ : BDecision) ∈ decodeB I σ := by
  simp only [decodeB, List.mem_append]
  refine Or.inr (mem_mergeB_of_unique ?_ rfl ?_)
  · refine List.mem_flatMap.mpr ⟨bi, hb, ?_⟩
    simp only [BInst.decodeBatch, hc, List.mem_map]
    exact ⟨t, ht, rfl⟩
  · intro e he het hep
    obtain ⟨b', hb', hdb⟩ := List.mem_flatMap.mp he
    obtain ⟨hm', hout⟩ := mem_decodeBatch hdb
    rcases hout with hu | ⟨q, hq, hp⟩
    · rw [hu] at hep; exact Bool.noConfusion hep
    · simp only at het
      rw [het] at hm'
      have hbb : b' = bi := TetriBatch.placed_batch_unique h (mem_free.mp hb').1 (mem_free.mp hb).1 hm' ht
        (isPlaced_of_chosen h hb' hq) (isPlaced_of_chosen h hb hc)
      subst hbb
      rw [hc] at hq
      cases hq
      cases e
      simp only at het hp
      rw [het, hp]

/-- **Capacity with a batch charged once.**  For every feasible point, every slot `k` that carries
capacity rows, every worker and resource of that worker: the requirement of every placed
`BatchTask` that occupies the slot — **once per batch**, not per member — plus the RUNNING
batches is within the worker's total quantity. -/
theorem batch_charged_once (h : sat σ (genB I)) (hwf : I.wf = true) {w k : Nat} {r : String}
    (hk : k < I.nSlotsR) (hw : w < I.nW) (hr : r ∈ (I.worker w).types) :
    I.batchLoad σ w k r ≤ qty (I.worker w).res r :=
  batchLoad_le h hwf hk hw hr

/-- **Capacity at every planned instant of the row horizon**, a batch counted once: for every
instant `τ` in `[slot k, slot k + disc)` with `k < nSlotsR` the batches of the decoded plan that
occupy `τ` (half-open `[start, start + runtime)`) plus the RUNNING batches fit the worker. -/
theorem capacity_at_instant (h : sat σ (genB I)) (hwf : I.wf = true) {w k : Nat} {τ : Int} {r : String}
    (hk : k < I.nSlotsR) (hw : w < I.nW) (hr : r ∈ (I.worker w).types)
    (h1 : I.slot k ≤ τ) (h2 : τ < I.slot k + (I.disc : Nat)) :
    I.loadAt σ w τ r ≤ qty (I.worker w).res r :=
  Nat.le_trans (loadAt_le h1 h2) (batch_charged_once h hwf hk hw hr)

/-- `batch_charged_once` is the *partial* form of the property's clause "never exceed any worker's
capacity at any planned instant": it holds at the slots with capacity rows (`k < nSlotsR`), and
`horizon_counterexample` refutes it for the later slots that still carry variables. -/
theorem capacity_partial (h : sat σ (genB I)) (hwf : I.wf = true) {w k : Nat} {r : String}
    (hk : k < I.nSlotsR) (hw : w < I.nW) (hr : r ∈ (I.worker w).types) :
    I.batchLoad σ w k r ≤ qty (I.worker w).res r := batch_charged_once h hwf hk hw hr

/-- Finding C10-TETRI-B1: one RELEASED task whose profile has a single strategy of `batch_size` 2. -/
def exRaise : BInst :=
  { now := 0, disc := 1, planAheadOpt := -1
    workers := [⟨"W0", "P0", [("CPU", 2)]⟩]
    profiles := [⟨"PR0", [⟨5, 2, [("CPU", 1)]⟩]⟩]
    prevStrats := []
    tasks := [⟨"A@G0", .released, 0, 10, 0, 1, 0, 0⟩]
    nOffered := 1
    setOrder := [0]
    enforceDeadlines := true, retract := false }

/-- **`schedule()` does not return normally on every reachable input**: the instance is
well-formed, a task is offered and survives the admission control, and the batching glue raises
(`min()` of the empty priority list). -/
theorem raises_counterexample : exRaise.wf = true ∧ exRaise.noModel = false ∧ exRaise.raises = true := by
  decide

/-- Finding C10-TETRI-B2: without enforcement `Late` (deadline 2 < now + 3) is in no batch. -/
def exLate : BInst :=
  { now := 0, disc := 1, planAheadOpt := -1
    workers := [⟨"W0", "P0", [("CPU", 2)]⟩]
    profiles := [⟨"PR0", [⟨3, 1, [("CPU", 1)]⟩]⟩]
    prevStrats := []
    tasks := [⟨"Late@G0", .released, 0, 2, 0, 1, 0, 0⟩, ⟨"B@G1", .released, 0, 9, 0, 1, 0, 0⟩]
    nOffered := 2
    setOrder := [0, 1]
    enforceDeadlines := false, retract := false }

/-- **Not every offered task is answered**: `Late` is offered, not cancelled, the call builds a
model and does not raise — and no assignment `σ` decodes to any decision for it. -/
theorem unanswered_counterexample :
    exLate.wf = true ∧ exLate.noModel = false ∧ exLate.raises = false ∧ (0 : Nat) < exLate.nOffered ∧
    exLate.active 0 = true ∧ ∀ σ, ∀ d ∈ decodeB exLate σ, d.task ≠ 0 := by
  refine ⟨by decide, by decide, by decide, by decide, by decide, ?_⟩
  intro σ d hd h0
  rcases decision_origin hd with ⟨_, _, ha⟩ | ⟨_, bi, hb, hm⟩
  · rw [h0] at ha
    exact absurd ha (by decide)
  · rw [h0] at hm
    have hbi : bi < 1 := (mem_free.mp hb).1
    have : bi = 0 := by omega
    subst this
    exact absurd hm (by decide)

/-- Finding C10-TETRI-B3: one 1-CPU worker; A(4) B(4) C(5) D(9) share a batch-2 strategy of 3 µs,
R (another profile, runtime 8, deadline 5) is RUNNING on the worker; no enforcement.  The batches
are `{A,B}`, `{B,C}`, `{C,D}` (deadlines 4, 4, 5) and the RUNNING `{R}` (5): capacity rows exist
for the slots 0..5, variables for the slots 0..9. -/
def exHorizon : BInst :=
  { now := 0, disc := 1, planAheadOpt := -1
    workers := [⟨"W0", "P0", [("CPU", 1)]⟩]
    profiles := [⟨"PR0", [⟨3, 2, [("CPU", 1)]⟩]⟩, ⟨"PR1", [⟨8, 1, [("CPU", 1)]⟩]⟩]
    prevStrats := [⟨8, 1, [("CPU", 1)]⟩]
    tasks := [⟨"A@G0", .released, 0, 4, 0, 1, 0, 0⟩, ⟨"B@G1", .released, 0, 4, 0, 1, 0, 0⟩,
              ⟨"C@G2", .released, 0, 5, 0, 1, 0, 0⟩, ⟨"D@G3", .released, 0, 9, 0, 1, 0, 0⟩,
              ⟨"R@G4", .running, 0, 5, 1, 0, 0, 8⟩]
    nOffered := 4
    setOrder := [0, 1, 2, 3, 4]
    enforceDeadlines := false, retract := false }

/-- Both free batches `{A,B}` (index 0) and `{C,D}` (index 2) start at slot 6. -/
def sigmaHorizon : BVar → Int
  | .cell 0 0 6 => 1
  | .cell 2 0 6 => 1
  | .isPlaced 0 => 1
  | .isPlaced 2 => 1
  | .reward 0 => 2448
  | .reward 2 => 2448
  | _ => 0

theorem exHorizon_facts : exHorizon.wf = true ∧ exHorizon.noModel = false ∧ exHorizon.raises = false ∧
    exHorizon.nSlotsR = 6 ∧ exHorizon.nSlotsV = 10 := by decide

/-- **The capacity guarantee stops where the capacity rows stop**: a feasible point of the model
whose decoded plan needs 3 CPUs of the 1-CPU worker at slot 6 (two batches and the RUNNING task),
a slot that carries variables but no capacity row. -/
theorem horizon_counterexample :
    sat sigmaHorizon (genB exHorizon) ∧ exHorizon.nSlotsR ≤ 6 ∧ 6 < exHorizon.nSlotsV ∧
    exHorizon.batchLoad sigmaHorizon 0 6 "CPU" = 3 ∧ qty (exHorizon.worker 0).res "CPU" = 1 := by
  decide

/-- Non-vacuity of `batch_charged_once` / `members_share_placement`: a feasible point of a
well-formed instance in which a two-member batch is placed; both members are answered with the
batch's cell and the batch is charged once (load 1 of 1 CPU at slot 3; `Urgent` stays unplaced). -/
example : ∃ σ, sat σ (genB exTight) ∧ exTight.wf = true ∧
    exTight.chosen σ 1 = some (0, 1) ∧
    exTight.batchLoad σ 0 3 "CPU" = 1 := by
  refine ⟨fun v => match v with
    | .cell 1 0 1 => 1 | .isPlaced 1 => 1 | .reward 1 => 204 * 39 | .notPlaced 0 => -1 | _ => 0, ?_⟩
  decide

end ErdosVerif.C10_TetriBatch
