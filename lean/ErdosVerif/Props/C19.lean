/-
C19 — workload and cluster descriptions are instantiated faithfully.

Theorems about the executable model of `Model/Release.lean` and
`Model/Loader.lean` (tied to /repo by harness/suites/c19.py).  Every random
draw of the code is a universally quantified input.
-/
import ErdosVerif.Lemmas.Release
import ErdosVerif.Lemmas.Loader

namespace ErdosVerif.C19
open ErdosVerif.Release ErdosVerif.Loader

/-! ## fixed: N releases one period apart from the start -/

/-- `get_release_times` of a FIXED policy is `[s + i·p | i < n]`, whatever the
horizon and the draws. -/
theorem fixed_releases (n : Nat) (p s : Int) (h : Option Int) (d : Draws) :
    getReleaseTimes { kind := .fixed, period := p, n := (n : Int), start := s } h d
      = .ok ((List.range n).map (fun (i : Nat) => s + (i : Int) * p)) := by
  unfold getReleaseTimes
  by_cases hn : n = 0
  · subst hn
    simp
  · have h2 : ¬ ((n : Int) < 0) := by omega
    simp [hn, h2, fixedReleases]

/-- Element-wise form: exactly `n` releases, the `i`-th at `s + i·p`. -/
theorem fixed_spacing (n : Nat) (p s : Int) :
    (fixedReleases n p s).length = n ∧
    ∀ i, i < n → (fixedReleases n p s)[i]? = some (s + (i : Int) * p) :=
  ⟨fixed_length n p s, fun i hi => fixed_getElem n p s i hi⟩

example : getReleaseTimes { kind := .fixed, period := 10, n := 3, start := 5 } none .none = .ok [5, 15, 25] := by
  decide

/-! ## periodic: every period until the horizon -/

/-- With an `EventTime` horizon the PERIODIC policy yields `np.arange(s, h, p)`. -/
theorem periodic_releases (s h p : Int) (hp : p ≠ 0) (d : Draws) :
    getReleaseTimes { kind := .periodic, period := p, n := -1, start := s } (some h) d
      = .ok (periodicReleases s h p) := by
  simp [getReleaseTimes, hp]

/-- All `s + i·p` below the horizon, none missing, nothing else (`p > 0`). -/
theorem periodic_complete (s h p : Int) (hp : 0 < p) (x : Int) :
    x ∈ periodicReleases s h p ↔ ∃ i : Nat, x = s + (i : Int) * p ∧ x < h := by
  unfold periodicReleases
  rw [mem_fixed]
  constructor
  · rintro ⟨i, hi, rfl⟩
    exact ⟨i, rfl, (lt_arangeLen s h p hp i).1 hi⟩
  · rintro ⟨i, rfl, hx⟩
    exact ⟨i, (lt_arangeLen s h p hp i).2 hx, rfl⟩

/-- …in increasing order, one period apart. -/
theorem periodic_spacing (s h p : Int) (i : Nat) (hi : i < arangeLen s h p) :
    (periodicReleases s h p)[i]? = some (s + (i : Int) * p) :=
  fixed_getElem _ p s i hi

example : periodicReleases 5 36 10 = [5, 15, 25, 35] := by decide
example : periodicReleases 5 35 10 = [5, 15, 25] := by decide

/-- Through the loader (after fix b2eb371, formerly finding C19-L1): the horizon
`WorkloadLoader` passes is `EventTime(flags.loop_timeout)`, so a periodic policy
releases `np.arange(start, loop_timeout, period)`. -/
theorem periodic_via_loader (p : Policy) (f : Flags) (d : Draws)
    (hk : p.kind = .periodic) (hn : p.n ≠ 0) (hp : p.period ≠ 0) :
    getReleaseTimes p (loaderHorizon f) d = .ok (periodicReleases p.start f.loopTimeout p.period) := by
  simp [getReleaseTimes, loaderHorizon, hk, hn, hp]

/-- …that is: every period from the start until `--loop_timeout`, none missing. -/
theorem periodic_via_loader_complete (p : Policy) (f : Flags) (d : Draws) (rel : List Int)
    (hk : p.kind = .periodic) (hn : p.n ≠ 0) (hp : 0 < p.period)
    (h : getReleaseTimes p (loaderHorizon f) d = .ok rel) (x : Int) :
    x ∈ rel ↔ ∃ i : Nat, x = p.start + (i : Int) * p.period ∧ x < f.loopTimeout := by
  rw [periodic_via_loader p f d hk hn (by omega)] at h
  simp only [Except.ok.injEq] at h
  rw [← h]
  exact periodic_complete p.start f.loopTimeout p.period hp x

/-- Every release of a policy becomes one task graph, in order: `generate_task_graphs`
turns release `k` into the fresh copy `name@k` (timestamp `k`) released at that time. -/
theorem generated_graphs_follow_releases (insts : List ProfileInst) (f : Flags) (jg : JobGraph)
    (h : Option Int) (d : Draws) (gs gs' : GenState) (tgs : List TaskGraph) (ls : LoopState)
    (hg : generateAll insts f jg h d gs = .ok (gs', tgs, ls)) :
    ∃ rel, getReleaseTimes jg.policy h d = .ok rel ∧ tgs.length = rel.length ∧
      ∀ k, k < rel.length → ∃ dl fid,
        tgs[k]? = some (instantiate jg s!"{jg.name}@{((0 + k : Nat) : Int)}" ((0 + k : Nat) : Int) (rel.getD k 0) dl fid) := by
  unfold generateAll at hg
  cases hr : getReleaseTimes jg.policy h d with
  | error e => simp [hr] at hg
  | ok rel =>
    simp only [hr] at hg
    cases hl : generateList insts f jg 0 rel gs with
    | error e => simp [hl] at hg
    | ok v =>
      obtain ⟨g1, l⟩ := v
      simp only [hl, Except.ok.injEq, Prod.mk.injEq] at hg
      obtain ⟨_, rfl, _⟩ := hg
      exact ⟨rel, rfl, generateList_spec insts f jg rel 0 gs g1 l hl⟩

-- period 100 from 0 with --loop_timeout=250: released at 0, 100, 200
example : getReleaseTimes { kind := .periodic, period := 100, n := -1, start := 0 }
    (loaderHorizon { loopTimeout := 250 }) .none = .ok [0, 100, 200] := by decide

/-! ## Poisson / Gamma: N non-decreasing releases from the start -/

/-- For every tape of non-negative integer draws (at least `n-1` of them). -/
theorem poisson_releases (n : Nat) (s : Int) (draws : List Int) (hn : 0 < n)
    (hlen : n - 1 ≤ draws.length) (hpos : ∀ d ∈ draws, 0 ≤ d) :
    (poissonReleases n s draws).length = n ∧
    (poissonReleases n s draws).head? = some s ∧
    (poissonReleases n s draws).Pairwise (· ≤ ·) := by
  have hn0 : n ≠ 0 := by omega
  have hp : ∀ d ∈ draws.take (n - 1), 0 ≤ d := fun d hd => hpos d (List.mem_of_mem_take hd)
  simp only [poissonReleases, hn0, if_false]
  refine ⟨?_, prefixSums_head _ _, prefixSums_sorted _ _ hp⟩
  rw [prefixSums_length, List.length_take]
  omega

/-- For every tape of non-negative (exact, dyadic) draws. -/
theorem gamma_releases (n : Nat) (s : Int) (den : Nat) (nums : List Int) (hn : 0 < n) (hden : 0 < den)
    (hlen : n - 1 ≤ nums.length) (hpos : ∀ d ∈ nums, 0 ≤ d) :
    (gammaReleases n s den nums).length = n ∧
    (gammaReleases n s den nums).head? = some s ∧
    (gammaReleases n s den nums).Pairwise (· ≤ ·) := by
  have hn0 : n ≠ 0 := by omega
  have hp : ∀ d ∈ nums.take (n - 1), 0 ≤ d := fun d hd => hpos d (List.mem_of_mem_take hd)
  simp only [gammaReleases, hn0, if_false]
  refine ⟨?_, ?_, ?_⟩
  · rw [List.length_map, prefixSums_length, List.length_take]
    omega
  · rw [List.head?_map, prefixSums_head]
    simp [rhe_exact s den hden]
  · exact List.Pairwise.map _ (fun a b hab => rhe_mono a b den hden hab) (prefixSums_sorted _ _ hp)

/-- The policy entry point agrees (Poisson). -/
theorem poisson_get_release_times (n : Nat) (s : Int) (l : List Int) (h : Option Int) (hn : 0 < n) :
    getReleaseTimes { kind := .poisson, n := (n : Int), start := s } h (.ints l)
      = .ok (poissonReleases n s l) := by
  have h1 : n ≠ 0 := by omega
  have h2 : ¬ ((n : Int) < 0) := by omega
  simp [getReleaseTimes, h1, h2, Draws.intList]

/-- The policy entry point agrees (Gamma). -/
theorem gamma_get_release_times (n : Nat) (s : Int) (den : Nat) (l : List Int) (h : Option Int) (hn : 0 < n) :
    getReleaseTimes { kind := .gamma, n := (n : Int), start := s } h (.dyadic den l)
      = .ok (gammaReleases n s den l) := by
  have h1 : n ≠ 0 := by omega
  have h2 : ¬ ((n : Int) < 0) := by omega
  simp [getReleaseTimes, h1, h2, Draws.den, Draws.nums]

example : poissonReleases 3 5 [112, 108] = [5, 117, 225] := by decide
-- draws 0.5, 1.0, 2.25: 5.5 → 6, 6.5 → 6 (ties to even), 8.75 → 9
example : gammaReleases 4 5 4 [2, 4, 9] = [5, 6, 6, 9] := by decide

/-! ## closed loop: never more than `concurrency` in flight, N in total -/

/-- The first batch: `min(concurrency, N)` releases at the start. -/
theorem closed_loop_initial (c n s : Int) (h : Option Int) (d : Draws) (hn : 0 < n) :
    getReleaseTimes { kind := .closedLoop, n := n, conc := c, start := s } h d
      = .ok (List.replicate (min c n).toNat s) := by
  have h1 : ¬ (n = 0) := by omega
  simp only [getReleaseTimes, h1, if_false, closedLoopInitial]
  by_cases h2 : n ≥ c
  · simp [h2]
  · have : min c n = n := Int.min_eq_right (by omega)
    simp [h2, this]

/-- Over any completion history, in flight ≤ concurrency. -/
theorem closed_loop_inflight_le (c n s : Int) (hc : 0 < c) (hn : 0 < n) (hist : List (Int × Int)) :
    ((loopRun (loopInit c n s) hist).inflight.length : Int) ≤ c :=
  (loopRun_inv c n hc hist _ (loopInit_inv c n s hc hn)).inflight_le

/-- Never more than N released… -/
theorem closed_loop_released_le (c n s : Int) (hc : 0 < c) (hn : 0 < n) (hist : List (Int × Int)) :
    ((loopRun (loopInit c n s) hist).released.length : Int) ≤ n := by
  have h := loopRun_inv c n hc hist _ (loopInit_inv c n s hc hn)
  have := h.total
  have := h.rem_nonneg
  omega

/-- …and exactly N once nothing is in flight any more. -/
theorem closed_loop_total (c n s : Int) (hc : 0 < c) (hn : 0 < n) (hist : List (Int × Int))
    (hdone : (loopRun (loopInit c n s) hist).inflight = []) :
    ((loopRun (loopInit c n s) hist).released.length : Int) = n := by
  have h := loopRun_inv c n hc hist _ (loopInit_inv c n s hc hn)
  have ht := h.total
  have hr := h.rem_nonneg
  have hf := h.full
  rw [hdone] at hf
  simp only [List.length_nil] at hf
  have : ¬ (0 < (loopRun (loopInit c n s) hist).remaining) := fun hp => by have := hf hp; omega
  omega

/-- A follow-up graph is released one microsecond after the completion. -/
theorem closed_loop_followup_time (st : LoopState) (g f i : Int)
    (h : (loopComplete st g f).2 = some i) :
    (loopComplete st g f).1.released.getLast? = some (i, f + 1) := by
  unfold loopComplete at h ⊢
  by_cases hm : g ∈ st.inflight
  · simp only [hm, if_true] at h ⊢
    unfold loopNext at h ⊢
    by_cases hr : st.remaining > 0
    · simp only [hr, if_true] at h ⊢
      simp only [Option.some.injEq] at h
      simp [h]
    · simp [hr] at h
  · simp [hm] at h

-- 5 invocations, concurrency 2; completions of graphs 1,0,2,3,4: 2,2,2,2,1,0 in flight, 5 released.
example : (loopRun (loopInit 2 5 0) [(1, 10), (0, 12), (2, 20), (3, 30), (4, 40)]).released
    = [(0, 0), (1, 0), (2, 11), (3, 13), (4, 21)] := by decide
example : (loopRun (loopInit 2 5 0) [(1, 10), (0, 12), (2, 20), (3, 30), (4, 40)]).inflight = [] := by decide

/-! ## each invocation is a fresh isomorphic copy of the job graph -/

/-- `instantiate` is the identity on shape: task `i` is made from job `i`, carries
its name, probability and *the same profile instance* (hence the described
strategies and resource vectors), the edge lists are the job graph's, sources
get the release time and every other task `-1`, all tasks share the deadline. -/
theorem instantiate_iso (jg : JobGraph) (nm : String) (ts rel dl : Int) (fid : Nat) :
    (instantiate jg nm ts rel dl fid).tasks.length = jg.jobs.length ∧
    (instantiate jg nm ts rel dl fid).children = jg.children ∧
    ∀ i, i < jg.jobs.length →
      (instantiate jg nm ts rel dl fid).tasks[i]? =
        some { id := fid + i, name := (jg.jobs.getD i default).name, taskGraph := nm, job := i,
               timestamp := ts, release := if isSource jg.children i then rel else -1,
               deadline := dl, profile := (jg.jobs.getD i default).profile,
               prob := (jg.jobs.getD i default).prob } :=
  ⟨by simp [instantiate], rfl, fun i hi => by simp [instantiate, hi]⟩

/-- The identifiers of one copy are `fid, fid+1, …`: pairwise different. -/
theorem instantiate_fresh (jg : JobGraph) (nm : String) (ts rel dl : Int) (fid : Nat) :
    ((instantiate jg nm ts rel dl fid).tasks.map (·.id)).Nodup ∧
    ∀ x ∈ (instantiate jg nm ts rel dl fid).tasks.map (·.id), fid ≤ x ∧ x < fid + jg.jobs.length := by
  rw [instantiate_ids]
  refine ⟨List.nodup_range', ?_⟩
  intro x hx
  have := List.mem_range'_1.1 hx
  omega

/-- Two successive invocations (of any two job graphs) share no identifier: the
first uses ids below the generator's next id, the second starts there. -/
theorem generate_fresh_across (insts : List ProfileInst) (f : Flags) (jg1 jg2 : JobGraph)
    (i1 r1 i2 r2 : Int) (g0 g1 g2 : GenState) (t1 t2 : TaskGraph)
    (h1 : generateOne insts f jg1 i1 r1 g0 = .ok (g1, t1))
    (h2 : generateOne insts f jg2 i2 r2 g1 = .ok (g2, t2)) :
    ∀ x ∈ t1.tasks.map (·.id), ∀ y ∈ t2.tasks.map (·.id), x < y := by
  obtain ⟨T1, _, e1, n1, _⟩ := generateOne_spec insts f jg1 i1 r1 g0 g1 t1 h1
  obtain ⟨T2, _, e2, _, _⟩ := generateOne_spec insts f jg2 i2 r2 g1 g2 t2 h2
  intro x hx y hy
  rw [e1] at hx
  rw [e2] at hy
  have a := (instantiate_fresh _ _ _ _ _ _).2 x hx
  have b := (instantiate_fresh _ _ _ _ _ _).2 y hy
  omega

example :
    (instantiate { name := "G", policy := { kind := .fixed }, variance := (0, 0)
                   jobs := [{ name := "a", profile := 0, slo := -1, cond := false, term := false, prob := 1000 },
                            { name := "b", profile := 1, slo := -1, cond := false, term := false, prob := 1000 }]
                   children := [[1], []] } "G@0" 0 5 105 7).tasks.map (fun t => (t.id, t.name, t.release, t.profile))
      = [(7, "a", 5, 0), (8, "b", -1, 1)] := by decide

/-! ## deadline = release + T stretched within variance and bounds -/

/-- Integer clamp used in the statement (`max(min_bound, min(max_bound, ·))`). -/
def clampI (minB maxB v : Int) : Int := max minB (min maxB v)

/-- `fuzz`: for every draw `r = rn/2^53 ∈ [0,1]`, with `lo%`/`hi%` the smaller /
larger of `|a|`,`|b|`:
`clamp ⌊T·lo/100⌋ ≤ fuzz(T) − T ≤ clamp ⌈T·hi/100⌉`. -/
theorem fuzz_interval (T a b minB maxB rn : Int) (hT : 0 ≤ T) (h0 : 0 ≤ rn) (h1 : rn ≤ (twoP53 : Int)) :
    clampI minB maxB (T * (min a.natAbs b.natAbs : Nat) / 100) ≤ fuzz T a b minB maxB rn - T ∧
    fuzz T a b minB maxB rn - T ≤ clampI minB maxB (-(-(T * (max a.natAbs b.natAbs : Nat)) / 100)) := by
  obtain ⟨hl, hu⟩ := uniformNum_bounds T a b rn hT h0 h1
  have hD : (fuzzDen : Int) = 100 * (twoP53 : Int) := by simp [fuzzDen]
  have hP : (0 : Int) < (twoP53 : Int) := by decide
  generalize hL : T * ((min a.natAbs b.natAbs : Nat) : Int) = L at *
  generalize hH : T * ((max a.natAbs b.natAbs : Nat) : Int) = H at *
  -- ⌊L/100⌋·D ≤ L·2^53 and H·2^53 ≤ ⌈H/100⌉·D
  have hLf : L / 100 * (fuzzDen : Int) ≤ fuzzUniformNum T a b rn := by
    have : L / 100 * 100 ≤ L := Int.ediv_mul_le L (by decide)
    have : L / 100 * (fuzzDen : Int) ≤ L * (twoP53 : Int) := by
      rw [hD, ← Int.mul_assoc]; exact Int.mul_le_mul_of_nonneg_right this hP.le
    omega
  have hHc : fuzzUniformNum T a b rn ≤ -(-H / 100) * (fuzzDen : Int) := by
    have : -H / 100 * 100 ≤ -H := Int.ediv_mul_le (-H) (by decide)
    have : H * (twoP53 : Int) ≤ -(-H / 100) * (fuzzDen : Int) := by
      have h2 := Int.mul_le_mul_of_nonneg_right this hP.le
      rw [Int.neg_mul] at h2
      rw [hD, ← Int.mul_assoc, Int.neg_mul, Int.neg_mul]
      omega
    omega
  have lo := clampNum_mono minB maxB _ _ hLf
  have hi := clampNum_mono minB maxB _ _ hHc
  rw [clampNum_mul] at lo hi
  unfold fuzz clampI
  constructor
  · have := rhe_ge_of_mul_le (T + max minB (min maxB (L / 100)))
      (T * (fuzzDen : Int) + fuzzClampNum minB maxB (fuzzUniformNum T a b rn)) fuzzDen fuzzDen_pos
      (by rw [Int.add_mul]; omega)
    omega
  · have := rhe_le_of_le_mul (T + max minB (min maxB (-(-H / 100))))
      (T * (fuzzDen : Int) + fuzzClampNum minB maxB (fuzzUniformNum T a b rn)) fuzzDen fuzzDen_pos
      (by rw [Int.add_mul]; omega)
    omega

/-- `deadline − release − T` lies within the declared variance and bounds, for
every draw in range. -/
theorem deadline_interval (rel T a b minB maxB rn : Int) (hT : 0 ≤ T) (h0 : 0 ≤ rn)
    (h1 : rn ≤ (twoP53 : Int)) :
    clampI minB maxB (T * (min a.natAbs b.natAbs : Nat) / 100) ≤ deadline rel T a b minB maxB rn - rel - T ∧
    deadline rel T a b minB maxB rn - rel - T ≤ clampI minB maxB (-(-(T * (max a.natAbs b.natAbs : Nat)) / 100)) := by
  have := fuzz_interval T a b minB maxB rn hT h0 h1
  unfold deadline
  omega

/-- Without variance (and with the default bounds) the deadline is exactly
`release + T`. -/
theorem deadline_exact_without_variance (rel T maxB rn : Int) (hT : 0 ≤ T) (hm : 0 ≤ maxB)
    (h0 : 0 ≤ rn) (h1 : rn ≤ (twoP53 : Int)) :
    deadline rel T 0 0 0 maxB rn = rel + T := by
  have := deadline_interval rel T 0 0 0 maxB rn hT h0 h1
  simp only [clampI, Int.natAbs_zero, Nat.min_self, Nat.max_self] at this
  simp only [Nat.cast_zero, Int.mul_zero, Int.zero_ediv, Int.neg_zero] at this
  omega

/-- What the loader generates: every task of a generated graph carries
`release + fuzz(T)` with `T` the job graph's completion time, hence lies in the
declared interval. -/
theorem generated_deadline_interval (insts : List ProfileInst) (f : Flags) (jg : JobGraph)
    (idx rel : Int) (gs gs' : GenState) (tg : TaskGraph)
    (h : generateOne insts f jg idx rel gs = .ok (gs', tg))
    (hr0 : 0 ≤ (gs.tape.drop 1).headD 0) (hr1 : (gs.tape.drop 1).headD 0 ≤ (twoP53 : Int)) :
    ∃ T, completionTime insts jg = .ok T ∧ (0 ≤ T →
      ∀ t ∈ tg.tasks,
        clampI f.minDeadline f.maxDeadline (T * (min jg.variance.1.natAbs jg.variance.2.natAbs : Nat) / 100)
          ≤ t.deadline - rel - T ∧
        t.deadline - rel - T
          ≤ clampI f.minDeadline f.maxDeadline (-(-(T * (max jg.variance.1.natAbs jg.variance.2.natAbs : Nat)) / 100))) := by
  obtain ⟨T, hT, e, _, _⟩ := generateOne_spec insts f jg idx rel gs gs' tg h
  refine ⟨T, hT, fun hT0 t ht => ?_⟩
  rw [e] at ht
  rw [instantiate_deadline _ _ _ _ _ _ t ht]
  exact deadline_interval rel T _ _ _ _ _ hT0 hr0 hr1

-- T = 150 µs, variance 15 %..15 %: 150 + 22.5 = 172.5 → 172 (ties to even), inside [172, 173].
example : fuzz 150 15 15 0 9223372036854775807 123 = 172 := by decide
-- bounds: the *stretch* is clamped (max_deadline = 20): 100 + min(20, 50) = 120
example : fuzz 100 50 50 0 20 0 = 120 := by decide

/-! ## the loader: SLOs -/

/-- Every loaded job carries the override when `--override_slo` is active, else
its own described SLO, else none (after fix 8d52357, formerly finding C19-L2). -/
theorem slo_faithful (origNames : List String) (pmap : List Nat) (nodes : List NodeD)
    (slo : Int) (st st' : LState) (jobs : List Job)
    (h : loadJobs origNames pmap nodes slo st [] = .ok (st', jobs)) :
    jobs.map (·.slo) = nodes.map (fun nd => if slo = -1 then nd.slo.getD (-1) else slo) := by
  have := loadJobs_map (·.slo) (jobSlo slo) origNames pmap nodes slo st st' [] jobs (fun _ _ => rfl) h
  simp only [List.map_nil, List.nil_append] at this
  rw [this]
  apply List.map_congr_left
  intro nd _
  unfold jobSlo
  cases nd.slo <;> rfl

/-- …and its described name, in order. -/
theorem job_names_faithful (origNames : List String) (pmap : List Nat) (nodes : List NodeD)
    (slo : Int) (st st' : LState) (jobs : List Job)
    (h : loadJobs origNames pmap nodes slo st [] = .ok (st', jobs)) :
    jobs.map (·.name) = nodes.map (·.name) := by
  simpa using loadJobs_map (·.name) (·.name) origNames pmap nodes slo st st' [] jobs (fun _ _ => rfl) h

-- the two shapes of finding C19-L2: `b` without SLO stays without, `b` with 900 keeps 900
example :
    (loadJobs ["P"] [0]
      [{ name := "a", profile := some "P", slo := some 500, cond := false, term := false, prob := none, children := some ["b"] },
       { name := "b", profile := some "P", slo := none, cond := false, term := false, prob := none, children := none }]
      (-1) { insts := [], copies := [] } []).toOption.map (fun r => r.2.map (·.slo)) = some [500, -1] := by
  decide
example :
    (loadJobs ["P"] [0]
      [{ name := "a", profile := some "P", slo := some 500, cond := false, term := false, prob := none, children := some ["b"] },
       { name := "b", profile := some "P", slo := some 900, cond := false, term := false, prob := none, children := none }]
      (-1) { insts := [], copies := [] } []).toOption.map (fun r => r.2.map (·.slo)) = some [500, 900] := by
  decide
example :
    (loadJobs ["P"] [0]
      [{ name := "a", profile := some "P", slo := some 500, cond := false, term := false, prob := none, children := none }]
      4000 { insts := [], copies := [] } []).toOption.map (fun r => r.2.map (·.slo)) = some [4000] := by
  decide

/-! ## the loader: `--override_num_invocation` -/

/-- An active `--override_num_invocation` is the invocation count of every
policy that has one (after fix d64eefe, formerly finding C19-L3). -/
theorem override_n_applies (g : GraphD) (f : Flags) (p : Policy)
    (h : createPolicy g f = .ok p) (hf : 0 < f.n) (hk : p.kind ≠ .periodic) : p.n = f.n := by
  unfold createPolicy mkClosedLoop at h
  simp only [hf, if_true] at h
  repeat' split at h
  all_goals first
    | (simp at h; done)
    | (simp only [pure, Except.pure, Except.ok.injEq] at h
       subst h
       first | rfl | (simp at hk))

example :
    ((createPolicy { name := some "G", nodes := some [], policy := some "poisson", period := none,
                     invocations := some 2, concurrency := none, start := none, rate := true,
                     coefficient := false, variance := none } { n := 4 }).toOption.map (·.n)) = some 4 ∧
    ((createPolicy { name := some "G", nodes := some [], policy := some "closed_loop", period := none,
                     invocations := some 2, concurrency := some 3, start := none, rate := false,
                     coefficient := false, variance := none } { n := 4 }).toOption.map (·.n)) = some 4 ∧
    ((createPolicy { name := some "G", nodes := some [], policy := some "gamma", period := none,
                     invocations := none, concurrency := none, start := none, rate := true,
                     coefficient := true, variance := none } { n := 4 }).toOption.map (·.n)) = some 4 := by
  decide

/-! ## the loader: release policy parameters come from the description (or the overrides) -/

/-- A `fixed` description yields the FIXED policy with the described start, and the described
period and invocations, each of the two replaced by its override flag when that is > 0. -/
theorem fixed_policy_from_description (g : GraphD) (f : Flags) (p n : Int)
    (hk : g.policy = some "fixed") (hp : g.period = some p) (hn : g.invocations = some n) :
    createPolicy g f = .ok { kind := .fixed
                             period := if f.period > 0 then f.period else p
                             n := if f.n > 0 then f.n else n
                             start := g.start.getD 0 } := by
  unfold createPolicy
  simp only [hk, hp, hn]
  by_cases h1 : f.period > 0 <;> by_cases h2 : f.n > 0 <;> simp [h1, h2] <;> rfl

/-- A `closed_loop` description yields the CLOSED_LOOP policy with the described
concurrency, invocations and start (zero is refused); without an invocation override. -/
theorem closed_loop_policy_from_description (g : GraphD) (f : Flags) (c n : Int)
    (hk : g.policy = some "closed_loop") (hc : g.concurrency = some c) (hn : g.invocations = some n)
    (hc0 : c ≠ 0) (hn0 : n ≠ 0) :
    createPolicy g { f with n := 0 } = .ok { kind := .closedLoop, n := n, conc := c, start := g.start.getD 0 } := by
  unfold createPolicy
  simp [hk, hc, hn, mkClosedLoop, hc0, hn0]

end ErdosVerif.C19
