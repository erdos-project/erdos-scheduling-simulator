import ErdosVerif.Lemmas.SimCancelRun
import ErdosVerif.Props.C08_States
/-!
# C08 (run level) — the cancelled-task counter against the `.cancel` history entries

`cancelledTasks` is incremented by the handler of a TASK_CANCEL event. `.cancel` history
entries are written where tasks are cancelled (`__create_events_from_task_placement_skip` for
a CANCEL_TASK decision or a dropped placement, `__handle_task_finished` →
`notify_task_completion`, `__handle_task_placement` of a task whose graph was cancelled), each
immediately followed by the creation of exactly one TASK_CANCEL event, which is queued at
once or collected in a local list and queued at the end of `__handle_scheduler_finish`.

For whole runs of the simulator model (every world, decision tape, draw tape, number of
iterations; normal end, out of fuel, or aborted by an exception), from the invariant `CC.Inv`
(`Lemmas/SimCancel*.lean`), which every step of the handlers and of the loop keeps
(`CC.CI.closed`; the handlers are walked in `Lemmas/SimWalk.lean`):

* `cancelled_counter_le_cancel_entries` — always `cancelledTasks ≤ #.cancel entries`;
* `cancel_entries_account` — at a normal return `#.cancel entries = cancelledTasks +
  #TASK_CANCEL events still queued`: every `.cancel` entry has exactly one TASK_CANCEL event,
  pending or handled (and no TASK_CANCEL event is ever lost: `remove_event` is only called
  with cached ids of placement events, which are never ids of TASK_CANCEL events);
* `cancelled_counter_eq_cancel_entries_at_end` — hence equality when no TASK_CANCEL event is
  queued at the end (e.g. the queue is empty);
* `cancelled_counter_eq_cancelled_tasks_at_end` — and then `cancelledTasks` = number of
  CANCELLED tasks of the workload (with `C08.cancel_entries_are_cancelled_tasks`).

Not proved here: that no TASK_CANCEL event can still be queued when SIMULATOR_END is popped.
-/
namespace ErdosVerif.C08
open ErdosVerif.Model ErdosVerif.Model.Sim

/-- The initial states the theorems are about: no `.cancel` entry in the history, counter 0,
no TASK_CANCEL event queued, every cached placement-event id below the id counter. -/
structure CancelInit (s0 : SimS) : Prop where
  log : s0.log.toList.countP isCancelLog = 0
  counter : s0.cancelledTasks = 0
  queue : ∀ e ∈ s0.queue.toList, (e.ev.etype == ET.taskCancel) = false
  future : ∀ p ∈ s0.future, p.2 < s0.nextEid

theorem CancelInit.inv {s0 : SimS} (h : CancelInit s0) : CC.Inv [] s0 :=
  CC.inv_initial s0 h.log h.counter h.queue h.future

/-- What the constructor starts from. -/
theorem cancelInit_of_empty (s0 : SimS) (hq : s0.queue = #[]) (hl : s0.log = #[]) (hc : s0.cancelledTasks = 0)
    (hf : s0.future = []) : CancelInit s0 := by
  refine ⟨by rw [hl]; rfl, hc, ?_, ?_⟩
  · intro e he; rw [hq] at he; cases he
  · intro p hp; rw [hf] at hp; cases hp

def queuedCancels (s : SimS) : Nat := s.queue.toList.countP (fun e => e.ev.etype == ET.taskCancel)

theorem cancelled_counter_le_cancel_entries (s0 : SimS) (fuel : Nat) (h0 : CancelInit s0) :
    (simulate s0 fuel).2.cancelledTasks ≤ (simulate s0 fuel).2.log.toList.countP isCancelLog :=
  (CC.simulate_cc s0 fuel h0.inv).1

/-- **Every `.cancel` entry has exactly one TASK_CANCEL event.** At a normal return the
number of `.cancel` entries is `cancelledTasks` (the handled TASK_CANCEL events) plus the
number of TASK_CANCEL events still queued. -/
theorem cancel_entries_account (s0 : SimS) (fuel : Nat) (h0 : CancelInit s0)
    (hend : (simulate s0 fuel).1 = none) :
    (simulate s0 fuel).2.log.toList.countP isCancelLog =
      (simulate s0 fuel).2.cancelledTasks + queuedCancels (simulate s0 fuel).2 := by
  have := ((CC.simulate_cc s0 fuel h0.inv).2 hend).acct
  rw [List.append_nil] at this
  exact this

theorem cancelled_counter_eq_cancel_entries_at_end (s0 : SimS) (fuel : Nat) (h0 : CancelInit s0)
    (hend : (simulate s0 fuel).1 = none) (hq : queuedCancels (simulate s0 fuel).2 = 0) :
    (simulate s0 fuel).2.cancelledTasks = (simulate s0 fuel).2.log.toList.countP isCancelLog := by
  have := cancel_entries_account s0 fuel h0 hend
  omega

theorem cancelled_counter_eq_cancel_entries_empty_queue (s0 : SimS) (fuel : Nat) (h0 : CancelInit s0)
    (hend : (simulate s0 fuel).1 = none) (hq : (simulate s0 fuel).2.queue = #[]) :
    (simulate s0 fuel).2.cancelledTasks = (simulate s0 fuel).2.log.toList.countP isCancelLog :=
  cancelled_counter_eq_cancel_entries_at_end s0 fuel h0 hend (by unfold queuedCancels; rw [hq]; rfl)

theorem cancelled_counter_eq_cancelled_tasks_at_end (s0 : SimS) (fuel : Nat) (h0 : CancelInit s0) (ht : Tally s0)
    (hend : (simulate s0 fuel).1 = none) (hq : queuedCancels (simulate s0 fuel).2 = 0) :
    (simulate s0 fuel).2.cancelledTasks = tasksWhere (fun t => t.state == .cancelled) (simulate s0 fuel).2 := by
  rw [cancelled_counter_eq_cancel_entries_at_end s0 fuel h0 hend hq]
  exact cancel_entries_are_cancelled_tasks s0 fuel ht hend

theorem cancelled_counter_le_cancelled_tasks (s0 : SimS) (fuel : Nat) (h0 : CancelInit s0) (ht : Tally s0) :
    (simulate s0 fuel).2.cancelledTasks ≤ tasksWhere (fun t => t.state == .cancelled) (simulate s0 fuel).2 :=
  Nat.le_trans (cancelled_counter_le_cancel_entries s0 fuel h0) (cancel_entries_le_cancelled_tasks s0 fuel ht)

/-- Non-vacuity: an initial state as the constructor finds it (one pristine loader graph). -/
example : CancelInit { flags := { loopTimeout := 100 }, jobs := #[], allGraphs := #[freshGraph],
                       allMeta := #[], pools := #[], poolNames := #[], tape := [], decisions := [] } :=
  cancelInit_of_empty _ rfl rfl rfl rfl

/-- … and a state in which a CANCEL_TASK decision will really cancel a task (`lagState` of
`Props/C08_States.lean`: one RELEASED task, `--drop_skipped_tasks`; there
`cancelled_counter_lags_counterexample` shows one `.cancel` entry, one TASK_CANCEL event owed to
the queue and the counter still 0 after the decision is applied). -/
example : CancelInit lagState := cancelInit_of_empty _ rfl rfl rfl rfl

/-- The invariant on a non-trivial state: one `.cancel` entry whose TASK_CANCEL event (id 3) is
queued and not yet counted, one cached placement-event id (2), id counter 4. -/
example : CC.Inv []
    { flags := { loopTimeout := 100 }, jobs := #[], allGraphs := #[], allMeta := #[], pools := #[], poolNames := #[],
      tape := [], decisions := [], nextEid := 4, future := [(⟨0, 1⟩, 2)],
      queue := #[{ ev := ⟨3, 5, ET.taskCancel, some "a@g"⟩, tid := some ⟨0, 0⟩ }],
      log := #[.cancel ⟨0, 0⟩ 5] } := by
  refine ⟨by decide, ?_, ?_, ?_⟩
  · intro p hp
    have : p = (⟨0, 1⟩, 2) := by simpa using hp
    subst this; decide
  · intro e he _
    have : e = { ev := ⟨3, 5, ET.taskCancel, some "a@g"⟩, tid := some ⟨0, 0⟩ } := by simpa using he
    subst this; decide
  · intro e he _ p hp
    have h1 : e = { ev := ⟨3, 5, ET.taskCancel, some "a@g"⟩, tid := some ⟨0, 0⟩ } := by simpa using he
    have h2 : p = (⟨0, 1⟩, 2) := by simpa using hp
    subst h1 h2; decide

end ErdosVerif.C08
