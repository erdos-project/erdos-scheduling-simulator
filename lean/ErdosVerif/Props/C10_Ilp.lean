/-
C10 (ILP clause): the decision `schedule()` returns, read off ANY feasible point `σ` of the
model (`decode inst σ`), or the all-unplaced answer when the solver finds nothing
(`decodeFail inst`), is complete, feasible and side-effect free:

* exactly one decision per task that has variables and is not RUNNING, in
  `tasks_to_variables` order: no duplicates, none for a RUNNING task, only for tasks that
  were offered or that the scheduler itself had SCHEDULED earlier (the instance's task list);
* every offered task that is not RUNNING is answered;
* a placement names a worker of this invocation (hence its pool), a strategy of the task
  that this worker can hold, and a start `≥ max(now + 1, release) ≥ max(now, release)`;
* all placements together with the RUNNING tasks never exceed any worker's total quantity of
  any resource at any instant (occupancy `[start, start + runtime]`, RUNNING tasks
  `[now, now + runtime]`);
* `pure`: in the model `decode` is a function of the instance and the assignment and returns
  decisions only; the live cluster and task state are not part of its result.  The tie is the
  suite, which snapshots every live getter before and after the real call.

Hypotheses: `I.crash = none` is *not* needed by these theorems (they speak about the model
that is built); but when `I.crash ≠ none` the real `schedule()` raises before building it —
`crash_counterexample` below, finding C10-ILP-1.  `wfRunning`, `wfParents`, `wfChains`,
`wfOffered` are decidable well-formedness facts about the instance, evaluated by the driver
on every instance extracted from the real call.
-/
import ErdosVerif.Lemmas.IlpCapacity
namespace ErdosVerif.C10_Ilp
open ErdosVerif.Mip ErdosVerif.Ilp ErdosVerif.IlpSpec

/-- One decision per non-RUNNING task with variables, in order. -/
theorem one_decision_per_task (I : Inst) (σ : Var → Int) :
    (decode I σ).map Decision.task = I.nonRunning := by
  simp [decode, List.map_map, Function.comp_def, Inst.decodeTask]

/-- No task is answered twice. -/
theorem no_duplicate_decisions (I : Inst) (σ : Var → Int) :
    ((decode I σ).map Decision.task).Nodup := by
  rw [one_decision_per_task]
  exact List.Nodup.sublist List.filter_sublist List.nodup_range

/-- Decisions only for tasks of this invocation (offered or previously placed), never for a
RUNNING one. -/
theorem only_known_never_running {I : Inst} {σ : Var → Int} {d : Decision} (hd : d ∈ decode I σ) :
    d.task < I.nT ∧ I.running d.task = false := by
  obtain ⟨t, ht, hr, rfl⟩ := mem_decode.mp hd
  exact ⟨ht, hr⟩

/-- Every offered task that is not RUNNING is answered. -/
theorem answers_all_offered {I : Inst} (σ : Var → Int) (hwo : I.wfOffered = true) {t : Nat}
    (ht : t < I.nOffered) (hr : I.running t = false) : ∃ d ∈ decode I σ, d.task = t := by
  have : I.nOffered ≤ I.nT := by simpa [Inst.wfOffered] using hwo
  exact ⟨I.decodeTask σ t, mem_decode.mpr ⟨t, by omega, hr, rfl⟩, rfl⟩

/-- A placement names an existing worker, a strategy of the task that fits the worker, and a
time not before `now + 1` nor before the known release. -/
theorem placement_wellformed {I : Inst} {σ : Var → Int} (h : sat σ (gen I)) {d : Decision}
    (hd : d ∈ decode I σ) {w s : Nat} {time : Int} (hp : d.placed = some (w, s, time)) :
    w < I.nW ∧ s < (I.task d.task).nS ∧
    compatible (I.worker w) ((I.task d.task).strat s) = true ∧
    I.now + 1 ≤ time ∧ (I.task d.task).release ≤ time := by
  obtain ⟨t, ht, hr, rfl⟩ := mem_decode.mp hd
  obtain ⟨hc, rfl⟩ := decodeTask_placed hp
  have hs := chosen_spec hc
  have hlb : max (I.now + 1) (I.task t).release ≤ σ (.start t) := start_lb h ht hr
  exact ⟨hs.1, hs.2.1, (hasVar_compatible hs.2.2.1).2, by omega, show (I.task t).release ≤ _ by omega⟩

/-- At most one (worker, strategy) pair is selected per task: the decision is unambiguous. -/
theorem selection_unique {I : Inst} {σ : Var → Int} (h : sat σ (gen I)) {t : Nat} (ht : t < I.nT)
    (hr : I.running t = false) : psum I σ t ≤ 1 := psum_le_one h ht hr

/-- **Joint feasibility at every planned instant.** -/
theorem jointly_feasible {I : Inst} {σ : Var → Int} (h : sat σ (gen I)) (hwr : I.wfRunning = true)
    (hwp : I.wfParents = true) (hwc : I.wfChains = true) {w : Nat} (hw : w < I.nW) (r : String)
    (τ : Int) : load I (planOf I σ) w r τ ≤ qty (I.worker w).res r :=
  capacity_at_instant h hwr hwp hwc hw r τ

/-- The plan whose load is bounded is exactly what is returned: its entry for a non-RUNNING
task is that task's decision. -/
theorem plan_is_decision {I : Inst} {σ : Var → Int} {t : Nat} (ht : t < I.nT)
    (hr : I.running t = false) :
    ((planOf I σ).get t).map (fun pl => (pl.w, pl.s, pl.start)) = (I.decodeTask σ t).placed := by
  rw [planOf_get ht]
  simp [hr, Inst.decodeTask, Option.map_map, Function.comp_def]

/-- When no solution is found: every offered task is answered "not placed", nothing else. -/
theorem fail_answers (I : Inst) :
    (decodeFail I).map Decision.task = List.range I.nOffered ∧ ∀ d ∈ decodeFail I, d.placed = none := by
  refine ⟨by simp [decodeFail, List.map_map, Function.comp_def], fun d hd => ?_⟩
  obtain ⟨t, _, rfl⟩ := List.mem_map.mp hd
  rfl

/-! ### Finding C10-ILP-1: the call raises instead of returning -/

/-- Heterogeneous cluster (W0 has no GPU), a task SCHEDULED earlier on W1 whose only strategy
needs a GPU, and a released task: the seeding loop hits the int `0` of the incompatible pair. -/
def crashInst : Inst :=
  { now := 5
    workers := [⟨"W0", "P0", [("CPU", 2)]⟩, ⟨"W1", "P0", [("CPU", 2), ("GPU", 1)]⟩]
    tasks := [⟨"A@G0", "A", 0, "G0", .released, 5, 30, [⟨1, 3, [("CPU", 1)]⟩], 0, 0⟩,
              ⟨"B@G1", "B", 0, "G1", .scheduled, 2, 30, [⟨1, 4, [("GPU", 1)]⟩], 1, 0⟩]
    nOffered := 1
    nodes := [⟨"A@G0", "A", 0, "G0", .released⟩, ⟨"B@G1", "B", 0, "G1", .scheduled⟩]
    edges := []
    enforceDeadlines := true, retract := false, releaseTaskgraphs := false, goalSlack := false
    allowed0 := [] }

/-- The real `schedule()` raises `AttributeError` on this (well-formed, reachable) input. -/
theorem crash_counterexample : crashInst.wf = true ∧ crashInst.crash = some "AttributeError" := by
  decide

/-- On a homogeneous cluster (every strategy fits every worker) the seeding loop is safe. -/
theorem no_crash_when_all_compatible {I : Inst}
    (hall : ∀ t w s, t < I.nT → w < I.nW → s < (I.task t).nS →
      compatible (I.worker w) ((I.task t).strat s) = true) : I.crash = none := by
  unfold Inst.crash
  split
  · rename_i hc
    exfalso
    simp only [List.any_eq_true, Bool.and_eq_true, Bool.not_eq_true'] at hc
    obtain ⟨t, ht, _, k, hk, hv⟩ := hc
    have ht' := mem_nonRunning.mp ht
    have hk' := mem_keys.mp (by simpa using hk : (k.1, k.2) ∈ I.keys t)
    have := hall t k.1 k.2 ht'.1 hk'.1 hk'.2
    simp [Inst.hasVar, ht'.2, this] at hv
  · rfl

/-! ### Non-vacuity -/

example : C11_Ilp.exInst.wf = true ∧ C11_Ilp.exInst.crash = none := by decide
example : sat C11_Ilp.exSigma (gen C11_Ilp.exInst) := by decide
example : validPlanB C11_Ilp.exInst (planOf C11_Ilp.exInst C11_Ilp.exSigma) = true := by decide

end ErdosVerif.C10_Ilp
