import ErdosVerif.Lemmas.SimResidentRun
/-!
# C01 over a whole run — single residency, RUNNING ⇔ resident

Invariants of every run of the simulator model `Model/Sim.lean` (any decision tape, any
draw tape, any fuel), proved with Hoare triples in `Lemmas/SimResident*.lean`:

* a task id is resident (draws resources) on at most one worker of one pool, and at most
  once on that worker — in **every** state a run can end in: normally, out of fuel (after any
  number of loop iterations), or where a handler raised;
* every RUNNING task is resident — in every such state;
* every resident task is RUNNING, and the pool-level task map knows it — in every state
  at the head of the `simulate()` loop and when the run ended normally. (Not at the raise
  point of an aborted `__handle_task_placement`: the pool places the task before
  `Task.start`, which can still raise.)
-/
namespace ErdosVerif.C01
open ErdosVerif.Model ErdosVerif.Model.Sim

/-- Task id `n` is resident on worker `i` of pool `pi`: it is a key of that worker's
`_placed_tasks`, i.e. the worker's ledger is charged for it. -/
def ResidentOn (s : SimS) (pi i n : Nat) : Prop :=
  ∃ p w, s.pools[pi]? = some p ∧ p.workers[i]? = some w ∧ n ∈ AList.keys w.placed

theorem residentOn_iff (s : SimS) (pi i n : Nat) : ResidentOn s pi i n ↔ At (views s.pools) pi i n := by
  unfold ResidentOn At
  constructor
  · rintro ⟨p, w, hp, hw, hn⟩
    exact ⟨p.view, AList.keys w.placed, by rw [views_getElem?, hp]; rfl, by rw [Pool.view_getElem?, hw]; rfl, hn⟩
  · rintro ⟨v, ks, hv, hk, hn⟩
    rw [views_getElem?] at hv
    cases hp : s.pools[pi]? with
    | none => simp [hp] at hv
    | some p =>
      simp only [hp, Option.map_some, Option.some.injEq] at hv
      subst hv
      rw [Pool.view_getElem?] at hk
      cases hw : p.workers[i]? with
      | none => simp [hw] at hk
      | some w =>
        simp only [hw, Option.map_some, Option.some.injEq] at hk
        subst hk
        exact ⟨p, w, rfl, hw, hn⟩

/-- **Single residency over every run**: in the state a simulation is in after the constructor
and any number of loop iterations — ended normally, out of fuel or aborted by an exception —
no task id is resident on two workers (of one pool or of two pools). -/
theorem single_residency (s0 : SimS) (fuel : Nat) (h : wf0 s0 = true) (pi i pj j n : Nat)
    (h1 : ResidentOn (simulate s0 fuel).2 pi i n) (h2 : ResidentOn (simulate s0 fuel).2 pj j n) : pi = pj ∧ i = j :=
  (simulate_weak s0 fuel (ap_initial s0 h)).single pi i pj j n ((residentOn_iff ..).mp h1) ((residentOn_iff ..).mp h2)

theorem worker_residents_nodup (s0 : SimS) (fuel : Nat) (h : wf0 s0 = true) (pi i : Nat) (p : Pool) (w : Worker)
    (hp : (simulate s0 fuel).2.pools[pi]? = some p) (hw : p.workers[i]? = some w) : (AList.keys w.placed).Nodup := by
  apply (simulate_weak s0 fuel (ap_initial s0 h)).wnodup pi i
  simp [Wk, views_getElem?, hp, Pool.view_getElem?, hw]

/-- **Every RUNNING task is resident**, in every state a run can end in (normally, out of fuel, aborted). -/
theorem running_is_resident (s0 : SimS) (fuel : Nat) (h : wf0 s0 = true) (t : TaskId) (x : TaskS)
    (ht : taskAt (simulate s0 fuel).2.graphs t = some x) (hs : x.state = .running) :
    ∃ pi i, ResidentOn (simulate s0 fuel).2 pi i (gid t) := by
  obtain ⟨pi, i, hat⟩ := (simulate_weak s0 fuel (ap_initial s0 h)).runRes t x ht hs
  exact ⟨pi, i, (residentOn_iff ..).mpr hat⟩

theorem resident_is_running_at_end (s0 : SimS) (fuel : Nat) (h : wf0 s0 = true) (hok : (simulate s0 fuel).1 = none)
    (pi i n : Nat) (hr : ResidentOn (simulate s0 fuel).2 pi i n) :
    ∃ x, taskAt (simulate s0 fuel).2.graphs (ungid n) = some x ∧ x.state = .running ∧
      ∃ p, (simulate s0 fuel).2.pools[pi]? = some p ∧ p.placed.get? n = some i := by
  have hA := simulate_strong s0 fuel (ap_initial s0 h) hok
  have hat := (residentOn_iff ..).mp hr
  obtain ⟨x, hx, hs⟩ := hA.core.resRun pi i n hat
  obtain ⟨m, hm, hg⟩ := hA.core.bwd pi i n hat
  rw [pmaps_getElem?] at hm
  cases hp : (simulate s0 fuel).2.pools[pi]? with
  | none => simp [hp] at hm
  | some p =>
    simp only [hp, Option.map_some, Option.some.injEq] at hm
    subst hm
    exact ⟨x, hx, hs, p, rfl, hg⟩

/-- **Every resident task is RUNNING at the head of the `simulate()` loop**, after any number
`k` of completed iterations (`runK`: the loop of `simulate()` cut after `k` iterations). If one
of the `k` iterations raised, the weak invariant holds at the raise point. -/
theorem resident_is_running_at_loop_head (s0 : SimS) (k : Nat) (h : wf0 s0 = true) :
    HoldsAfter
      (fun _ s => ∀ pi i n, ResidentOn s pi i n → ∃ x, taskAt s.graphs (ungid n) = some x ∧ x.state = .running)
      WInv ((ExceptT.run (do init; runK k : SimM Bool)).run s0) := by
  have := loop_head_strong s0 k (ap_initial s0 h)
  revert this
  cases (StateT.run (ExceptT.run (do init; runK k : SimM Bool)) s0) with
  | mk r s =>
    cases r with
    | ok a =>
      intro hA pi i n hr
      exact hA.core.resRun pi i n ((residentOn_iff ..).mp hr)
    | error e => intro hW; exact hW

/-- A world that meets the hypothesis: one pool with two one-GPU workers, a two-task chain,
a closed-loop job with the same template. -/
def exWorld : SimS :=
  let w : Worker := Worker.ofVec [(⟨"GPU", some 1⟩, 1)]
  let st : Strategy := ⟨0, false, 1, 5, [(⟨"GPU", none⟩, 1)]⟩
  let tk (nm : String) : TaskS :=
    { name := nm, conditional := false, terminal := false, prob := 1000, strategies := [st], profile := 0, deadline := 100 }
  let g : GraphS := { name := "g", tasks := #[tk "a", tk "b"], children := #[[1], []], parents := #[[], [0]], topo := [0, 1] }
  { flags := { loopTimeout := 1000 }, jobs := #[⟨"j", true, 2, 0, g, 10⟩], allGraphs := #[g], allMeta := #[⟨0, 0, 10⟩],
    pools := #[⟨[w, w], []⟩], poolNames := #["pool"], tape := [.fuzz 5, .fuzz 0],
    decisions := [⟨[{ kind := .place, task := ⟨0, 0⟩, time := some 1, pool := some 0, strat := some st }], 1, none⟩] }

theorem exWorld_wf : wf0 exWorld = true := by
  simp [wf0, quietB, exWorld, Worker.ofVec, Resources.ofVec]

example : ∀ fuel pi i pj j n, ResidentOn (simulate exWorld fuel).2 pi i n → ResidentOn (simulate exWorld fuel).2 pj j n →
    pi = pj ∧ i = j := fun fuel => single_residency exWorld fuel exWorld_wf

end ErdosVerif.C01
