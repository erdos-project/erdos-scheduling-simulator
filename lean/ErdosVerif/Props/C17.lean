/-
C17 — graph algorithms agree with their definitions on every DAG.

Model: `ErdosVerif.Model.Graph` (M3, `workload/graph.py`).  Vocabulary
(`Lemmas/GraphBasic.lean`): `Edge`, `Reach` (reflexive–transitive), `HasCycle`,
`Acyclic`, `IsPath`, `IsSourceSinkPath`, `Before l u v` (`u` strictly before `v`
in `l`), `Simple` (no parallel edges) and the reachable-state invariant `WF`
(distinct keys, every child is a node, parent lists mirror child lists), which
holds for every graph built through `Graph()`, `add_node`, `add_child`,
`Graph(nodes=…)` (`wf_*` below).

Every theorem is stated about the public model functions only.  The findings
C17-D1 (`depth_first` duplicates), C17-D2 (`breadth_first(node)` omissions) and
C17-D3 (`remove` dangling children) are repaired in /repo (71bd5c0, a5de234,
ce9bde1); the model follows the repaired code, for which `dfs_spec`,
`bfs_from_node_spec` and `remove_spec` hold.
-/
import ErdosVerif.Lemmas.GraphWF
import ErdosVerif.Lemmas.GraphTopo
import ErdosVerif.Lemmas.GraphDfs
import ErdosVerif.Lemmas.GraphBfs
import ErdosVerif.Lemmas.GraphLongest
import ErdosVerif.Lemmas.GraphDepth
import ErdosVerif.Lemmas.GraphBfsNode
import ErdosVerif.Lemmas.GraphRemove

namespace ErdosVerif.C17
open ErdosVerif.Model ErdosVerif.Model.Graph

/-- The running example: `A→[B,C], C→[B]` with `A=0, B=1, C=2`. -/
def diamond : Graph := Graph.ofMapping [(0, [1, 2]), (2, [1])]

/-! ### The domain: graphs built through the public constructors are well formed -/

theorem wf_empty : Graph.empty.WF := Graph.wf_empty

theorem wf_add_node {g : Graph} (wf : g.WF) (n : Nat) (cs : List Nat) : (g.addNode n cs).WF :=
  Graph.wf_addNode wf n cs

theorem wf_add_child {g g' : Graph} (wf : g.WF) {n c : Nat} (h : g.addChild n c = .ok g') : g'.WF :=
  Graph.wf_addChild wf h

theorem wf_of_mapping (m : List (Nat × List Nat)) : (Graph.ofMapping m).WF := Graph.wf_ofMapping m

example : diamond.WF := wf_of_mapping _
example : diamond.topologicalSort = .ok [0, 2, 1] := by rfl
theorem diamond_acyclic : diamond.Acyclic :=
  Graph.topo_ok_acyclic (wf_of_mapping _) (l := [0, 2, 1]) (by rfl)
theorem diamond_simple : diamond.Simple := Graph.simple_of_forall_mem (by decide)

/-- Second half of the reachable-state invariant, needed only by `remove`:
`_parent_graph` is a dict (distinct keys).  It holds for every graph built through
the public API (`parents_keys_*`). -/
def ParentKeysNodup (g : Graph) : Prop := (g.parents.map Prod.fst).Nodup

theorem parents_keys_empty : ParentKeysNodup Graph.empty := Graph.parentsKeysNodup_empty
theorem parents_keys_add_node {g : Graph} (hp : ParentKeysNodup g) (n : Nat) (cs : List Nat) :
    ParentKeysNodup (g.addNode n cs) := Graph.parentsKeysNodup_addNode hp n cs
theorem parents_keys_add_child {g g' : Graph} (hp : ParentKeysNodup g) {n c : Nat}
    (h : g.addChild n c = .ok g') : ParentKeysNodup g' := Graph.parentsKeysNodup_addChild hp h
theorem parents_keys_of_mapping (m : List (Nat × List Nat)) : ParentKeysNodup (Graph.ofMapping m) :=
  Graph.parentsKeysNodup_ofMapping m
theorem parents_keys_remove {g : Graph} (hp : ParentKeysNodup g) (x : Nat) :
    ParentKeysNodup (g.remove x).1 := Graph.parentsKeysNodup_remove hp x

/-- `remove_spec` (holds since /repo commit ce9bde1): removing a node raises
nothing, keeps the graph well formed, deletes exactly that key (the order of the
others is kept) and exactly the edges incident to it. -/
theorem remove_spec {g : Graph} (wf : g.WF) (hp : ParentKeysNodup g) {x : Nat}
    (hx : g.hasNode x = true) :
    (g.remove x).2 = none ∧ (g.remove x).1.WF ∧
    (g.remove x).1.getNodes = g.getNodes.filter (fun k => k != x) ∧
    (∀ u v, (g.remove x).1.Edge u v ↔ g.Edge u v ∧ u ≠ x ∧ v ≠ x) := by
  obtain ⟨h1, h2, h3, _, _⟩ := Graph.remove_spec wf hp hx
  exact ⟨h1, h2, h3, Graph.edge_remove wf hp hx⟩

/-- `remove` keeps well-formedness in every case; on a label outside the graph it
raises `ValueError` and changes nothing. -/
theorem wf_remove {g : Graph} (wf : g.WF) (hp : ParentKeysNodup g) (x : Nat) : (g.remove x).1.WF :=
  Graph.wf_remove wf hp x

theorem remove_absent {g : Graph} {x : Nat} (hx : g.hasNode x = false) :
    g.remove x = (g, some "ValueError") := Graph.remove_absent hx

example := remove_spec (wf_of_mapping _) (parents_keys_of_mapping _) (g := diamond) (x := 2) (by decide)
example : (diamond.remove 2).1 = { children := [(0, [1]), (1, [])], parents := [(1, [0])] } := by decide

/-- `update_edges_spec`: after `update_edges(mapping)` the graph IS the graph of the
new mapping (nothing of the old adjacency or parent lists survives), hence well
formed with distinct `_parent_graph` keys, so every theorem of this file applies to
it with the edges of the new mapping. -/
theorem update_edges_spec (g : Graph) (m : List (Nat × List Nat)) :
    g.updateEdges m = Graph.ofMapping m ∧ (g.updateEdges m).WF ∧ ParentKeysNodup (g.updateEdges m) :=
  ⟨rfl, wf_of_mapping m, parents_keys_of_mapping m⟩

example : (diamond.updateEdges [(2, [1]), (0, [2]), (1, [])]).getSources = [0] ∧
    (diamond.updateEdges [(2, [1]), (0, [2]), (1, [])]).parentsOf 1 = [2] := by decide

/-- `topo_ok`: a returned order lists every node exactly once (it is a
permutation of the dict keys) and every edge goes forward. -/
theorem topo_ok {g : Graph} (wf : g.WF) {l : List Nat} (h : g.topologicalSort = .ok l) :
    l.Perm g.getNodes ∧ ∀ u v, g.Edge u v → Before l u v :=
  Graph.topo_ok wf h

/-- `topo_err`: an error is reported exactly when the graph has a cycle … -/
theorem topo_err {g : Graph} (wf : g.WF) : (∃ e, g.topologicalSort = .error e) ↔ g.HasCycle := by
  constructor
  · rintro ⟨e, h⟩; exact (Graph.topo_error wf h).2
  · intro hc
    cases h : g.topologicalSort with
    | error e => exact ⟨e, rfl⟩
    | ok l => exact absurd hc (Graph.topo_ok_acyclic wf h)

/-- … and the error is `RuntimeError` (never `KeyError`, `ValueError` or the
model-only `OutOfFuel`: recursion fuel `|V|+1` and two evaluations of the
`while any(...)` condition suffice). -/
theorem topo_err_class {g : Graph} (wf : g.WF) {e : String} (h : g.topologicalSort = .error e) :
    e = "RuntimeError" :=
  (Graph.topo_error wf h).1

example : (Graph.ofMapping [(0, [1]), (1, [0])]).topologicalSort = .error "RuntimeError" := by rfl

/-- On a graph with a cycle every routine that sorts first reports the cycle as
`RuntimeError` (`get_node_depth`, `are_dependent`, `get_longest_path`). -/
theorem cycle_is_runtime_error {g : Graph} (wf : g.WF) (hc : g.HasCycle) :
    g.topologicalSort = .error "RuntimeError" ∧
    (∀ n useMin, g.hasNode n = true → g.getNodeDepth n useMin = .error "RuntimeError") ∧
    (∀ a b, g.hasNode a = true → g.areDependent a b = .error "RuntimeError") ∧
    (∀ w, g.getLongestPath w = .error "RuntimeError") := by
  obtain ⟨e, he⟩ := (topo_err wf).mpr hc
  have hE := topo_err_class wf he
  subst hE
  refine ⟨he, ?_, ?_, ?_⟩
  · intro n useMin hn
    unfold Graph.getNodeDepth
    simp [hn, he]
  · intro a b ha
    unfold Graph.areDependent Graph.getNodeDepth
    simp [ha, he]
  · intro w
    unfold Graph.getLongestPath
    simp [he]

/-- `longest_path_spec`: on a non-empty DAG with positive weights the result is a
real path from a source to a sink whose total weight is maximal among all
source-to-sink paths. -/
theorem longest_path_spec {g : Graph} (wf : g.WF) (hac : g.Acyclic) (hne : g.getNodes ≠ [])
    (w : Nat → Int) (hw : ∀ n, 0 < w n) :
    ∃ p, g.getLongestPath w = .ok p ∧ g.IsSourceSinkPath p ∧
      ∀ q, g.IsSourceSinkPath q → pathSum w q ≤ pathSum w p := by
  obtain ⟨order, htopo, hperm, hfwd⟩ := Graph.topo_of_acyclic wf hac
  exact Graph.longest_path_spec wf htopo hperm hfwd hne w hw

/-- `TaskGraph.critical_path_runtime` equals the maximum source-to-sink path weight
(and that maximum is attained). -/
theorem critical_path_runtime_spec {g : Graph} (wf : g.WF) (hac : g.Acyclic) (hne : g.getNodes ≠ [])
    (w : Nat → Int) (hw : ∀ n, 0 < w n) :
    ∃ t, g.criticalPathRuntime w = .ok t ∧
      (∃ p, g.IsSourceSinkPath p ∧ pathSum w p = t) ∧
      ∀ q, g.IsSourceSinkPath q → pathSum w q ≤ t := by
  obtain ⟨order, htopo, hperm, hfwd⟩ := Graph.topo_of_acyclic wf hac
  exact Graph.critical_path_runtime_spec wf htopo hperm hfwd hne w hw

/-- `JobGraph.critical_path_runtime` (and `completion_time` without SLO overrides)
is the same quantity when every job is live (`probability > ε`). -/
theorem job_critical_path_eq (g : Graph) (runtime : Nat → Int) :
    g.jobPathCost runtime (fun _ => true) runtime = g.criticalPathRuntime runtime := by
  unfold Graph.jobPathCost Graph.criticalPathRuntime
  simp

/-- The default weights (1 for a source, 2 otherwise) are positive, so
`get_longest_path()` is covered by `longest_path_spec`. -/
theorem default_weight_pos (g : Graph) (n : Nat) : 0 < g.defaultWeight n := by
  unfold Graph.defaultWeight; split <;> decide

example := longest_path_spec (wf_of_mapping _) diamond_acyclic (g := diamond) (by decide)
  (fun n => (n : Int) + 1) (by intro n; omega)
example : diamond.getLongestPath (fun n => (n : Int) + 1) = .ok [0, 2, 1] := by rfl
example : diamond.criticalPathRuntime (fun n => (n : Int) + 1) = .ok 6 := by rfl

/-- `depth_spec`: depth 1 for a node without parents, otherwise one more than the
max (`useMin = false`) / min (`useMin = true`) of the parents' depths. -/
theorem depth_spec {g : Graph} (wf : g.WF) (hac : g.Acyclic) (useMin : Bool)
    {n : Nat} (hn : g.hasNode n = true) :
    ∃ d, g.getNodeDepth n useMin = .ok (some d) ∧
      (g.parentsOf n = [] → d = 1) ∧
      (g.parentsOf n ≠ [] → ∃ f : Nat → Nat,
        (∀ p ∈ g.parentsOf n, g.getNodeDepth p useMin = .ok (some (f p))) ∧
        d = aggregate useMin ((g.parentsOf n).map f) + 1) := by
  obtain ⟨order, htopo, hperm, hfwd⟩ := Graph.topo_of_acyclic wf hac
  exact Graph.depth_spec_of_topo wf htopo hperm hfwd useMin hn

example := depth_spec (wf_of_mapping _) diamond_acyclic false (g := diamond) (n := 1) (by decide)
example : diamond.getNodeDepth 1 = .ok (some 3) := by rfl
example : diamond.getNodeDepth 1 true = .ok (some 2) := by rfl

/-- `dependent_iff_reach`: two nodes of a DAG are reported dependent exactly when
they are distinct and one is reachable from the other. -/
theorem dependent_iff_reach {g : Graph} (wf : g.WF) (hac : g.Acyclic) {a b : Nat}
    (ha : g.hasNode a = true) (hb : g.hasNode b = true) :
    ∃ r, g.areDependent a b = .ok r ∧ (r = true ↔ a ≠ b ∧ (g.Reach a b ∨ g.Reach b a)) := by
  obtain ⟨order, htopo, hperm, hfwd⟩ := Graph.topo_of_acyclic wf hac
  refine Graph.dependent_spec_of wf htopo hperm hfwd ?_ ha hb
  intro n hn
  exact ⟨Graph.dfs_no_error _ wf.closed hn, Graph.dfs_mem_iff_reach _ wf.closed hn⟩

example := dependent_iff_reach (wf_of_mapping _) diamond_acyclic (g := diamond) (a := 1) (b := 2)
  (by decide) (by decide)
example : diamond.areDependent 1 2 = .ok true := by rfl

/-- `sources_spec`: exactly the nodes without incoming edge, in dict order. -/
theorem sources_spec {g : Graph} (wf : g.WF) :
    g.getSources.Sublist g.getNodes ∧
      ∀ n, n ∈ g.getSources ↔ g.hasNode n = true ∧ ∀ u, ¬ g.Edge u n :=
  Graph.sources_spec wf

/-- `sinks_spec`: exactly the nodes without outgoing edge, in dict order. -/
theorem sinks_spec (g : Graph) :
    g.getSinks.Sublist g.getNodes ∧
      ∀ n, n ∈ g.getSinks ↔ g.hasNode n = true ∧ ∀ v, ¬ g.Edge n v :=
  Graph.sinks_spec g

example : diamond.getSources = [0] ∧ diamond.getSinks = [1] := by decide

/-- `bfs_spec`: on a DAG without parallel edges the iteration raises nothing,
yields every node exactly once, and yields every node after all its parents. -/
theorem bfs_spec {g : Graph} (wf : g.WF) (hac : g.Acyclic) (hs : g.Simple) :
    (g.breadthFirst none).2 = none ∧
    (g.breadthFirst none).1.Perm g.getNodes ∧
    ∀ u v, g.Edge u v → Before (g.breadthFirst none).1 u v :=
  Graph.bfs_spec wf hac hs

example : diamond.breadthFirst none = ([0, 2, 1], none) := by decide
example := bfs_spec (wf_of_mapping _) diamond_acyclic diamond_simple

/-- `bfs_from_node_spec` (holds since /repo commit a5de234): on a DAG without
parallel edges `breadth_first(n)` raises nothing, yields exactly the nodes reachable
from `n`, each once, and every node after all of its parents that are reachable
from `n`. -/
theorem bfs_from_node_spec {g : Graph} (wf : g.WF) (hac : g.Acyclic) (hs : g.Simple)
    {n : Nat} (hn : g.hasNode n = true) :
    (g.breadthFirst (some n)).2 = none ∧
    (g.breadthFirst (some n)).1.Nodup ∧
    (∀ m, m ∈ (g.breadthFirst (some n)).1 ↔ g.Reach n m) ∧
    ∀ u v, g.Edge u v → g.Reach n u → Before (g.breadthFirst (some n)).1 u v :=
  Graph.bfs_from_node_spec wf hac hs hn

example : diamond.breadthFirst (some 2) = ([2, 1], none) := by decide
example := bfs_from_node_spec (wf_of_mapping _) diamond_acyclic diamond_simple (n := 2) (by decide)

/-- `dfs_spec` (full clause, holds since /repo commit 71bd5c0): `depth_first(n)`
raises nothing and yields exactly the nodes reachable from `n`, each once. -/
theorem dfs_spec {g : Graph} (wf : g.WF) {n : Nat} (hn : g.hasNode n = true) :
    (g.depthFirst (some n)).2 = none ∧ (g.depthFirst (some n)).1.Nodup ∧
      ∀ m, m ∈ (g.depthFirst (some n)).1 ↔ g.Reach n m :=
  ⟨Graph.dfs_no_error _ wf.closed hn, Graph.dfs_nodup_of_skip g _,
    Graph.dfs_mem_iff_reach _ wf.closed hn⟩

/-- Same for `depth_first()` from the sources. -/
theorem dfs_spec_sources {g : Graph} (wf : g.WF) :
    (g.depthFirst none).2 = none ∧ (g.depthFirst none).1.Nodup ∧
      ∀ m, m ∈ (g.depthFirst none).1 ↔ ∃ s, s ∈ g.getSources ∧ g.Reach s m :=
  ⟨Graph.dfs_sources_no_error _ wf.closed, Graph.dfs_nodup_of_skip g _,
    Graph.dfs_sources_mem_iff _ wf.closed⟩

example := dfs_spec (wf_of_mapping _) (g := diamond) (n := 0) (by decide)
example : diamond.depthFirst (some 0) = ([0, 2, 1], none) := by decide

/-- Regression record for finding C17-D1 (repaired): the former generator
(`skip = false`) yielded `A,C,B,B` on `A→[B,C], C→[B]`; dropping its repeated
yields gives exactly the current output, on every graph and for every start. -/
theorem dfs_former_output_dedup (g : Graph) (start : Option Nat) :
    (g.depthFirstWith false start).1.eraseDups = (g.depthFirst start).1 :=
  Graph.dfs_dedup_eq_skip g start

/-- `fuel_suffices`: the model-only outcome `OutOfFuel` is never produced by
`depth_first` (any graph, any start), by `topological_sort` / `get_node_depth` /
`are_dependent` (well-formed graphs: `topo_err_class`, `depth_spec`,
`dependent_iff_reach`), by `breadth_first()` / `breadth_first(node)` on simple DAGs
(`bfs_spec`, `bfs_from_node_spec`) or by `get_longest_path` with positive weights
on DAGs (`longest_path_spec`). -/
theorem fuel_suffices_dfs (g : Graph) (start : Option Nat) :
    (g.depthFirst start).2 ≠ some "OutOfFuel" :=
  Graph.dfs_fuel_suffices _ g start

end ErdosVerif.C17
