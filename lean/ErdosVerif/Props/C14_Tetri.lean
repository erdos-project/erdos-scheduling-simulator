/-
C14 (TetriSched clause, both formulations): the returned plan is *maximal* — no further
offered task can be added at any allowed start slot, worker and strategy without breaking
capacity, release, precedence or deadline limits.

The limits are stated once, independently of the optimisation model, as `ValidPlan I plan`
(`Model/TetriSpec.lean`, the planner's own time model: grid slots, half-open occupancy
`[slot, slot + runtime)`, RUNNING tasks booked for the full runtime of their strategy, a child
`≥ parent slot + slowest runtime + 1`).

* `tetri_sound` — every feasible point of `gen I` decodes to a valid plan;
* `tetri_complete` — every valid plan is the decoded plan of a feasible point (all helper
  variables can be chosen consistently; Gurobi: when the dependencies among the tasks of the
  call are acyclic, `wfAcyclic`, evaluated by the driver on every instance);
* `objective_eq_reward`, `tetri_exact` — the objective values attained by feasible points are
  exactly the rewards of valid plans: the model is exact for the specification;
* `cell_reward_ge_one` — every cell earns at least one unit of reward (`den` in the scaled model);
* **`tetri_maximal`** — if `σ` is feasible, `OPT` bounds the objective of every feasible point,
  `obj σ ≥ 0.9·OPT` and `OPT < 10` units, then no cell of a *rewarded* unplaced task can be added
  to the decoded plan; `tetri_maximal_gap` is the same in terms of the solver's own stopping rule
  (`bound − obj ≤ 0.1·obj`), `tetri_maximal_addable` in terms of the driver's `addable` list
  (`validB_iff`, `mem_addable`: the executable check decides `ValidPlan`);
* `objective_le_bound` — the cheap bound the check uses to establish `OPT < 10` per instance.

Every task is rewarded in the CPLEX formulation and in the Gurobi formulation without
`release_taskgraphs`.  With `release_taskgraphs` the Gurobi objective only rewards sink tasks:
`unrewarded_counterexample` shows that the hypothesis `rewarded t` cannot be dropped (finding
C14-TETRI-1).  `running_booking_counterexample` shows the gap between the planner's limits and
the real ones: a RUNNING task is booked for its full runtime (finding C14-TETRI-2);
`shifted_grid_counterexample` exhibits an infeasible model caused by a previously SCHEDULED task
that must be re-placed on the grid of the current call (finding C14-TETRI-3);
`parent_count_counterexample` shows that the precedence limit as coded (parents with variables =
all graph parents) keeps a join with a COMPLETED parent unplaced (finding C14-TETRI-4).
-/
import ErdosVerif.Lemmas.TetriCheck
namespace ErdosVerif.C14_Tetri
open ErdosVerif.Mip ErdosVerif.Tetri ErdosVerif.TetriSpec

variable {I : Inst} {σ : Var → Int}

/-- **Soundness**: the decoded plan of a feasible point respects every limit. -/
theorem tetri_sound (h : sat σ (gen I)) (hwf : I.wf = true) (hm : I.noModel = false) :
    ValidPlan I (planOf I σ) := Tetri.tetri_sound h hwf hm

/-- **Completeness**: every plan within the limits is realised by a feasible point. -/
theorem tetri_complete {plan : Plan} (hv : ValidPlan I plan) (hwf : I.wf = true) (hm : I.noModel = false)
    (hac : I.cplex = false → wfAcyclic I = true) :
    ∃ σ, sat σ (gen I) ∧ planOf I σ = plan ∧ objective σ (gen I) = planReward I plan :=
  Tetri.tetri_complete hv hwf hm hac

/-- The objective of a feasible point is the reward of its decoded plan. -/
theorem objective_eq_reward (h : sat σ (gen I)) (hwf : I.wf = true) (hm : I.noModel = false) :
    objective σ (gen I) = planReward I (planOf I σ) := objective_eq_planReward h hwf hm

/-- **Exactness**: the objective values of feasible points are exactly the rewards of valid plans. -/
theorem tetri_exact (hwf : I.wf = true) (hm : I.noModel = false)
    (hac : I.cplex = false → wfAcyclic I = true) (v : Int) :
    (∃ σ, sat σ (gen I) ∧ objective σ (gen I) = v) ↔ (∃ plan, ValidPlan I plan ∧ planReward I plan = v) := by
  constructor
  · rintro ⟨σ, hs, rfl⟩
    exact ⟨planOf I σ, Tetri.tetri_sound hs hwf hm, (objective_eq_planReward hs hwf hm).symm⟩
  · rintro ⟨plan, hv, rfl⟩
    obtain ⟨σ, hs, _, ho⟩ := Tetri.tetri_complete hv hwf hm hac
    exact ⟨σ, hs, ho⟩

/-- Every cell earns at least one unit of reward (`den` in the scaled model): `np.interp` maps
the slots onto `[2, 1]`. -/
theorem cell_reward_ge_one (I : Inst) {k : Nat} (hk : k < I.nSlots) : (I.den : Int) ≤ I.rew k :=
  (rew_bounds I hk).1

/-- **Maximality.**  Let `σ` be feasible with `obj σ ≥ 0.9·OPT`, where `OPT < 10` (units of
reward) bounds the objective of every feasible point.  Then no rewarded task that `σ` leaves
unplaced can be added to the decoded plan at any cell: the extended plan breaks a capacity,
release, deadline or precedence limit. -/
theorem tetri_maximal (h : sat σ (gen I)) (hwf : I.wf = true) (hm : I.noModel = false)
    (hac : I.cplex = false → wfAcyclic I = true) {OPT : Int}
    (hopt : ∀ τ, sat τ (gen I) → objective τ (gen I) ≤ OPT)
    (hgap : 9 * OPT ≤ 10 * objective σ (gen I)) (hsmall : OPT < 10 * (I.den : Int))
    {t : Nat} (ht : t ∈ I.nonRunning) (hrew : I.rewarded t = true)
    (hun : (planOf I σ).get t = none) (q : Cell) :
    ¬ ValidPlan I ((planOf I σ).set t (some q)) := by
  intro hv'
  obtain ⟨σ', hs', ho'⟩ := extension_improves h hwf hm hac ht hrew hun hv'
  have := hopt σ' hs'
  omega

/-- Naming convention of the framework: `tetri_maximal` is the *partial* form of the property's
clause "no further offered task can be added" — the full-strength statement (without
`rewarded t`) is refuted by `unrewarded_counterexample` below. -/
theorem tetri_maximal_partial (h : sat σ (gen I)) (hwf : I.wf = true) (hm : I.noModel = false)
    (hac : I.cplex = false → wfAcyclic I = true) {OPT : Int}
    (hopt : ∀ τ, sat τ (gen I) → objective τ (gen I) ≤ OPT)
    (hgap : 9 * OPT ≤ 10 * objective σ (gen I)) (hsmall : OPT < 10 * (I.den : Int))
    {t : Nat} (ht : t ∈ I.nonRunning) (hrew : I.rewarded t = true)
    (hun : (planOf I σ).get t = none) (q : Cell) :
    ¬ ValidPlan I ((planOf I σ).set t (some q)) :=
  tetri_maximal h hwf hm hac hopt hgap hsmall ht hrew hun q

/-- The same in terms of the solvers' stopping rule: `B` is the solver's bound
(`obj τ ≤ B` for all feasible `τ`), the search stops when `B − obj ≤ 0.1·obj`, and the returned
objective is below ten units. -/
theorem tetri_maximal_gap (h : sat σ (gen I)) (hwf : I.wf = true) (hm : I.noModel = false)
    (hac : I.cplex = false → wfAcyclic I = true) {B : Int}
    (hB : ∀ τ, sat τ (gen I) → objective τ (gen I) ≤ B)
    (hgap : 10 * (B - objective σ (gen I)) ≤ objective σ (gen I))
    (hsmall : objective σ (gen I) < 10 * (I.den : Int))
    {t : Nat} (ht : t ∈ I.nonRunning) (hrew : I.rewarded t = true)
    (hun : (planOf I σ).get t = none) (q : Cell) :
    ¬ ValidPlan I ((planOf I σ).set t (some q)) := by
  intro hv'
  obtain ⟨σ', hs', ho'⟩ := extension_improves h hwf hm hac ht hrew hun hv'
  have := hB σ' hs'
  omega

/-- No feasible point earns more than `objBound` (each rewarded task at its best cell): the
check establishes `OPT < 10` units per instance through this bound. -/
theorem objective_le_bound (h : sat σ (gen I)) (hwf : I.wf = true) (hm : I.noModel = false) :
    objective σ (gen I) ≤ objBound I := objective_le_objBound h hwf hm

/-- The executable checker decides the specification. -/
theorem validB_iff {plan : Plan} (hwf : I.wf = true) : validB I plan = true ↔ ValidPlan I plan :=
  Tetri.validB_iff hwf

/-- **Maximality, as evaluated by the driver**: under the hypotheses of `tetri_maximal` every
cell the driver lists as addable belongs to a task the objective does not reward. -/
theorem tetri_maximal_addable (h : sat σ (gen I)) (hwf : I.wf = true) (hm : I.noModel = false)
    (hac : I.cplex = false → wfAcyclic I = true) {OPT : Int}
    (hopt : ∀ τ, sat τ (gen I) → objective τ (gen I) ≤ OPT)
    (hgap : 9 * OPT ≤ 10 * objective σ (gen I)) (hsmall : OPT < 10 * (I.den : Int))
    {t w k s : Nat} (hadd : (t, w, k, s) ∈ addable I (planOf I σ)) : I.rewarded t = false := by
  obtain ⟨ht, hun, _, hv'⟩ := (mem_addable hwf).mp hadd
  cases hr : I.rewarded t with
  | false => rfl
  | true => exact absurd hv' (tetri_maximal h hwf hm hac hopt hgap hsmall ht hr hun (w, k, s))

/-- In the CPLEX formulation, and in the Gurobi one without `release_taskgraphs`, every task is
rewarded: the plan is maximal without exception. -/
theorem all_rewarded (hr : I.cplex = true ∨ I.releaseTaskgraphs = false) (t : Nat) : I.rewarded t = true := by
  rcases hr with h | h <;> simp [Inst.rewarded, h]

/-- Finding C14-TETRI-1.  Gurobi with `release_taskgraphs`, chain `B → C`, four slots; `C`
(deadline 0) has no allowed cell, so the objective — which rewards only the sink `C` — is 0 for
every feasible point, and the all-unplaced point is optimal although `B` fits everywhere. -/
def exUnrew : Inst :=
  { cplex := false, now := 0, disc := 1, planAheadOpt := 3
    workers := [⟨"W0", "P0", [("CPU", 1)]⟩]
    tasks := [⟨"B@G", "B", 0, "G", .released, 0, 9, [⟨1, [("CPU", 1)]⟩], 0, 0, 0⟩,
              ⟨"C@G", "C", 0, "G", .virtual, -1, 0, [⟨1, [("CPU", 1)]⟩], 0, 0, 0⟩]
    nOffered := 2
    nodes := [⟨"B@G", "B", 0, "G"⟩, ⟨"C@G", "C", 0, "G"⟩]
    edges := [("B@G", "C@G")]
    enforceDeadlines := true, retract := true, releaseTaskgraphs := true }

theorem exUnrew_facts : exUnrew.wf = true ∧ exUnrew.noModel = false ∧ wfAcyclic exUnrew = true ∧
    exUnrew.rewarded 0 = false ∧ objBound exUnrew = 0 := by decide

/-- **The hypothesis `rewarded t` of `tetri_maximal` cannot be dropped**: an *optimal* feasible
point whose decoded plan can be extended by the unrewarded task `B`. -/
theorem unrewarded_counterexample :
    ∃ σ : Var → Int, sat σ (gen exUnrew) ∧
      (∀ τ, sat τ (gen exUnrew) → objective τ (gen exUnrew) ≤ objective σ (gen exUnrew)) ∧
      (0 : Nat) ∈ exUnrew.nonRunning ∧ (planOf exUnrew σ).get 0 = none ∧
      ValidPlan exUnrew ((planOf exUnrew σ).set 0 (some (0, 0, 0))) := by
  obtain ⟨hwf, hm, hac, _, hb⟩ := exUnrew_facts
  have hv0 : ValidPlan exUnrew [none, none] := (Tetri.validB_iff hwf).mp (by decide)
  obtain ⟨σ, hs, hp, ho⟩ := Tetri.tetri_complete hv0 hwf hm (fun _ => hac)
  refine ⟨σ, hs, ?_, by decide, by rw [hp]; rfl, ?_⟩
  · intro τ hτ
    have h1 := objective_le_objBound hτ hwf hm
    have h2 : planReward exUnrew [none, none] = 0 := by decide
    rw [ho, h2, ← hb]; exact h1
  · rw [hp]
    exact (Tetri.validB_iff hwf).mp (by decide)

/-- Finding C14-TETRI-2.  One 1-CPU worker, a RUNNING task (runtime 3, remaining 1) and an
offered task `T` (runtime 1, deadline 2), `now = 0`. -/
def exRun : Inst :=
  { cplex := true, now := 0, disc := 1, planAheadOpt := 2
    workers := [⟨"W0", "P0", [("CPU", 1)]⟩]
    tasks := [⟨"T@G0", "T", 0, "G0", .released, 0, 2, [⟨1, [("CPU", 1)]⟩], 0, 0, 0⟩,
              ⟨"R@G1", "R", 0, "G1", .running, 0, 9, [⟨3, [("CPU", 1)]⟩], 0, 0, 1⟩]
    nOffered := 1
    nodes := [⟨"T@G0", "T", 0, "G0"⟩, ⟨"R@G1", "R", 0, "G1"⟩]
    edges := []
    enforceDeadlines := true, retract := false, releaseTaskgraphs := false }

/-- **The planner's limits are tighter than the real ones**: slot 1 is an allowed cell of `T`
and the RUNNING task is expected to have finished by then (`now + remaining = 1`), yet no valid
plan — hence no feasible point of either formulation's model — places `T` at slot 1, because the
RUNNING task is booked for `[0, 3)`. -/
theorem running_booking_counterexample :
    exRun.wf = true ∧ exRun.noModel = false ∧ exRun.cellOk 0 0 1 0 = true ∧
    exRun.now + ((exRun.task 1).remaining : Nat) ≤ exRun.slot 1 ∧
    (∀ plan, ValidPlan exRun plan → plan.get 0 ≠ some (0, 1, 0)) ∧
    (∀ σ, sat σ (gen exRun) → (planOf exRun σ).get 0 ≠ some (0, 1, 0)) := by
  have hwf : exRun.wf = true := by decide
  have hm : exRun.noModel = false := by decide
  have key : ∀ plan, ValidPlan exRun plan → plan.get 0 ≠ some (0, 1, 0) := by
    intro plan hv h0
    have h1 := hv.running 1 (by decide) (by decide) (by decide)
    have hc := hv.capacity 0 (by decide) 1 (by decide) "CPU"
    have hl : load exRun plan 0 1 "CPU" = 2 := by
      have hact : exRun.act = [0, 1] := by decide
      simp only [load, hact, List.map_cons, List.map_nil, nsum, demandAt, h0, h1]
      decide
    rw [hl] at hc
    exact absurd hc (by decide)
  refine ⟨hwf, hm, by decide, by decide, key, ?_⟩
  intro σ hs
  exact key _ (Tetri.tetri_sound hs hwf hm)

/-- Finding C14-TETRI-3.  Non-retracting mode, discretisation 3, `now = 5`: `S` was SCHEDULED
(runtime 3, 2 CPUs, deadline 10) by an earlier call, a RUNNING task holds 2 of the 3 CPUs until 7,
`T` (1 CPU) is offered.  On the grid 5, 8, 11 of *this* call `S` can only start at 5 (8 + 3 > 10),
where it collides with the RUNNING task. -/
def exShift : Inst :=
  { cplex := true, now := 5, disc := 3, planAheadOpt := 6
    workers := [⟨"W0", "P0", [("CPU", 3)]⟩]
    tasks := [⟨"T@G0", "T", 0, "G0", .released, 5, 10, [⟨2, [("CPU", 1)]⟩], 0, 0, 0⟩,
              ⟨"S@G1", "S", 0, "G1", .scheduled, 3, 10, [⟨3, [("CPU", 2)]⟩], 0, 0, 0⟩,
              ⟨"R@G2", "R", 0, "G2", .running, 5, 9, [⟨2, [("CPU", 2)]⟩], 0, 0, 2⟩]
    nOffered := 1
    nodes := [⟨"T@G0", "T", 0, "G0"⟩, ⟨"S@G1", "S", 0, "G1"⟩, ⟨"R@G2", "R", 0, "G2"⟩]
    edges := []
    enforceDeadlines := true, retract := false, releaseTaskgraphs := false }

/-- **A SCHEDULED task that cannot be re-placed on the shifted grid makes the whole model
infeasible**: no assignment satisfies `gen exShift`, `schedule()` answers the offered task `T`
with "not placed", although `T` fits next to the RUNNING task right now. -/
theorem shifted_grid_counterexample :
    exShift.wf = true ∧ exShift.noModel = false ∧ (∀ σ, ¬ sat σ (gen exShift)) ∧
    decodeFail exShift = [⟨0, .unplaced⟩] ∧
    exShift.cellOk 0 0 0 0 = true ∧ exShift.runningLoad 0 0 "CPU" + exShift.req 0 0 "CPU" ≤ 3 := by
  have hwf : exShift.wf = true := by decide
  have hm : exShift.noModel = false := by decide
  refine ⟨hwf, hm, ?_, by decide, by decide, by decide⟩
  intro σ hs
  have hv := Tetri.tetri_sound hs hwf hm
  -- `S` must be placed, and on the grid of this call only slot 0 meets its deadline
  obtain ⟨c, hc⟩ := Option.isSome_iff_exists.mp (hv.required 1 (by decide) (by decide) (by decide))
  obtain ⟨h1, h2, h3, h4⟩ := hv.wf 1 c (by decide) (by decide) hc
  have hce : c = (0, 0, 0) := by
    obtain ⟨w, k, s⟩ := c
    obtain rfl : w = 0 := Nat.lt_one_iff.mp h1
    obtain rfl : s = 0 := Nat.lt_one_iff.mp h3
    have : ∀ k < 3, exShift.cellOk 1 0 k 0 = true → k = 0 := by decide
    rw [this k h2 h4]
  rw [hce] at hc
  -- there it meets the RUNNING task: 2 + 2 CPUs of 3
  have hrun := hv.running 2 (by decide) (by decide) (by decide)
  have hcap := hv.capacity 0 (by decide) 0 (by decide) "CPU"
  have hact : exShift.act = [0, 1, 2] := by decide
  have e1 : demandAt exShift (planOf exShift σ) 0 0 "CPU" 1 = 2 := by simp only [demandAt, hc]; decide
  have e2 : demandAt exShift (planOf exShift σ) 0 0 "CPU" 2 = 2 := by simp only [demandAt, hrun]; decide
  have : qty (exShift.worker 0).res "CPU" = 3 := by decide
  simp only [load, hact, List.map_cons, List.map_nil, nsum, e1, e2] at hcap
  omega

/-- Finding C14-TETRI-4.  Gurobi formulation, join `J` with the parents `A` (COMPLETED, hence
without variables) and `B` (offered in the same call). -/
def exJoin : Inst :=
  { cplex := false, now := 2, disc := 1, planAheadOpt := 9
    workers := [⟨"W0", "P0", [("CPU", 2)]⟩]
    tasks := [⟨"B@G", "B", 0, "G", .released, 2, 12, [⟨2, [("CPU", 1)]⟩], 0, 0, 0⟩,
              ⟨"J@G", "J", 0, "G", .virtual, -1, 12, [⟨2, [("CPU", 1)]⟩], 0, 0, 0⟩]
    nOffered := 2
    nodes := [⟨"A@G", "A", 0, "G"⟩, ⟨"B@G", "B", 0, "G"⟩, ⟨"J@G", "J", 0, "G"⟩]
    edges := [("A@G", "J@G"), ("B@G", "J@G")]
    enforceDeadlines := true, retract := false, releaseTaskgraphs := false }

/-- **The all-parents-placed rows count parents without variables**: `J` has one parent with
variables but two graph parents, so no valid plan — hence no feasible point — ever places `J`,
although `J` is rewarded and all its cells from slot `2 + 2 + 1` on are allowed. -/
theorem parent_count_counterexample :
    exJoin.wf = true ∧ exJoin.noModel = false ∧ exJoin.rewarded 1 = true ∧
    exJoin.parentVars 1 = [0] ∧ exJoin.nParents 1 = 2 ∧ exJoin.cellOk 1 0 3 0 = true ∧
    (∀ plan, ValidPlan exJoin plan → plan.get 1 = none) := by
  refine ⟨by decide, by decide, by decide, by decide, by decide, by decide, ?_⟩
  intro plan hv
  cases hp : plan.get 1 with
  | none => rfl
  | some c =>
    have := (hv.prec (by decide) 1 c (by decide) (by decide) hp).1 (by decide)
    exact absurd this (by decide)

/-- Non-vacuity of `tetri_maximal`: in `exRun` the all-unplaced point is feasible, optimal
(`OPT` = its own objective: the constant of the RUNNING task) and indeed nothing can be added. -/
example : addable exRun [none, some (runningCell exRun 1)] = [] := by decide
example : validB exRun [none, some (runningCell exRun 1)] = true := by decide
/-- … while in `exUnrew` the driver lists the cells of the unrewarded task `B`. -/
example : addable exUnrew [none, none] = [(0, 0, 0, 0), (0, 0, 1, 0), (0, 0, 2, 0), (0, 0, 3, 0)] := by decide

end ErdosVerif.C14_Tetri
