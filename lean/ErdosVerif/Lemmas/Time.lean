/-
Lemmas about the `EventTime` model (`Model/Time.lean`): below 2^53 µs the float factor of
`to()` is harmless and every operation agrees with plain integer microseconds.
-/
import ErdosVerif.Model.Time

namespace ErdosVerif.Model.Time

/-- 2^53: every integer of smaller magnitude is a double. -/
def B53 : Int := 9007199254740992

/-- The property's bound: magnitude below 2^53 µs. -/
def Small (a : EventTime) : Prop := -B53 < a.toUs ∧ a.toUs < B53

instance (a : EventTime) : Decidable (Small a) := by unfold Small; infer_instance

/-- Outcomes can be compared by `decide` in examples. -/
instance instDecidableEqExcept {ε α : Type} [DecidableEq ε] [DecidableEq α] : DecidableEq (Except ε α)
  | .ok a, .ok b => if h : a = b then isTrue (by rw [h]) else isFalse (by intro h'; cases h'; exact h rfl)
  | .error a, .error b => if h : a = b then isTrue (by rw [h]) else isFalse (by intro h'; cases h'; exact h rfl)
  | .ok _, .error _ => isFalse (by intro h; cases h)
  | .error _, .ok _ => isFalse (by intro h; cases h)

theorem rndNat_of_lt {m : Nat} (h : m < 2 ^ 53) : rndNat m = m := by
  unfold rndNat; rw [if_pos h]

/-- Multiples of a power of two with a 53-bit cofactor are doubles, whatever their size. -/
theorem rndNat_mul_pow (q s : Nat) (hq : q < 2 ^ 53) : rndNat (q * 2 ^ s) = q * 2 ^ s := by
  unfold rndNat
  split
  · rfl
  · rename_i hbig
    have hm0 : q * 2 ^ s ≠ 0 := by
      intro h; rw [h] at hbig; exact hbig (Nat.two_pow_pos 53)
    have hlt : q * 2 ^ s < 2 ^ (53 + s) := by
      rw [Nat.pow_add]; exact Nat.mul_lt_mul_of_lt_of_le hq (Nat.le_refl _) (Nat.two_pow_pos s)
    have hlog : (q * 2 ^ s).log2 < 53 + s := (Nat.log2_lt hm0).mpr hlt
    have hs' : (q * 2 ^ s).log2 + 1 - 53 ≤ s := by omega
    have hge : 2 ^ 53 ≤ q * 2 ^ s := Nat.le_of_not_lt hbig
    have hlog53 : 53 ≤ (q * 2 ^ s).log2 := by
      apply Nat.le_of_not_lt; intro hc
      have := (Nat.log2_lt hm0).mp hc
      omega
    generalize hsd : (q * 2 ^ s).log2 + 1 - 53 = s' at hs'
    have hs1 : 1 ≤ s' := by omega
    have hdvd : 2 ^ s' ∣ q * 2 ^ s := Nat.dvd_trans (Nat.pow_dvd_pow 2 hs') (Nat.dvd_mul_left _ _)
    have hr : q * 2 ^ s % 2 ^ s' = 0 := Nat.mod_eq_zero_of_dvd hdvd
    have hhalf : 0 < 2 ^ (s' - 1) := Nat.two_pow_pos _
    simp only [hr]
    have hc : ¬ (2 ^ (s' - 1) < 0 ∨ 0 = 2 ^ (s' - 1) ∧ ((q * 2 ^ s) >>> s') % 2 = 1) := by
      intro h; rcases h with h | ⟨h, -⟩ <;> omega
    rw [if_neg hc, Nat.shiftRight_eq_div_pow, Nat.shiftLeft_eq, Nat.div_mul_cancel hdvd]

theorem rnd53_mul_pow (x : Int) (s : Nat) (h : x.natAbs < 2 ^ 53) : rnd53 (x * 2 ^ s) = x * 2 ^ s := by
  unfold rnd53
  have hn : (x * 2 ^ s).natAbs = x.natAbs * 2 ^ s := by
    rw [Int.natAbs_mul, Int.natAbs_pow]; rfl
  rw [hn, rndNat_mul_pow _ _ h]
  have hp : (0 : Int) < 2 ^ s := Int.pow_pos (by decide)
  split
  · rename_i hneg
    have hx : x < 0 := by
      by_cases hx : x < 0
      · exact hx
      · exfalso; have := Int.mul_nonneg (Int.not_lt.mp hx) (Int.le_of_lt hp); omega
    rw [Int.natCast_mul, Int.natCast_pow]
    have : (x.natAbs : Int) = -x := by omega
    rw [this]; simp [Int.neg_mul]
  · rename_i hnn
    have hx : 0 ≤ x := by
      by_cases hx : 0 ≤ x
      · exact hx
      · exfalso; have := Int.mul_neg_of_neg_of_pos (Int.not_le.mp hx) hp; omega
    rw [Int.natCast_mul, Int.natCast_pow]
    have : (x.natAbs : Int) = x := by omega
    rw [this]; rfl

theorem rnd53_of_small {x : Int} (h1 : -B53 < x) (h2 : x < B53) : rnd53 x = x := by
  unfold B53 at h1 h2
  unfold rnd53
  have hm : x.natAbs < 2 ^ 53 := by omega
  rw [rndNat_of_lt hm]
  split <;> omega

theorem finiteDouble_of_lt {m k : Nat} (hk : k ≤ 1024) (h : m < 2 ^ k) : finiteDouble m = true := by
  unfold finiteDouble
  by_cases h0 : m = 0
  · subst h0; simp
  · have := (Nat.log2_lt h0).mpr h
    simp; omega

theorem toDouble_of_small {x : Int} (h1 : -B53 < x) (h2 : x < B53) : toDouble x = .ok x := by
  unfold toDouble
  simp only [rnd53_of_small h1 h2]
  have : finiteDouble x.natAbs = true := by
    apply finiteDouble_of_lt (k := 53) (by decide)
    unfold B53 at h1 h2
    omega
  rw [if_pos this]

theorem mulFloat_of_small {t k : Int} (h1 : -B53 < t) (h2 : t < B53) (h3 : -B53 < t * k) (h4 : t * k < B53) :
    mulFloat t k = .ok (t * k) := by
  unfold mulFloat
  rw [toDouble_of_small h1 h2]
  simp only [bind, Except.bind]
  exact toDouble_of_small h3 h4

theorem toDouble_error {x : Int} {c : String} (h : toDouble x = .error c) : c = "OverflowError" := by
  by_cases hc : finiteDouble (rnd53 x).natAbs = true
  · simp [toDouble, hc] at h
  · have hc' : finiteDouble (rnd53 x).natAbs = false := by simpa using hc
    simp only [toDouble, hc', Bool.false_eq_true, if_false, Except.error.injEq] at h; exact h.symm

theorem mulFloat_error {t k : Int} {c : String} (h : mulFloat t k = .error c) : c = "OverflowError" := by
  unfold mulFloat at h
  cases h1 : toDouble t with
  | error e =>
    rw [h1] at h
    simp only [bind, Except.bind, Except.error.injEq] at h
    subst h; exact toDouble_error h1
  | ok v =>
    rw [h1] at h
    simp only [bind, Except.bind] at h
    exact toDouble_error h

theorem TUnit.factor_pos (u : TUnit) : 0 < u.factor := by cases u <;> decide

theorem TUnit.gt_iff (u v : TUnit) : u.gt v = true ↔ v.factor < u.factor := by
  cases u <;> cases v <;> decide

theorem TUnit.lt_iff (u v : TUnit) : u.lt v = true ↔ u.factor < v.factor := by
  cases u <;> cases v <;> decide

theorem TUnit.gt_eq_false {u v : TUnit} (h : u.factor ≤ v.factor) : u.gt v = false := by
  cases hg : u.gt v with
  | false => rfl
  | true => have := (TUnit.gt_iff u v).mp hg; omega

/-- `to` raises `ValueError` exactly for a coarser target unit — for every magnitude. -/
theorem to_valueError_iff (a : EventTime) (u : TUnit) :
    a.to u = .error "ValueError" ↔ a.unit.factor < u.factor := by
  unfold EventTime.to
  constructor
  · intro h
    split at h
    · rename_i hg; exact (TUnit.gt_iff _ _).mp hg
    · exfalso
      cases hm : mulFloat a.time (a.unit.factor / u.factor) with
      | error e =>
        rw [hm] at h
        simp only [bind, Except.bind, Except.error.injEq] at h
        have := mulFloat_error hm
        subst h; simp at this
      | ok v =>
        rw [hm] at h
        simp [bind, Except.bind] at h
  · intro h
    rw [if_pos ((TUnit.gt_iff _ _).mpr h)]

theorem to_exact (a : EventTime) (u : TUnit) (hs : Small a) (hu : u.factor ≤ a.unit.factor) :
    a.to u = .ok ⟨a.time * (a.unit.factor / u.factor), u⟩ ∧
      (a.time * (a.unit.factor / u.factor)) * u.factor = a.toUs := by
  obtain ⟨t, au⟩ := a
  unfold Small EventTime.toUs B53 at hs
  unfold EventTime.to EventTime.toUs
  simp only [TUnit.gt_eq_false hu, Bool.false_eq_true, if_false]
  cases au <;> cases u <;> simp only [TUnit.factor] at hs hu ⊢ <;>
    first
    | omega
    | (constructor
       · rw [mulFloat_of_small (by unfold B53; omega) (by unfold B53; omega) (by unfold B53; omega) (by unfold B53; omega)]
         rfl
       · omega)

/-- 2^56: the coarser operand of a mixed-unit `+` is a multiple of 1000 µs, hence still a
double up to here. -/
def B56 : Int := 72057594037927936

/-- Magnitude below 2^56 µs (sums of a few `Small` values are `Wide`). -/
def Wide (a : EventTime) : Prop := -B56 < a.toUs ∧ a.toUs < B56

theorem Small.wide {a : EventTime} (h : Small a) : Wide a := by
  unfold Small B53 at h; unfold Wide B56; omega

theorem toDouble_mul_pow (x : Int) (s : Nat) (h : x.natAbs < 2 ^ 53) (hb : (x * 2 ^ s).natAbs < 2 ^ 56) :
    toDouble (x * 2 ^ s) = .ok (x * 2 ^ s) := by
  unfold toDouble
  simp only [rnd53_mul_pow x s h]
  rw [if_pos (finiteDouble_of_lt (k := 56) (by decide) hb)]

theorem to_exact_wide (a : EventTime) (u : TUnit) (hw : Wide a) (hu : u.factor < a.unit.factor) :
    a.to u = .ok ⟨a.time * (a.unit.factor / u.factor), u⟩ ∧
      (a.time * (a.unit.factor / u.factor)) * u.factor = a.toUs := by
  obtain ⟨t, au⟩ := a
  unfold Wide EventTime.toUs B56 at hw
  unfold EventTime.to EventTime.toUs
  simp only [TUnit.gt_eq_false (Int.le_of_lt hu), Bool.false_eq_true, if_false]
  cases au <;> cases u <;> simp only [TUnit.factor] at hw hu ⊢ <;> try omega
  · -- MS → US
    refine ⟨?_, by omega⟩
    unfold mulFloat
    rw [toDouble_of_small (by unfold B53; omega) (by unfold B53; omega)]
    simp only [bind, Except.bind]
    have e : t * (1000 / 1) = (t * 125) * 2 ^ 3 := by omega
    rw [e, toDouble_mul_pow _ _ (by omega) (by omega)]
  · -- S → US
    refine ⟨?_, by omega⟩
    unfold mulFloat
    rw [toDouble_of_small (by unfold B53; omega) (by unfold B53; omega)]
    simp only [bind, Except.bind]
    have e : t * (1000000 / 1) = (t * 15625) * 2 ^ 6 := by omega
    rw [e, toDouble_mul_pow _ _ (by omega) (by omega)]
  · -- S → MS
    refine ⟨?_, by omega⟩
    rw [mulFloat_of_small (by unfold B53; omega) (by unfold B53; omega) (by unfold B53; omega) (by unfold B53; omega)]
    rfl

theorem wide_neg {a : EventTime} (h : Wide a) : Wide ⟨-a.time, a.unit⟩ := by
  unfold Wide EventTime.toUs at *
  simp only [Int.neg_mul]
  omega

theorem add_exact (a b : EventTime) (ha : Wide a) (hb : Wide b) :
    ∃ c, a.add b = .ok c ∧ c.toUs = a.toUs + b.toUs ∧
      c.unit = (if a.unit.factor ≤ b.unit.factor then a.unit else b.unit) := by
  unfold EventTime.add
  by_cases hu : a.unit = b.unit
  · rw [if_pos hu]
    refine ⟨_, rfl, ?_, by simp [hu]⟩
    simp only [EventTime.toUs, hu, Int.add_mul]
  · rw [if_neg hu]
    by_cases hl : a.unit.lt b.unit = true
    · rw [if_pos hl]
      have hf := (TUnit.lt_iff _ _).mp hl
      obtain ⟨e1, e2⟩ := to_exact_wide b a.unit hb hf
      rw [e1]
      refine ⟨_, rfl, ?_, by simp [Int.le_of_lt hf]⟩
      simp only [EventTime.toUs, Int.add_mul] at e2 ⊢
      rw [e2]
    · rw [if_neg hl]
      have hf : b.unit.factor < a.unit.factor := by
        have : ¬ a.unit.factor < b.unit.factor := fun h => hl ((TUnit.lt_iff _ _).mpr h)
        have : a.unit.factor ≠ b.unit.factor := by
          revert hu; cases a.unit <;> cases b.unit <;> simp [TUnit.factor]
        omega
      obtain ⟨e1, e2⟩ := to_exact_wide a b.unit ha hf
      rw [e1]
      refine ⟨_, rfl, ?_, by simp [Int.not_le.mpr hf]⟩
      simp only [EventTime.toUs, Int.add_mul] at e2 ⊢
      rw [e2]

theorem sub_exact (a b : EventTime) (ha : Wide a) (hb : Wide b) :
    ∃ c, a.sub b = .ok c ∧ c.toUs = a.toUs - b.toUs := by
  obtain ⟨c, h1, h2, -⟩ := add_exact a ⟨-b.time, b.unit⟩ ha (wide_neg hb)
  refine ⟨c, h1, ?_⟩
  rw [h2]; simp only [EventTime.toUs, Int.neg_mul]; omega

/-- The sign of `(a - b).time` is the sign of the µs difference (the unit factor is positive). -/
theorem sub_time_sign (a b : EventTime) (ha : Wide a) (hb : Wide b) :
    ∃ c, a.sub b = .ok c ∧ (c.time = 0 ↔ a.toUs = b.toUs) ∧ (c.time < 0 ↔ a.toUs < b.toUs) := by
  obtain ⟨c, h1, h2⟩ := sub_exact a b ha hb
  have h2 : c.time * c.unit.factor = a.toUs - b.toUs := h2
  have hp := TUnit.factor_pos c.unit
  have hz := Int.mul_eq_zero (a := c.time) (b := c.unit.factor)
  have hn := Int.mul_nonneg_iff_of_pos_right (a := c.time) hp
  exact ⟨c, h1, by omega, by omega⟩

theorem eq_exact (a b : EventTime) (ha : Wide a) (hb : Wide b) :
    a.eq b = .ok (decide (a.toUs = b.toUs)) := by
  obtain ⟨c, h1, h2, -⟩ := sub_time_sign a b ha hb
  simp only [EventTime.eq, h1, bind, Except.bind, ← h2]
  rfl

theorem lt_exact (a b : EventTime) (ha : Wide a) (hb : Wide b) :
    a.lt b = .ok (decide (a.toUs < b.toUs)) := by
  obtain ⟨c, h1, -, h3⟩ := sub_time_sign a b ha hb
  simp only [EventTime.lt, h1, bind, Except.bind, ← h3]

theorem ne_exact (a b : EventTime) (ha : Wide a) (hb : Wide b) :
    a.ne b = .ok (decide (a.toUs ≠ b.toUs)) := by
  simp [EventTime.ne, eq_exact a b ha hb, bind, Except.bind]

theorem le_exact (a b : EventTime) (ha : Wide a) (hb : Wide b) :
    a.le b = .ok (decide (a.toUs ≤ b.toUs)) := by
  simp only [EventTime.le, lt_exact a b ha hb, eq_exact a b ha hb, bind, Except.bind]
  by_cases h : a.toUs < b.toUs <;> simp [h] <;> omega

theorem gt_exact (a b : EventTime) (ha : Wide a) (hb : Wide b) :
    a.gt b = .ok (decide (b.toUs < a.toUs)) := by
  simp only [EventTime.gt, lt_exact a b ha hb, ne_exact a b ha hb, bind, Except.bind]
  by_cases h : a.toUs < b.toUs <;> by_cases h' : a.toUs = b.toUs <;> simp [h, h'] <;> omega

theorem ge_exact (a b : EventTime) (ha : Wide a) (hb : Wide b) :
    a.ge b = .ok (decide (b.toUs ≤ a.toUs)) := by
  simp only [EventTime.ge, lt_exact a b ha hb, bind, Except.bind]
  by_cases h : a.toUs < b.toUs <;> simp [h] <;> omega

theorem hash_exact (a : EventTime) (ha : Small a) : a.hash = .ok a.toUs := by
  unfold EventTime.hash
  have hu : TUnit.US.factor ≤ a.unit.factor := by
    have := TUnit.factor_pos a.unit
    show (1 : Int) ≤ a.unit.factor
    omega
  obtain ⟨e1, e2⟩ := to_exact a .US ha hu
  rw [e1]
  simp only [bind, Except.bind, Except.ok.injEq]
  simpa [TUnit.factor] using e2

theorem min_exact (a b : EventTime) (ha : Wide a) (hb : Wide b) :
    ∃ c, a.min b = .ok c ∧ c.toUs = min a.toUs b.toUs := by
  simp only [EventTime.min, lt_exact b a hb ha, bind, Except.bind]
  by_cases h : b.toUs < a.toUs <;> simp [h] <;> omega

theorem max_exact (a b : EventTime) (ha : Wide a) (hb : Wide b) :
    ∃ c, a.max b = .ok c ∧ c.toUs = max a.toUs b.toUs := by
  simp only [EventTime.max, gt_exact b a hb ha, bind, Except.bind]
  by_cases h : a.toUs < b.toUs <;> simp [h] <;> omega

end ErdosVerif.Model.Time
