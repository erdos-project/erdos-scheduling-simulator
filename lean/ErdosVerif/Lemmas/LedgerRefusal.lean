import ErdosVerif.Lemmas.LedgerInv
/-!
Exact-state lemmas: a refused request changes nothing; deallocation undoes an
allocation exactly. Core Lean only.
-/
namespace ErdosVerif.Model

section AListMore
variable {κ υ : Type} [DecidableEq κ]

theorem AList.set_set (l : AList κ υ) (k : κ) (v w : υ) :
    AList.set (AList.set l k v) k w = AList.set l k w := by
  fun_induction AList.set l k v <;> simp_all [AList.set]

theorem AList.set_of_get? (l : AList κ υ) (k : κ) (v : υ) (h : AList.get? l k = some v) :
    AList.set l k v = l := by
  fun_induction AList.get? l k <;> simp_all [AList.set]

theorem AList.erase_set_of_not_mem (l : AList κ υ) (k : κ) (v : υ) (h : k ∉ AList.keys l) :
    AList.erase (AList.set l k v) k = l := by
  fun_induction AList.set l k v <;> simp_all [AList.erase]

theorem AList.get?_set_self (l : AList κ υ) (k : κ) (v : υ) :
    AList.get? (AList.set l k v) k = some v := by
  rw [AList.get?_set]; simp

end AListMore

namespace Resources

theorem allocate_refused (r : Resources) (k : Res) (c : Comp) (q : Nat)
    (h : (r.allocate k c q).2 ≠ .ok) : (r.allocate k c q).1 = r := by
  unfold allocate at h ⊢
  split
  · rfl
  · rename_i hlt; simp [hlt] at h

theorem deallocate_refused (r : Resources) (c : Comp)
    (h : (r.deallocate c).2 ≠ .ok) : (r.deallocate c).1 = r := by
  unfold deallocate at h ⊢
  split
  · rfl
  · rename_i l hg; simp [hg] at h

/-- `b` is `a` after some successful allocations to `c` that recorded `recs`. -/
structure Ext (c : Comp) (a b : Resources) (recs : List (Res × Nat)) : Prop where
  total : b.total = a.total
  keys : AList.keys b.avail = AList.keys a.avail
  qty : ∀ x, getQ b.avail x + pairsAt recs x = getQ a.avail x
  allocs : b.allocs = AList.set a.allocs c ((AList.get? a.allocs c).getD [] ++ recs)
  recsKeys : ∀ p ∈ recs, p.1 ∈ AList.keys a.avail

theorem Ext.refl (c : Comp) (a : Resources) (l : List (Res × Nat)) (h : AList.get? a.allocs c = some l) :
    Ext c a a [] :=
  ⟨rfl, rfl, fun _ => by simp, by simp [h, AList.set_of_get? _ _ _ h], by simp⟩

theorem Ext.trans {c : Comp} {a b d : Resources} {r1 r2 : List (Res × Nat)}
    (h1 : Ext c a b r1) (h2 : Ext c b d r2) : Ext c a d (r1 ++ r2) := by
  refine ⟨h2.total.trans h1.total, h2.keys.trans h1.keys, ?_, ?_, ?_⟩
  · intro x
    have := h1.qty x; have := h2.qty x
    rw [pairsAt_append]; omega
  · rw [h2.allocs, h1.allocs, AList.get?_set_self, AList.set_set]
    simp [List.append_assoc]
  · intro p hp
    rcases List.mem_append.mp hp with hp | hp
    · exact h1.recsKeys p hp
    · exact h1.keys ▸ h2.recsKeys p hp

theorem ext_allocate (r : Resources) (k : Res) (c : Comp) (q : Nat)
    (hnd : (AList.keys r.avail).Nodup) (hok : (r.allocate k c q).2 = .ok) :
    Ext c r (r.allocate k c q).1 (scan k r.avail q).2 := by
  unfold allocate at hok ⊢
  split
  · rename_i hlt; simp [hlt] at hok
  · refine ⟨rfl, scan_keys _ _ _, scan_conserve k r.avail q hnd, rfl, ?_⟩
    intro p hp; exact (scan_recorded k r.avail q p hp).1

/-- What `allocateEach` has done when it stops (successfully or not). -/
theorem ext_allocateEach (r : Resources) (c : Comp) (req : Vec) (hnd : (AList.keys r.avail).Nodup)
    (l : List (Res × Nat)) (hl : AList.get? r.allocs c = some l) :
    ∃ recs, Ext c r (r.allocateEach c req).1 recs := by
  fun_induction allocateEach r c req generalizing l with
  | case1 r => exact ⟨[], Ext.refl c r l hl⟩
  | case2 r k q rest r' hres ih =>
    have e1 := ext_allocate r k c q hnd (by rw [hres])
    rw [hres] at e1
    obtain ⟨recs, e2⟩ := ih (e1.keys ▸ hnd) _ (by rw [e1.allocs, AList.get?_set_self, hl])
    exact ⟨_, e1.trans e2⟩
  | case3 r k q rest r' e hne hres =>
    -- the allocation that raised changed nothing
    obtain rfl : r' = r := by
      have := allocate_refused r k c q (by rw [hres]; exact hne)
      rwa [hres] at this
    exact ⟨[], Ext.refl c _ l hl⟩

theorem Ext.giveBack_avail {c : Comp} {a b : Resources} {recs : List (Res × Nat)} (e : Ext c a b recs)
    (hnd : (AList.keys a.avail).Nodup) : giveBack b.avail recs = a.avail := by
  have hk := giveBack_keys _ _ (fun p hp => e.keys ▸ e.recsKeys p hp)
  apply vec_ext
  · rw [hk]; exact e.keys
  · rw [hk, e.keys]; exact hnd
  · intro x; rw [giveBack_getQ]; exact e.qty x

/-- The second phase of `allocate_multiple`, started on the touched ledger. -/
theorem ext_allocateEach_touched (r : Resources) (c : Comp) (req : Vec) (hnd : (AList.keys r.avail).Nodup) :
    ∃ recs, Ext c { r with allocs := record r.allocs c [] }
      (allocateEach { r with allocs := record r.allocs c [] } c req).1 recs :=
  ext_allocateEach { r with allocs := record r.allocs c [] } c req hnd ((AList.get? r.allocs c).getD [])
    (by simp [record, AList.get?_set_self])

theorem allocateMultiple_refused (r : Resources) (req : Vec) (c : Comp) (h : r.Inv)
    (hr : (r.allocateMultiple req c).2 ≠ .ok) : (r.allocateMultiple req c).1 = r := by
  unfold allocateMultiple at hr ⊢
  split
  · rename_i hchk
    simp only [hchk, if_true] at hr
    obtain ⟨recs, e⟩ := ext_allocateEach_touched r c req (h.keys_eq ▸ h.nodup)
    cases hres : allocateEach { r with allocs := record r.allocs c [] } c req with
    | mk r' o =>
      rw [hres] at e hr
      cases o with
      | ok => simp at hr
      | raised err =>
        simp only at e ⊢
        -- the ledger entry of `c` in `r'` is the old one followed by `recs`
        have hget : AList.get? r'.allocs c = some ((AList.get? r.allocs c).getD [] ++ recs) := by
          rw [e.allocs]; simp [record, AList.get?_set_self]
        have hdrop : (((AList.get? r'.allocs c).getD []).drop ((AList.get? r.allocs c).getD []).length) = recs := by
          simp [hget]
        have htake : (((AList.get? r'.allocs c).getD []).take ((AList.get? r.allocs c).getD []).length) =
            (AList.get? r.allocs c).getD [] := by
          simp [hget]
        have havail : giveBack r'.avail recs = r.avail := e.giveBack_avail (h.keys_eq ▸ h.nodup)
        have hallocs : (if AList.has r.allocs c = true then AList.set r'.allocs c ((AList.get? r.allocs c).getD [])
            else AList.erase r'.allocs c) = r.allocs := by
          rw [e.allocs]
          simp only [record, AList.set_set]
          cases hg : AList.get? r.allocs c with
          | none =>
            have hnm : c ∉ AList.keys r.allocs := fun hm => by
              have := AList.get?_isSome_of_mem _ _ hm; simp [hg] at this
            simp [AList.has, hg, AList.erase_set_of_not_mem _ _ _ hnm]
          | some l0 => simp [AList.has, hg, AList.set_of_get? _ _ _ hg]
        have htot : r'.total = r.total := e.total
        cases r' with
        | mk av tot al =>
          cases r with
          | mk av0 tot0 al0 =>
            simp only at htot havail hallocs hdrop htake ⊢
            simp only [hdrop, htake, havail, hallocs, htot]
  · rfl

theorem deallocate_allocateMultiple (r : Resources) (req : Vec) (c : Comp) (h : r.Inv)
    (hc : c ∉ AList.keys r.allocs) (hok : (r.allocateMultiple req c).2 = .ok) :
    (r.allocateMultiple req c).1.deallocate c = (r, .ok) := by
  unfold allocateMultiple at hok ⊢
  split
  · rename_i hchk
    simp only [hchk, if_true] at hok
    have hnone : AList.get? r.allocs c = none := AList.get?_eq_none_of_not_mem _ _ hc
    obtain ⟨recs, e⟩ := ext_allocateEach_touched r c req (h.keys_eq ▸ h.nodup)
    cases hres : allocateEach { r with allocs := record r.allocs c [] } c req with
    | mk r' o =>
      rw [hres] at e hok
      cases o with
      | raised err => simp at hok
      | ok =>
        simp only at e ⊢
        have hget : AList.get? r'.allocs c = some recs := by
          rw [e.allocs]; simp [record, AList.get?_set_self, hnone]
        have havail : giveBack r'.avail recs = r.avail := e.giveBack_avail (h.keys_eq ▸ h.nodup)
        have hallocs : AList.erase r'.allocs c = r.allocs := by
          rw [e.allocs]
          simp only [record, AList.set_set]
          exact AList.erase_set_of_not_mem _ _ _ hc
        have htot : r'.total = r.total := e.total
        simp only [deallocate, hget]
        cases r' with
        | mk av tot al =>
          cases r with
          | mk av0 tot0 al0 =>
            simp only at htot havail hallocs ⊢
            simp only [havail, hallocs, htot]
  · rename_i hchk; simp [hchk] at hok

theorem empty_full (r : Resources) (h : r.Inv) (he : r.allocs = []) : r.avail = r.total := by
  apply vec_ext
  · exact h.keys_eq
  · rw [h.keys_eq]; exact h.nodup
  · intro x; have := h.conserve x; simp [he] at this; exact this

end Resources
end ErdosVerif.Model
