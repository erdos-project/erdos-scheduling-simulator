/-
`Event.lt` (`Event.__lt__`) is a strict weak order on well-formed events (`Event.lt_swo`: by time, then `Event.lt₂`);
the `EventQueue` model keeps a heap of well-formed events under every operation (`EventQueue.Good`, `good_apply`),
and `next` returns a minimum.
-/
import ErdosVerif.Model.Event
import ErdosVerif.Lemmas.MinLoop

namespace ErdosVerif.Model

/-- Well-formed relative to `ht`: whether an event carries a task is decided by its type
(the simulator creates tasks exactly for the six `TASK_*` types of `Event.__init__`). -/
def Event.WF (ht : Nat → Bool) (e : Event) : Prop := e.task.isSome = ht e.etype

instance (ht : Nat → Bool) (e : Event) : Decidable (Event.WF ht e) := by unfold Event.WF; infer_instance

theorem Event.lt_iff (a b : Event) :
    Event.lt a b = true ↔
      a.time < b.time ∨ (a.time = b.time ∧ (a.etype < b.etype ∨
        (a.etype = b.etype ∧ ∃ x y, a.task = some x ∧ b.task = some y ∧ x < y))) := by
  unfold Event.lt
  by_cases ht : a.time = b.time
  · simp only [ht, beq_self_eq_true, if_true]
    by_cases he : a.etype = b.etype
    · simp only [he, beq_self_eq_true]
      cases hta : a.task <;> cases htb : b.task <;> simp
    · have : (a.etype == b.etype) = false := by simpa using he
      simp only [this]
      simp [he]
  · have : (a.time == b.time) = false := by simpa using ht
    simp [this, ht]

/-- Among events of one instant: by type, and among events of one type that carry a task, by its name. This is the
inner `match` of `Event.lt` written out again (`Event.lt_swo` identifies the two by unfolding): a change of the
tie-break in `Model/Event.lean` has to be repeated here. -/
def Event.lt₂ (a b : Event) : Bool :=
  match a.etype == b.etype, a.task, b.task with
  | true, some x, some y => decide (x < y)
  | _, _, _ => decide (a.etype < b.etype)

theorem Event.lt₂_eq_false {ht : Nat → Bool} {a b : Event} (wa : Event.WF ht a) (wb : Event.WF ht b) :
    Event.lt₂ a b = false ↔
      b.etype < a.etype ∨ (a.etype = b.etype ∧ ∀ x y, a.task = some x → b.task = some y → y ≤ x) := by
  unfold Event.lt₂
  by_cases e : a.etype = b.etype
  · have hs : a.task.isSome = b.task.isSome := by rw [wa, wb, e]
    cases ha : a.task <;> cases hb : b.task <;> simp [e, ha, hb, String.not_lt] at hs ⊢
  · have : (a.etype == b.etype) = false := by simpa using e
    simp [this, e]; omega

theorem Event.lt₂_swo (ht : Nat → Bool) : Heap.SWO Event.lt₂ (Event.WF ht) where
  asymm {x y} wx wy h := by
    rw [Event.lt₂_eq_false wy wx]
    unfold Event.lt₂ at h
    by_cases e : x.etype = y.etype
    · refine .inr ⟨e.symm, fun b a hb ha => ?_⟩
      simp only [e, ha, hb, beq_self_eq_true, decide_eq_true_eq] at h
      exact String.not_lt.mp (String.lt_asymm h)
    · have : (x.etype == y.etype) = false := by simpa using e
      simp only [this, decide_eq_true_eq] at h
      exact .inl h
  le_trans {x y z} wx wy wz h1 h2 := by
    rw [Event.lt₂_eq_false wy wx] at h1
    rw [Event.lt₂_eq_false wz wy] at h2
    rw [Event.lt₂_eq_false wz wx]
    rcases h1 with h1 | ⟨e1, h1⟩ <;> rcases h2 with h2 | ⟨e2, h2⟩
    · exact .inl (by omega)
    · exact .inl (by omega)
    · exact .inl (by omega)
    · refine .inr ⟨by omega, fun c a hc ha => ?_⟩
      have hy : y.task.isSome = true := by rw [wy, e1, ← wx]; simp [ha]
      obtain ⟨b, hb⟩ := Option.isSome_iff_exists.mp hy
      exact String.le_trans (h1 b a hb ha) (h2 c b hc hb)

theorem Event.lt_swo (ht : Nat → Bool) : Heap.SWO Event.lt (Event.WF ht) :=
  Heap.SWO.lex (fun e : Event => e.time) (Event.lt₂_swo ht)

namespace EventQueue
open Heap

def Good (ht : Nat → Bool) (q : EventQueue) : Prop :=
  AllP (Event.WF ht) q ∧ HeapFrom Event.lt q 0

theorem good_empty (ht : Nat → Bool) : Good ht empty :=
  ⟨fun i h => by simp [empty] at h, fun j hj => by simp [empty] at hj⟩

theorem good_add {ht : Nat → Bool} {q : EventQueue} {e : Event} (h : Good ht q) (he : Event.WF ht e) :
    Good ht (q.addEvent e) :=
  Heap.Good.push (Event.lt_swo ht) h he

theorem good_reheapify {ht : Nat → Bool} {q : EventQueue} (h : AllP (Event.WF ht) q) :
    Good ht q.reheapify :=
  Heap.Good.heapify (Event.lt_swo ht) h

theorem list_eraseIdx_perm {α : Type} (l : List α) (i : Nat) (h : i < l.length) :
    (l[i] :: l.eraseIdx i).Perm l := by
  induction l generalizing i with
  | nil => simp at h
  | cons x xs ih =>
    cases i with
    | zero => simp
    | succ i =>
      simp only [List.getElem_cons_succ, List.eraseIdx_cons_succ]
      exact (List.Perm.swap x _ _).trans ((ih i (by simpa using h)).cons x)

/-- What `remove_event` does to the contents: exactly the first entry with that identity leaves. -/
theorem removeEvent_spec {q q' : EventQueue} {eid : Nat} (h : q.removeEvent eid = .ok q') :
    ∃ (i : Nat) (hi : i < q.size), q[i].eid = eid ∧ (∀ j (hj : j < i), q[j].eid ≠ eid) ∧
      q' = reheapify (q.eraseIdx i hi) ∧ (q'.push q[i]).Perm q := by
  unfold removeEvent at h
  split at h
  · cases h
  · rename_i i hfind
    obtain ⟨hi, hp, hfirst⟩ := Array.findIdx?_eq_some_iff_getElem.mp hfind
    simp only [Except.ok.injEq] at h
    rw [Array.eraseIdxIfInBounds_eq, dif_pos hi] at h
    refine ⟨i, hi, by simpa using hp, ?_, h.symm, ?_⟩
    · intro j hj; simpa using hfirst j hj
    · subst h
      refine ((heapify_perm Event.lt (q.eraseIdx i hi)).push q[i]).trans ?_
      rw [Array.perm_iff_toList_perm]
      simp only [Array.toList_push, Array.toList_eraseIdx]
      have hl := list_eraseIdx_perm q.toList i (by simpa using hi)
      rw [Array.getElem_toList] at hl
      exact (List.perm_append_comm (l₁ := q.toList.eraseIdx i) (l₂ := [q[i]])).trans hl

theorem removeEvent_error {q : EventQueue} {eid : Nat} {c : String} (h : q.removeEvent eid = .error c) :
    c = "ValueError" ∧ ∀ e ∈ q, e.eid ≠ eid := by
  unfold removeEvent at h
  split at h
  · rename_i hnone
    simp only [Except.error.injEq] at h
    refine ⟨h.symm, ?_⟩
    intro e he
    have := Array.findIdx?_eq_none_iff.mp hnone e he
    simpa using this
  · cases h

theorem good_remove {ht : Nat → Bool} {q q' : EventQueue} {eid : Nat} (h : Good ht q)
    (hr : q.removeEvent eid = .ok q') : Good ht q' := by
  obtain ⟨i, hi, -, -, rfl, -⟩ := removeEvent_spec hr
  exact good_reheapify (h.1.mono fun _ hy => Array.mem_of_mem_eraseIdx hy)

theorem allP_retime {ht : Nat → Bool} {q : EventQueue} (h : AllP (Event.WF ht) q) (eid : Nat) (t : Int) :
    AllP (Event.WF ht) (q.retime eid t) := by
  rw [allP_iff_mem] at *
  intro y hy
  unfold retime at hy
  obtain ⟨x, hx, rfl⟩ := Array.mem_map.mp hy
  have := h x hx
  split
  · simpa [Event.WF] using this
  · exact this

theorem good_retimeReheapify {ht : Nat → Bool} {q : EventQueue} (h : AllP (Event.WF ht) q)
    (eid : Nat) (t : Int) : Good ht (q.retimeReheapify eid t) :=
  good_reheapify (allP_retime h eid t)

theorem next_eq {q : EventQueue} {x : Event} {q' : EventQueue} (h : q.next = .ok (x, q')) :
    heappop Event.lt q = some (x, q') := by
  unfold next at h
  split at h
  · cases h
  · rename_i r hr
    simp only [Except.ok.injEq] at h
    rw [hr, h]

theorem next_error {q : EventQueue} {c : String} (h : q.next = .error c) : c = "IndexError" ∧ q.size = 0 := by
  unfold next at h
  split at h
  · rename_i hnone
    simp only [Except.error.injEq] at h
    exact ⟨h.symm, (heappop_eq_none_iff q).mp hnone⟩
  · cases h

theorem good_next {ht : Nat → Bool} {q : EventQueue} {x : Event} {q' : EventQueue} (h : Good ht q)
    (hn : q.next = .ok (x, q')) : Good ht q' :=
  (Heap.Good.pop (Event.lt_swo ht) h (next_eq hn)).1

theorem good_apply {ht : Nat → Bool} {q : EventQueue} (h : Good ht q) (op : QOp)
    (hop : ∀ e, op = .add e → Event.WF ht e) : Good ht (op.apply q) := by
  cases op with
  | add e => exact good_add h (hop e rfl)
  | remove eid =>
    simp only [QOp.apply]
    split
    · rename_i q' hr; exact good_remove h hr
    · exact h
  | retime eid t => exact good_retimeReheapify h.1 eid t
  | reheapify => exact good_reheapify h.1
  | pop =>
    simp only [QOp.apply]
    split
    · rename_i r hr
      exact good_next (x := r.1) (q' := r.2) h hr
    · exact h

theorem good_foldl {ht : Nat → Bool} (ops : List QOp) (q : EventQueue) (h : Good ht q)
    (hops : ∀ e, QOp.add e ∈ ops → Event.WF ht e) : Good ht (ops.foldl QOp.apply q) := by
  induction ops generalizing q with
  | nil => exact h
  | cons op ops ih =>
    simp only [List.foldl_cons]
    apply ih
    · exact good_apply h op (fun e he => hops e (by simp [he]))
    · intro e he; exact hops e (by simp [he])

theorem good_run {ht : Nat → Bool} (ops : List QOp) (hops : ∀ e, QOp.add e ∈ ops → Event.WF ht e) :
    Good ht (run ops) :=
  good_foldl ops empty (good_empty ht) hops

theorem next_min {ht : Nat → Bool} {q : EventQueue} {x : Event} {q' : EventQueue} (h : Good ht q)
    (hn : q.next = .ok (x, q')) : ∀ y ∈ q', Event.lt y x = false :=
  Heap.Good.pop_min (Event.lt_swo ht) h (next_eq hn)

theorem peek_min {ht : Nat → Bool} {q : EventQueue} {x : Event} (h : Good ht q)
    (hp : q.peek = some x) : ∀ y ∈ q, Event.lt y x = false := by
  intro y hy
  unfold peek at hp
  obtain ⟨j, hj, rfl⟩ := Array.getElem_of_mem hy
  have h0 : 0 < q.size := by omega
  have : x = q[0] := by
    rw [Array.getElem?_eq_getElem h0] at hp; exact (Option.some.inj hp).symm
  subst this
  exact root_min (Event.lt_swo ht) q h.1 h.2 j hj

theorem nextOfType_min {ht : Nat → Bool} {q : EventQueue} {x : Event} {t : Nat}
    (h : AllP (Event.WF ht) q) (hx : q.nextOfType t = some x) :
    x ∈ q ∧ x.etype = t ∧ ∀ y ∈ q, y.etype = t → Event.lt y x = false := by
  unfold nextOfType at hx
  have hP : ∀ e ∈ q.toList.filter (fun e => e.etype == t), Event.WF ht e := by
    intro e he
    exact (allP_iff_mem.mp h) e (by simpa using (List.mem_filter.mp he).1)
  obtain ⟨hm, hmin⟩ := minFirst_spec (Event.lt_swo ht) _ hP x hx
  have hm' := List.mem_filter.mp hm
  refine ⟨by simpa using hm'.1, by simpa using hm'.2, ?_⟩
  intro y hy hyt
  exact hmin y (List.mem_filter.mpr ⟨by simpa using hy, by simpa using hyt⟩)

end EventQueue

end ErdosVerif.Model
