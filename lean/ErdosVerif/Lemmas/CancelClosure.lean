import ErdosVerif.Model.TaskGraph
/-!
`TaskGraph.cancel` is closed downstream: when the walk ends normally, every
child of a task it cancelled is cancelled too, unless that child is a terminal
(join) task that still has a parent which is not cancelled.

What `cancel`, `cancelBranches` and `notify_task_completion` do to the task table is the relation
`Edit`: single writes, each a successful `Task.cancel` or a new `prob` for the spared branch.
Whatever these two writes keep, the three operations keep (`cancel_edit`, `cancelBranches_edit`,
`notifyCompletion_edit`); the frame `cancel_frame` is the first such fact.
-/
namespace ErdosVerif.Model
namespace GraphS

/-- The half of "parent and child maps describe the same edges" that `cancel_closed` needs. -/
def EdgesWF (g : GraphS) : Prop := ∀ p k, p ∈ g.pars k → k ∈ g.kids p

theorem task?_setTask (g : GraphS) (c k : Nat) (t : TaskS) :
    (g.setTask c t).task? k = if k = c ∧ c < g.tasks.size then some t else g.task? k := by
  simp only [setTask, task?, Array.getElem?_setIfInBounds]
  by_cases h : c = k
  · subst h; by_cases h2 : c < g.tasks.size <;> simp [h2]
  · have : ¬ k = c := fun e => h e.symm
    simp [h, this]

theorem task?_setTask_of (g : GraphS) {c : Nat} {tc : TaskS} (h : g.task? c = some tc) (k : Nat)
    (t : TaskS) : (g.setTask c t).task? k = if k = c then some t else g.task? k := by
  have hlt : c < g.tasks.size := (Array.getElem?_eq_some_iff.mp h).1
  simp [task?_setTask, hlt]

theorem kids_setTask (g : GraphS) (c k : Nat) (t : TaskS) : (g.setTask c t).kids k = g.kids k := rfl
theorem pars_setTask (g : GraphS) (c k : Nat) (t : TaskS) : (g.setTask c t).pars k = g.pars k := rfl

theorem stateOf_setTask_ne (g : GraphS) (c k : Nat) (t : TaskS) (h : k ≠ c) :
    (g.setTask c t).stateOf k = g.stateOf k := by
  simp only [stateOf, task?_setTask, h, false_and, if_false]

theorem stateOf_setTask_self (g : GraphS) (c : Nat) (t tc : TaskS) (h : g.task? c = some tc) :
    (g.setTask c t).stateOf c = t.state := by
  simp [stateOf, task?_setTask_of g h]

def terminalOf (g : GraphS) (k : Nat) : Bool := ((g.task? k).map (·.terminal)).getD false

theorem terminalOf_setTask (g : GraphS) (c k : Nat) (t tc : TaskS) (h : g.task? c = some tc)
    (ht : t.terminal = tc.terminal) : (g.setTask c t).terminalOf k = g.terminalOf k := by
  simp only [terminalOf, task?_setTask_of g h]
  split
  · next hk => simp [hk, h, ht]
  · rfl

def Cancellable (s : TState) : Prop := s = .virtual ∨ s = .released ∨ s = .scheduled

theorem doCancel_eq (t : TaskS) (time : Int) :
    (Cancellable t.state ∧ t.doCancel time =
      ({ t with cancelTime := some time, prob := 0, remaining := some 0, state := .cancelled }, none)) ∨
    (¬ Cancellable t.state ∧ t.doCancel time = (t, some .valueError)) := by
  unfold TaskS.doCancel Cancellable
  cases t.state <;> simp

theorem doCancel_ok (t : TaskS) (time : Int) (t' : TaskS) (h : t.doCancel time = (t', none)) :
    t'.state = .cancelled ∧ t'.terminal = t.terminal ∧ Cancellable t.state := by
  rcases doCancel_eq t time with ⟨hc, e⟩ | ⟨_, e⟩ <;> rw [e] at h <;> cases h
  exact ⟨rfl, rfl, hc⟩

/-- Induction principle for the cancellation walk: `Inv` is kept by the four ways the loop
continues, `Post` holds at the four ways it ends. -/
theorem cancel_go_induction (root : Nat) (time : Int)
    (Inv : GraphS → List Nat → List Nat → List Nat → Prop) (Post : CancelRes → Prop)
    (hfuel : ∀ g s v a, Inv g s v a → Post ⟨g, a.reverse, some .fuel⟩)
    (hdone : ∀ g v a, Inv g [] v a → Post ⟨g, a.reverse, none⟩)
    (hvisited : ∀ g c s v a, Inv g (c :: s) v a → c ∈ v → Inv g s v a)
    (hkey : ∀ g c s v a, Inv g (c :: s) v a → g.task? c = none → Post ⟨g, a.reverse, some .keyError⟩)
    (hprune : ∀ g c s v a tc, Inv g (c :: s) v a → c ∉ v → g.task? c = some tc → tc.terminal = true →
      c ≠ root → (∃ p ∈ g.pars c, g.stateOf p ≠ .cancelled) → Inv g s v a)
    (hskip : ∀ g c s v a tc, Inv g (c :: s) v a → c ∉ v → g.task? c = some tc →
      tc.state = .cancelled → Inv g s (c :: v) a)
    (hcancel : ∀ g c s v a tc t', Inv g (c :: s) v a → c ∉ v → g.task? c = some tc →
      tc.state ≠ .cancelled → tc.doCancel time = (t', none) →
      Inv (g.setTask c t') ((g.kids c).reverse ++ s) (c :: v) (c :: a))
    (hrefused : ∀ g c s v a tc t' e, Inv g (c :: s) v a → g.task? c = some tc →
      tc.doCancel time = (t', some e) → Post ⟨g.setTask c t', (c :: a).reverse, some e⟩) :
    ∀ fuel g s v a, Inv g s v a → Post (cancel.go root time fuel g s v a) := by
  intro fuel
  induction fuel with
  | zero => intro g s v a h; exact hfuel g s v a h
  | succ fuel ih =>
    intro g s v a h
    cases s with
    | nil => exact hdone g v a h
    | cons c s =>
      simp only [cancel.go]
      split
      · next hv => exact ih _ _ _ _ (hvisited g c s v a h (by simpa using hv))
      · next hv =>
        have hv : c ∉ v := by simpa using hv
        cases htc : g.task? c with
        | none => exact hkey g c s v a h htc
        | some tc =>
          simp only []
          split
          · next hp =>
            simp only [Bool.and_eq_true, Bool.not_eq_true', bne_iff_ne, ne_eq, List.all_eq_false,
              beq_iff_eq] at hp
            exact ih _ _ _ _ (hprune g c s v a tc h hv htc hp.1.1 hp.1.2 hp.2)
          · split
            · next hc => exact ih _ _ _ _ (hskip g c s v a tc h hv htc (by simpa using hc))
            · next hc =>
              cases hdc : tc.doCancel time with
              | mk t' e =>
                cases e with
                | none => exact ih _ _ _ _ (hcancel g c s v a tc t' h hv htc (by simpa using hc) hdc)
                | some e => exact hrefused g c s v a tc t' e h htc hdc

structure WalkInv (g0 : GraphS) (root : Nat) (g : GraphS) (stack visited acc : List Nat) : Prop where
  kidsEq : ∀ k, g.kids k = g0.kids k
  parsEq : ∀ k, g.pars k = g0.pars k
  termEq : ∀ k, g.terminalOf k = g0.terminalOf k
  visitedCancelled : ∀ v ∈ visited, g.stateOf v = .cancelled
  accVisited : ∀ c ∈ acc, c ∈ visited
  closure : ∀ c ∈ acc, ∀ k ∈ g0.kids c,
    k ∈ stack ∨ k ∈ visited ∨ (g0.terminalOf k = true ∧ k ≠ root ∧ ∃ p ∈ g0.pars k, g.stateOf p ≠ .cancelled)

def Closed (g0 : GraphS) (root : Nat) (r : CancelRes) : Prop :=
  ∀ c ∈ r.cancelled, ∀ k ∈ g0.kids c,
    r.g.stateOf k = .cancelled ∨
    (g0.terminalOf k = true ∧ k ≠ root ∧ ∃ p ∈ g0.pars k, r.g.stateOf p ≠ .cancelled)

/-- Popping `c` without touching the graph keeps the invariant when `c` is visited
afterwards or is a join that still has a live parent. -/
theorem WalkInv.pop {g0 g : GraphS} {root c : Nat} {stack visited visited' acc : List Nat}
    (inv : WalkInv g0 root g (c :: stack) visited acc) (hsub : ∀ x ∈ visited, x ∈ visited')
    (hcan : ∀ x ∈ visited', g.stateOf x = .cancelled)
    (hc : c ∈ visited' ∨
      (g0.terminalOf c = true ∧ c ≠ root ∧ ∃ p ∈ g0.pars c, g.stateOf p ≠ .cancelled)) :
    WalkInv g0 root g stack visited' acc :=
  { inv with
    visitedCancelled := hcan
    accVisited := fun a ha => hsub a (inv.accVisited a ha)
    closure := fun a ha k hk => by
      rcases inv.closure a ha k hk with h | h | h
      · rcases List.mem_cons.mp h with rfl | h
        · exact .inr hc
        · exact .inl h
      · exact .inr (.inl (hsub k h))
      · exact .inr (.inr h) }

/-- The requested task is never pruned, so it waits on the stack until it is visited: popping `c` as
in `WalkInv.pop` keeps that. -/
theorem rootIn_pop {g0 g : GraphS} {root c : Nat} {stack visited visited' : List Nat}
    (hr : root ∈ c :: stack ∨ root ∈ visited) (hsub : ∀ x ∈ visited, x ∈ visited')
    (hc : c ∈ visited' ∨
      (g0.terminalOf c = true ∧ c ≠ root ∧ ∃ p ∈ g0.pars c, g.stateOf p ≠ .cancelled)) :
    root ∈ stack ∨ root ∈ visited' :=
  hr.elim (fun h => (List.mem_cons.mp h).elim
    (fun e => hc.elim (fun h => .inr (e ▸ h)) fun h => absurd e.symm h.2.1) .inl) (fun h => .inr (hsub _ h))

theorem cancel_walk (g : GraphS) (n : Nat) (time : Int) (hwf : g.EdgesWF)
    (herr : (g.cancel n time).err = none) :
    Closed g n (g.cancel n time) ∧ (g.cancel n time).g.stateOf n = .cancelled := by
  refine cancel_go_induction n time (fun g' s v a => WalkInv g n g' s v a ∧ (n ∈ s ∨ n ∈ v))
    (fun r => r.err = none → Closed g n r ∧ r.g.stateOf n = .cancelled)
    (fun _ _ _ _ _ h => by cases h) ?done ?visited (fun _ _ _ _ _ _ _ h => by cases h)
    ?prune ?skip ?cancel (fun _ _ _ _ _ _ _ _ _ _ _ h => by cases h) _ g [n] [] []
    ⟨⟨fun _ => rfl, fun _ => rfl, fun _ => rfl, by simp, by simp, by simp⟩, .inl (by simp)⟩ herr
  case done =>
    intro g' v a ⟨inv, hr⟩ _
    refine ⟨fun c hc k hk => ?_, inv.visitedCancelled n (hr.resolve_left (by simp))⟩
    rcases inv.closure c (List.mem_reverse.mp hc) k hk with h | h | h
    · cases h
    · exact .inl (inv.visitedCancelled k h)
    · exact .inr h
  case visited =>
    intro g' c s v a ⟨inv, hr⟩ hv
    exact ⟨inv.pop (fun _ h => h) inv.visitedCancelled (.inl hv), rootIn_pop (g0 := g) (g := g') hr (fun _ h => h) (.inl hv)⟩
  case prune =>
    -- a join with a live parent: this path ends here, the join stays as it is
    intro g' c s v a tc ⟨inv, hr⟩ _ htc ht hne ⟨p, hp, hpn⟩
    have hc : g.terminalOf c = true ∧ c ≠ n ∧ ∃ p ∈ g.pars c, g'.stateOf p ≠ .cancelled :=
      ⟨by rw [← inv.termEq c]; simp [terminalOf, htc, ht], hne, p, inv.parsEq c ▸ hp, hpn⟩
    exact ⟨inv.pop (fun _ h => h) inv.visitedCancelled (.inr hc), rootIn_pop hr (fun _ h => h) (.inr hc)⟩
  case skip =>
    intro g' c s v a tc ⟨inv, hr⟩ _ htc hc
    refine ⟨inv.pop (fun _ h => List.mem_cons_of_mem _ h) ?_ (.inl List.mem_cons_self),
      rootIn_pop (g0 := g) (g := g') hr (fun _ h => List.mem_cons_of_mem _ h) (.inl List.mem_cons_self)⟩
    intro x hx
    rcases List.mem_cons.mp hx with rfl | hx
    · simp [stateOf, htc, hc]
    · exact inv.visitedCancelled x hx
  case cancel =>
    intro g' c s v a tc t' ⟨inv, hr⟩ _ htc _ hdc
    obtain ⟨hst', hterm', -⟩ := doCancel_ok tc time t' hdc
    have hstc : (g'.setTask c t').stateOf c = .cancelled := by
      rw [stateOf_setTask_self g' c t' tc htc]; exact hst'
    refine ⟨?_, (rootIn_pop (g0 := g) (g := g') hr (fun _ h => List.mem_cons_of_mem _ h)
      (.inl List.mem_cons_self)).imp_left (List.mem_append_right _)⟩
    refine {
      kidsEq := inv.kidsEq, parsEq := inv.parsEq
      termEq := fun k => by rw [terminalOf_setTask g' c k t' tc htc hterm']; exact inv.termEq k
      visitedCancelled := ?_, accVisited := ?_, closure := ?_ }
    · intro x hx
      rcases List.mem_cons.mp hx with rfl | hx
      · exact hstc
      · by_cases hxc : x = c
        · exact hxc ▸ hstc
        · rw [stateOf_setTask_ne g' c x t' hxc]; exact inv.visitedCancelled x hx
    · intro x hx
      rcases List.mem_cons.mp hx with rfl | hx
      · exact List.mem_cons_self
      · exact List.mem_cons_of_mem _ (inv.accVisited x hx)
    · intro x hx k hk
      -- `c` is cancelled and its children are pushed
      have hpush : ∀ k, k ∈ g.kids c → k ∈ (g'.kids c).reverse ++ s := fun k hk =>
        List.mem_append_left _ (by rw [List.mem_reverse, inv.kidsEq c]; exact hk)
      rcases List.mem_cons.mp hx with rfl | hx
      · exact .inl (hpush k hk)
      · rcases inv.closure x hx k hk with h | h | ⟨h1, h2, p, hp, hne⟩
        · rcases List.mem_cons.mp h with rfl | h
          · exact .inr (.inl List.mem_cons_self)
          · exact .inl (List.mem_append_right _ h)
        · exact .inr (.inl (List.mem_cons_of_mem _ h))
        · by_cases hpc : p = c
          · -- that parent is `c`: `k` is one of the children just pushed
            exact .inl (hpush k (hwf c k (hpc ▸ hp)))
          · exact .inr (.inr ⟨h1, h2, p, hp, by rwa [stateOf_setTask_ne g' c p t' hpc]⟩)

theorem cancel_closed (g : GraphS) (n : Nat) (time : Int) (hwf : g.EdgesWF)
    (herr : (g.cancel n time).err = none) : Closed g n (g.cancel n time) :=
  (cancel_walk g n time hwf herr).1

theorem setTask_self {g : GraphS} {c : Nat} {tc : TaskS} (h : g.task? c = some tc) :
    g.setTask c tc = g := by
  obtain ⟨hlt, he⟩ := Array.getElem?_eq_some_iff.mp h
  cases g
  simp only [setTask, GraphS.mk.injEq, true_and, and_true]
  subst he
  simp [Array.setIfInBounds, hlt]

/-- `Edit time skip g l g'`: `g'` comes from `g` by cancelling the tasks `l` at `time`, in this
order, and by setting `prob` of the task `skip`. -/
inductive Edit (time : Int) (skip : Option Nat) : GraphS → List Nat → GraphS → Prop
  | refl (g : GraphS) : Edit time skip g [] g
  | cancel {g g' : GraphS} {l : List Nat} {c : Nat} {tc t' : TaskS} :
      Edit time skip g l g' → g'.task? c = some tc → tc.doCancel time = (t', none) →
      Edit time skip g (l ++ [c]) (g'.setTask c t')
  | prob {g g' : GraphS} {l : List Nat} {c : Nat} {tc : TaskS} :
      Edit time skip g l g' → skip = some c → g'.task? c = some tc →
      Edit time skip g l (g'.setTask c { tc with prob := 1000 })

theorem Edit.trans {time : Int} {skip : Option Nat} {a b c : GraphS} {l₁ l₂ : List Nat}
    (h₁ : Edit time skip a l₁ b) (h₂ : Edit time skip b l₂ c) : Edit time skip a (l₁ ++ l₂) c := by
  induction h₂ with
  | refl => simpa using h₁
  | cancel _ htc hdc ih => rw [← List.append_assoc]; exact ih.cancel htc hdc
  | prob _ hs htc ih => exact ih.prob hs htc

theorem Edit.of_none {time : Int} {skip : Option Nat} {g g' : GraphS} {l : List Nat}
    (h : Edit time none g l g') : Edit time skip g l g' := by
  induction h with
  | refl => exact .refl _
  | cancel _ htc hdc ih => exact ih.cancel htc hdc
  | prob _ hs => cases hs

theorem cancel_go_edit (root : Nat) (time : Int) (g0 : GraphS) (a0 : List Nat) :
    ∀ fuel g s v a, (∃ l, Edit time none g0 l g ∧ a.reverse = a0 ++ l) →
      ∃ l, Edit time none g0 l (cancel.go root time fuel g s v a).g ∧
        ((cancel.go root time fuel g s v a).err = none →
          (cancel.go root time fuel g s v a).cancelled = a0 ++ l) := by
  refine cancel_go_induction root time (fun g _ _ a => ∃ l, Edit time none g0 l g ∧ a.reverse = a0 ++ l)
    (fun r => ∃ l, Edit time none g0 l r.g ∧ (r.err = none → r.cancelled = a0 ++ l))
    (fun _ _ _ _ ⟨l, h, _⟩ => ⟨l, h, fun e => by cases e⟩) (fun _ _ _ ⟨l, h, e⟩ => ⟨l, h, fun _ => e⟩)
    (fun _ _ _ _ _ h _ => h) (fun _ _ _ _ _ ⟨l, h, _⟩ _ => ⟨l, h, fun e => by cases e⟩)
    (fun _ _ _ _ _ _ h _ _ _ _ _ => h) (fun _ _ _ _ _ _ h _ _ _ => h) ?cancel ?refused
  case cancel =>
    rintro g c s v a tc t' ⟨l, h, e⟩ _ htc _ hdc
    exact ⟨l ++ [c], h.cancel htc hdc, by simp [e]⟩
  case refused =>
    -- a refused `Task.cancel` returns the task as it was
    rintro g c s v a tc t' e ⟨l, h, _⟩ htc hdc
    obtain rfl : tc = t' := by
      rcases doCancel_eq tc time with ⟨_, e'⟩ | ⟨_, e'⟩ <;> rw [e'] at hdc <;> cases hdc
      rfl
    exact ⟨l, by rwa [setTask_self htc], fun e => by cases e⟩

theorem cancel_edit (g : GraphS) (n : Nat) (time : Int) :
    ∃ l, Edit time none g l (g.cancel n time).g ∧
      ((g.cancel n time).err = none → (g.cancel n time).cancelled = l) := by
  simpa [cancel] using cancel_go_edit n time g [] _ g [n] [] [] ⟨[], .refl g, rfl⟩

theorem cancelBranches_edit (finish : Int) (skip : Option Nat) :
    ∀ (kids : List Nat) (g : GraphS) (acc : List Nat),
      ∃ l, Edit finish skip g l (cancelBranches g finish skip kids acc).1 ∧
        ((cancelBranches g finish skip kids acc).2.2 = none →
          (cancelBranches g finish skip kids acc).2.1 = acc ++ l) := by
  intro kids
  induction kids with
  | nil => intro g acc; exact ⟨[], .refl g, by simp [cancelBranches]⟩
  | cons c rest ih =>
    intro g acc
    simp only [cancelBranches]
    split
    · next hsk =>
      cases htc : g.task? c with
      | none => exact ih g acc
      | some tc =>
        obtain ⟨l, h, e⟩ := ih (g.setTask c { tc with prob := 1000 }) acc
        exact ⟨l, by simpa using ((Edit.refl g).prob (beq_iff_eq.mp hsk).symm htc).trans h, e⟩
    · obtain ⟨l₁, h₁, e₁⟩ := cancel_edit g c finish
      cases he : (g.cancel c finish).err with
      | some e => exact ⟨l₁, h₁.of_none, fun e => by cases e⟩
      | none =>
        obtain ⟨l₂, h₂, e₂⟩ := ih (g.cancel c finish).g (acc ++ (g.cancel c finish).cancelled)
        exact ⟨l₁ ++ l₂, h₁.of_none.trans h₂, fun h => by rw [e₂ h, e₁ he, List.append_assoc]⟩

theorem notify_go_frame (g : GraphS) : ∀ (kids acc : List Nat) (tape : List Draw),
    (notifyCompletion.go g kids acc tape).g = g ∧ (notifyCompletion.go g kids acc tape).cancelled = [] := by
  intro kids
  induction kids with
  | nil => intro acc tape; exact ⟨rfl, rfl⟩
  | cons c rest ih =>
    intro acc tape
    simp only [notifyCompletion.go]
    cases g.task? c with
    | none => exact ⟨rfl, rfl⟩
    | some tc =>
      simp only []
      split
      · exact ⟨rfl, rfl⟩
      · split
        · exact ih acc tape
        · split
          · exact ih _ tape
          · exact ih acc tape

/-- `notify_task_completion` edits the graph only through `cancelBranches`; the branch it
spares was found not in flight. -/
theorem notifyCompletion_edit (g : GraphS) (n : Nat) (finish : Int) (tape : List Draw) :
    ∃ skip l, Edit finish skip g l (g.notifyCompletion n finish tape).g ∧
      ((g.notifyCompletion n finish tape).err = none → (g.notifyCompletion n finish tape).cancelled = l) ∧
      ∀ c, skip = some c →
        ((g.stateOf c).val > TState.scheduled.val && (g.stateOf c).val < TState.cancelled.val) = false := by
  have stay : ∀ r : NotifyRes, r.g = g → r.cancelled = [] →
      ∃ skip l, Edit finish skip g l r.g ∧ (r.err = none → r.cancelled = l) ∧
        ∀ c, skip = some c →
          ((g.stateOf c).val > TState.scheduled.val && (g.stateOf c).val < TState.cancelled.val) = false :=
    fun r h1 h2 => ⟨none, [], h1.symm ▸ .refl g, fun _ => h2, nofun⟩
  unfold notifyCompletion
  cases g.task? n with
  | none => exact stay _ rfl rfl
  | some t =>
    simp only []
    split
    · exact stay _ rfl rfl
    · split
      · split
        · obtain ⟨l, h, e⟩ := cancelBranches_edit finish none (g.kids n) g []
          generalize cancelBranches g finish none (g.kids n) [] = r at h e ⊢
          obtain ⟨g', cancelled, err⟩ := r
          exact ⟨none, l, h, by simpa using e, nofun⟩
        · split
          · exact stay _ rfl rfl
          · split
            · split
              · exact stay _ rfl rfl
              · split
                · exact stay _ rfl rfl
                · next chosen _ hcs =>
                  obtain ⟨l, h, e⟩ := cancelBranches_edit finish (some chosen) (g.kids n) g []
                  generalize cancelBranches g finish (some chosen) (g.kids n) [] = r at h e ⊢
                  obtain ⟨g', cancelled, err⟩ := r
                  refine ⟨some chosen, l, ?_⟩
                  cases err with
                  | none => exact ⟨h, by simpa using e, fun c hc => by cases hc; simpa using hcs⟩
                  | some e' => exact ⟨h, nofun, fun c hc => by cases hc; simpa using hcs⟩
            · exact stay _ rfl rfl
      · exact stay _ (notify_go_frame g _ _ _).1 (notify_go_frame g _ _ _).2

theorem Edit.stateOf {time : Int} {skip : Option Nat} {g g' : GraphS} {l : List Nat}
    (h : Edit time skip g l g') (k : Nat) :
    g'.stateOf k = g.stateOf k ∨ (k ∈ l ∧ g'.stateOf k = .cancelled ∧ Cancellable (g.stateOf k)) := by
  induction h with
  | refl => exact .inl rfl
  | @cancel g' l c tc t' _ htc hdc ih =>
    by_cases hk : k = c
    · subst hk
      have hgc : g'.stateOf k = tc.state := by simp [GraphS.stateOf, htc]
      refine .inr ⟨by simp, ?_, ?_⟩
      · rw [stateOf_setTask_self g' k t' tc htc]; exact (doCancel_ok tc time t' hdc).1
      · -- `k` was not cancelled before this write, so its state there is the original one
        have hc := (doCancel_ok tc time t' hdc).2.2
        rcases ih with h | ⟨_, h, _⟩
        · rw [← h, hgc]; exact hc
        · rw [← hgc, h] at hc; simp [Cancellable] at hc
    · rw [stateOf_setTask_ne g' c k t' hk]
      exact ih.imp_right fun ⟨h1, h2⟩ => ⟨List.mem_append_left _ h1, h2⟩
  | @prob g' l c tc _ _ htc ih =>
    have : (g'.setTask c { tc with prob := 1000 }).stateOf k = g'.stateOf k := by
      by_cases hk : k = c
      · subst hk; rw [stateOf_setTask_self g' k _ tc htc]; simp [GraphS.stateOf, htc]
      · exact stateOf_setTask_ne g' c k _ hk
    rwa [this]

/-- **Frame** of the task states: a cancellation changes the state of no task but those it
reports, each of which was cancellable and is now CANCELLED. -/
theorem cancel_frame (g : GraphS) (n : Nat) (time : Int) (herr : (g.cancel n time).err = none) :
    ∀ k, (g.cancel n time).g.stateOf k = g.stateOf k ∨
      (k ∈ (g.cancel n time).cancelled ∧ (g.cancel n time).g.stateOf k = .cancelled ∧ Cancellable (g.stateOf k)) := by
  obtain ⟨l, h, e⟩ := cancel_edit g n time
  rw [e herr]
  exact h.stateOf

theorem Edit.cancelled_mono {time : Int} {skip : Option Nat} {g g' : GraphS} {l : List Nat}
    (h : Edit time skip g l g') {k : Nat} (hk : g.stateOf k = .cancelled) : g'.stateOf k = .cancelled :=
  (h.stateOf k).elim (fun e => e.trans hk) fun q => q.2.1

theorem cancel_mono (g : GraphS) (n : Nat) (time : Int) {k : Nat} (h : g.stateOf k = .cancelled) :
    (g.cancel n time).g.stateOf k = .cancelled :=
  let ⟨_, he, _⟩ := cancel_edit g n time
  he.cancelled_mono h

end GraphS
end ErdosVerif.Model
