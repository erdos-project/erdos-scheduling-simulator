import ErdosVerif.Lemmas.PoolOps
/-!
The ledger invariant lifted to workers, pools and whole operation histories.
-/
namespace ErdosVerif.Model

namespace Worker

/-! Each worker operation leaves the ledger alone or stores the result of one `Resources`
operation: split the program, and every leaf is one of the two. -/

theorem inv_loadProfile (w : Worker) (p : Nat) (s : Strategy) (h : w.res.Inv) :
    (w.loadProfile p s).1.res.Inv := by
  have hr := Resources.inv_allocateMultiple w.res s.req (.profile p) h
  unfold loadProfile
  split <;> exact .of_fst ‹_› hr

theorem inv_evictProfile (w : Worker) (p : Nat) (h : w.res.Inv) : (w.evictProfile p).1.res.Inv := by
  have hr := Resources.inv_deallocate w.res (.profile p) h
  unfold evictProfile
  split
  · exact h
  · split
    · split <;> exact .of_fst ‹_› hr
    · exact .of_fst ‹_› hr

theorem inv_placeTask (w : Worker) (t : Nat) (s : Strategy) (h : w.res.Inv) :
    (w.placeTask t s).1.res.Inv := by
  have hr := fun c => Resources.inv_allocateMultiple w.res s.req c h
  rcases placeTask_cases w t s with ⟨e, _⟩ | ⟨c, r, _, hres, e⟩ | ⟨_, r, hres, e⟩ | ⟨_, _, r, hres, e⟩ | ⟨_, _, _, e⟩ <;>
    rw [e]
  iterate 4 first | exact h | exact .of_fst hres (hr _)
  exact h

theorem inv_removeTask (w : Worker) (t : Nat) (h : w.res.Inv) : (w.removeTask t).1.res.Inv := by
  have hr := fun c => Resources.inv_deallocate w.res c h
  rcases removeTask_cases w t with
    ⟨e, hne⟩ | ⟨s, hs, ⟨hb, r, hd, e⟩ | ⟨hb, r, err, hd, e⟩ | ⟨hb, ms, hms, hc, ⟨hne', e⟩ | ⟨hlast, bt, r, hbt, hd, e⟩ | ⟨hlast, hbt, e⟩ | ⟨hlast, bt, r, err, hbt, hd, e⟩⟩⟩ <;> rw [e]
  iterate 7 first | exact h | exact .of_fst hd (hr _)

theorem inv_stepProfiles (w : Worker) (dt : Int) (h : w.res.Inv) : (w.stepProfiles dt).res.Inv := h

theorem inv_getAllocated (w : Worker) (t : Nat) (h : w.res.Inv) : (w.getAllocated t).1.res.Inv := by
  unfold getAllocated
  split
  · exact h
  · split
    · split
      · exact h
      · rename_i bt _; exact Resources.inv_getAllocated w.res bt h
    · exact Resources.inv_getAllocated w.res (.task t) h

theorem inv_copy (w : Worker) (h : w.res.Inv) : w.copy.1.res.Inv := by
  unfold copy
  split
  exact .of_fst ‹_› (Resources.inv_copy w.res h)

theorem inv_deepcopy (w : Worker) (h : w.res.Inv) : w.deepcopy.res.Inv := Resources.inv_deepcopy _ h

end Worker

def Pool.Inv (p : Pool) : Prop := ∀ w ∈ p.workers, w.res.Inv

/-- What `WorkerLoader` builds: a dict has no duplicate keys. -/
theorem Pool.inv_ofVecs (vs : List Vec) (pl : AList Nat Nat) (h : ∀ v ∈ vs, (AList.keys v).Nodup) :
    (⟨vs.map Worker.ofVec, pl⟩ : Pool).Inv := by
  intro w hw
  obtain ⟨v, hv, rfl⟩ := List.mem_map.mp hw
  exact Resources.inv_ofVec v (h v hv)

namespace Pool

theorem inv_setWorker (p : Pool) (i : Nat) (w : Worker) (h : p.Inv) (hw : w.res.Inv) :
    (p.setWorker i w).Inv := by
  intro x hx
  simp only [setWorker] at hx
  rcases List.mem_or_eq_of_mem_set hx with hx | hx
  · exact h x hx
  · subst hx; exact hw

theorem inv_getElem (p : Pool) (i : Nat) (w : Worker) (h : p.Inv) (hw : p.workers[i]? = some w) :
    w.res.Inv := h w (List.mem_of_getElem? hw)

theorem inv_onWorker (p : Pool) (i : Nat) (f : Worker → Worker × Outcome) (h : p.Inv)
    (hf : ∀ w, w.res.Inv → (f w).1.res.Inv) : (p.onWorker i f).1.Inv :=
  (onWorker_upd p i f).all hf h

theorem inv_placeTask (p : Pool) (t : Nat) (strats : List Strategy) (s? : Option Strategy)
    (wid? : Option Nat) (h : p.Inv) : (p.placeTask t strats s? wid?).1.Inv := by
  rcases placeTask_cases p t strats s? wid? with ⟨e, _⟩ | ⟨i, w, s, hw, _, _, ⟨_, e⟩ | ⟨_, _, e⟩⟩ <;> rw [e]
  · exact h
  all_goals exact inv_setWorker p i _ h (Worker.inv_placeTask w t s (inv_getElem p i w h hw))

theorem inv_removeTask (p : Pool) (t : Nat) (h : p.Inv) : (p.removeTask t).1.Inv := by
  rcases removeTask_cases p t with ⟨e, _⟩ | ⟨i, w, _, hw, ⟨_, e⟩ | ⟨_, e⟩⟩ <;> rw [e]
  · exact h
  all_goals exact inv_setWorker p i _ h (Worker.inv_removeTask w t (inv_getElem p i w h hw))

theorem inv_loadProfile (p : Pool) (prof : Nat) (s : Strategy) (wid? : Option Nat) (h : p.Inv) :
    (p.loadProfile prof s wid?).1.Inv :=
  (loadProfile_upd p prof s wid?).all (fun w => Worker.inv_loadProfile w prof s) h

theorem inv_evictProfile (p : Pool) (prof : Nat) (wid? : Option Nat) (h : p.Inv) :
    (p.evictProfile prof wid?).1.Inv :=
  (evictProfile_upd p prof wid?).all (fun w => Worker.inv_evictProfile w prof) h

theorem inv_stepProfiles (p : Pool) (dt : Int) (h : p.Inv) : (p.stepProfiles dt).Inv :=
  List.forall_mem_map.mpr h

theorem inv_copy (p : Pool) (h : p.Inv) : p.copy.1.Inv := by
  have key : (⟨p.workers.map (fun w => w.copy.1), p.placed⟩ : Pool).Inv :=
    List.forall_mem_map.mpr fun w hw => Worker.inv_copy w (h w hw)
  unfold copy
  simp only [List.map_map]
  split <;> exact key

theorem inv_deepcopy (p : Pool) (h : p.Inv) : p.deepcopy.Inv :=
  List.forall_mem_map.mpr fun w hw => Worker.inv_deepcopy w (h w hw)

theorem inv_apply (p : Pool) (op : Op) (h : p.Inv) : (p.apply op).1.Inv := by
  cases op with
  | addResource w k q =>
    exact inv_onWorker p w _ h (fun x hx => Resources.inv_addResource x.res k q hx)
  | allocate w k c q =>
    exact inv_onWorker p w _ h (fun x hx => Resources.inv_allocate x.res k c q hx)
  | allocateMultiple w req c =>
    exact inv_onWorker p w _ h (fun x hx => Resources.inv_allocateMultiple x.res req c hx)
  | deallocate w c =>
    exact inv_onWorker p w _ h (fun x hx => Resources.inv_deallocate x.res c hx)
  | getAllocatedRes w c =>
    exact inv_onWorker p w _ h (fun x hx => Resources.inv_getAllocated x.res c hx)
  | wPlace w t s => exact inv_onWorker p w _ h (fun x hx => Worker.inv_placeTask x t s hx)
  | wRemove w t => exact inv_onWorker p w _ h (fun x hx => Worker.inv_removeTask x t hx)
  | wLoad w pr s => exact inv_onWorker p w _ h (fun x hx => Worker.inv_loadProfile x pr s hx)
  | wEvict w pr => exact inv_onWorker p w _ h (fun x hx => Worker.inv_evictProfile x pr hx)
  | wGetAllocated w t => exact inv_onWorker p w _ h (fun x hx => Worker.inv_getAllocated x t hx)
  | step dt => exact inv_stepProfiles p dt h
  | pPlace t strats s? wid? => exact inv_placeTask p t strats s? wid? h
  | pRemove t => exact inv_removeTask p t h
  | pLoad pr s wid? => exact inv_loadProfile p pr s wid? h
  | pEvict pr wid? => exact inv_evictProfile p pr wid? h

theorem inv_run (p : Pool) (ops : List Op) (h : p.Inv) : (p.run ops).Inv := by
  induction ops generalizing p with
  | nil => exact h
  | cons o rest ih => exact ih _ (inv_apply p o h)

end Pool
end ErdosVerif.Model
