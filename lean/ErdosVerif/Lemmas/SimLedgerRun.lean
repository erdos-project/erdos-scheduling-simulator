import ErdosVerif.Lemmas.SimResidentRun
import ErdosVerif.Lemmas.SimLedgerRunFrame
import ErdosVerif.Lemmas.SimLedgerRunBatch
/-!
The ledger / residency invariant `LI` (every worker satisfies `Worker.LOK`: held iff resident,
with amounts, batches included) over whole runs of the simulator model.

`Worker.LOK` lifted to pools (`Pool.LOK`) and to the pool array of a simulator state (`LI`): every pool operation the
simulator issues keeps `Pool.LOK` whatever it answers (`Pool.lr_*`: the statements are about the pool an operation
leaves, also when it raises, half-way for the operations that visit every worker), and a step of the simulator
writes at most one pool (`PoolsStep`). Only a placement that succeeds needs a fact
from the rest of the state, "the task being placed is not resident": it was ready to run, and every
resident task is RUNNING (`NR`, with "node indices fit the key encoding" a consequence of the residency
invariant `AP` of `SimResident*`). So a step keeps `LI` where `NR` holds (`LI.step`), and `LI` is closed
under the steps of the handlers beside any invariant that gives `NR` (`Closed.and_ledger`).
-/
namespace ErdosVerif.Model

def Pool.LOK (p : Pool) : Prop := ∀ w ∈ p.workers, w.LOK

namespace Pool

theorem lr_update (p : Pool) (i : Nat) {w : Worker} (w' : Worker) (h : p.LOK) (hw : p.workers[i]? = some w)
    (hw' : w.LOK → w'.LOK) : (p.setWorker i w').LOK := by
  intro x hx
  rcases List.mem_or_eq_of_mem_set hx with hx | hx
  · exact h x hx
  · exact hx ▸ hw' (h w (List.mem_of_getElem? hw))

/-- Whatever `place_task` answers; only where it placed the task need the task have been resident nowhere in the pool. -/
theorem lr_placeTask (p : Pool) (t : Nat) (strats : List Strategy) (s? : Option Strategy) (wid? : Option Nat)
    (h : p.LOK) (hnone : (p.placeTask t strats s? wid?).2 = .ok true → ∀ x ∈ p.workers, t ∉ AList.keys x.placed) :
    (p.placeTask t strats s? wid?).1.LOK := by
  rcases placeTask_cases p t strats s? wid? with ⟨e, _⟩ | ⟨i, w, s, hw, _, _, ⟨_, e⟩ | ⟨err, he, e⟩⟩
  · rw [e]; exact h
  · rw [e] at hnone ⊢
    exact lr_update p i _ h hw fun hl => Worker.lka_placeTask w t s hl (hnone rfl w (List.mem_of_getElem? hw))
  · rw [e]
    exact lr_update p i _ h hw fun hl => (Worker.placeTask_refused w t s hl.1.rinv (by rw [he]; nofun)).symm ▸ hl

theorem lr_removeTask (p : Pool) (t : Nat) (h : p.LOK) : (p.removeTask t).1.LOK := by
  rcases removeTask_cases p t with ⟨e, _⟩ | ⟨i, w, _, hw, ⟨_, e⟩ | ⟨_, e⟩⟩ <;> rw [e]
  · exact h
  all_goals exact lr_update p i _ h hw (Worker.lka_removeTask w t)

theorem lr_loadProfile (p : Pool) (prof : Nat) (s : Strategy) (wid? : Option Nat) (h : p.LOK) :
    (p.loadProfile prof s wid?).1.LOK :=
  (loadProfile_upd p prof s wid?).all (fun w => Worker.lka_loadProfile w prof s) h

theorem lr_evictProfile (p : Pool) (prof : Nat) (wid? : Option Nat) (h : p.LOK) :
    (p.evictProfile prof wid?).1.LOK :=
  (evictProfile_upd p prof wid?).all (fun w => Worker.lka_evictProfile w prof) h

theorem lr_stepProfiles (p : Pool) (dt : Int) (h : p.LOK) : (p.stepProfiles dt).LOK :=
  List.forall_mem_map.mpr fun w hw => Worker.lk_stepProfiles w dt (h w hw)

theorem lr_onWorker' (p : Pool) (wi t : Nat) (h : p.LOK) : (p.onWorker' wi t).1.LOK :=
  (onWorker'_upd p wi t).all (fun w => Worker.lk_getAllocated w t) h

end Pool

def LI (ps : Array Pool) : Prop := ∀ p ∈ ps.toList, p.LOK

end ErdosVerif.Model

open Std.Do
set_option mvcgen.warning false

namespace ErdosVerif.Model.Sim

def NR (ps : Array Pool) (gs : Array GraphS) : Prop :=
  (∀ pi i n, At (views ps) pi i n → ∃ x, taskAt gs (ungid n) = some x ∧ x.state = .running) ∧
  (∀ t x, taskAt gs t = some x → t.t < 65536)

theorem NR.of_AP {P : Int → List LogE → TaskId → TaskS → Prop} {ex : List SEvent} {s : SimS} (h : AP P ex s) :
    NR s.pools s.graphs :=
  ⟨fun pi i n hat => h.core.resRun pi i n hat, fun t x ht => h.core.small t x ht⟩

theorem NR.not_resident {ps : Array Pool} {gs : Array GraphS} (h : NR ps gs) (t : TaskId) (g : GraphS) (x : TaskS)
    (hg : gs[t.g]? = some g) (hx : g.task? t.t = some x) (hr : g.isReadyToRun t.t = true)
    (pid : Nat) (pool : Pool) (hp : ps[pid]? = some pool) : ∀ w ∈ pool.workers, gid t ∉ AList.keys w.placed := by
  intro w hw hmem
  obtain ⟨i, hi⟩ := List.getElem?_of_mem hw
  have hT : taskAt gs t = some x := taskAt_of gs t g x hg hx
  have hat : At (views ps) pid i (gid t) :=
    ⟨pool.view, AList.keys w.placed, by rw [views_getElem?, hp]; rfl, by rw [Pool.view_getElem?, hi]; rfl, hmem⟩
  obtain ⟨y, hy, hrun⟩ := h.1 pid i (gid t) hat
  rw [ungid_gid t (h.2 t x hT), hT] at hy
  cases hy
  exact (ready_not_running g t.t x hr hx).1 hrun

theorem lr_poolOp {p p' : Pool} (o : PoolOp p p') (h : p.LOK) : p'.LOK := by
  cases o with
  | load => exact Pool.lr_loadProfile _ _ _ _ h
  | evict => exact Pool.lr_evictProfile _ _ _ h
  | read => exact Pool.lr_onWorker' _ _ _ h
  | profiles => exact Pool.lr_stepProfiles _ _ h
  | noPlace _ _ _ _ hne => exact Pool.lr_placeTask _ _ _ _ _ h fun hok => absurd hok hne
  | noRemove => exact Pool.lr_removeTask _ _ h

theorem _root_.ErdosVerif.Model.LI.step {s : SimS} {ps' : Array Pool} (h : LI s.pools) (hnr : NR s.pools s.graphs)
    (st : PoolsStep s ps') : LI ps' := by
  cases st with
  | same => exact h
  | op _ _ _ hp o => exact forall_mem_set h hp (lr_poolOp o)
  | place pid pool t gr x _ _ hP =>
    exact forall_mem_set h hP.hp fun hl =>
      Pool.lr_placeTask _ _ _ _ _ hl fun _ => hnr.not_resident t gr x hP.hg hP.hx hP.hready pid pool hP.hp
  | remove _ _ _ hp => exact forall_mem_set h hp (Pool.lr_removeTask _ _)

theorem Closed.and_ledger {J : Ghost → SimS → Prop} {WJ : SimS → Prop} (C : Closed J WJ)
    (hnr : ∀ γ s, J γ s → NR s.pools s.graphs) :
    Closed (fun γ s => J γ s ∧ LI s.pools) (fun s => WJ s ∧ LI s.pools) where
  weak h := ⟨C.weak h.1, h.2⟩
  act a h := ⟨C.act a h.1, h.2.step (hnr _ _ h.1) a.pools⟩
  abort a h := ⟨C.abort a h.1, h.2.step (hnr _ _ h.1) a.pools⟩

/-!
The run. `__handle_event` and the constructor are instances of the walk, at the residency invariant `RI` of
`SimResidentRun` with `LI` beside it. The loop is that of `iter_rspec`, with `LI` beside `AP`: `__step` writes the pools only through `stepProfiles`.
-/

abbrev LNA : Assertion (.except SErr (.arg SimS .pure)) := fun s => ⌜LI s.pools ∧ NR s.pools s.graphs⌝

theorem getPool_ln (p : Nat) : ⦃LNA⦄ getPool p ⦃post⟨fun _ => LNA, fun _ s => ⌜LI s.pools⌝⟩⦄ := by
  mvcgen [getPool]
  all_goals exact ‹_ ∧ _›.1

abbrev Good (s : SimS) : Prop := AP RunOK [] s ∧ LI s.pools

/-- What holds in every state, also where a handler raised. -/
abbrev GoodW (s : SimS) : Prop := WInv s ∧ LI s.pools

theorem RI.closed_ledger : Closed (fun γ s => RI γ s ∧ LI s.pools) GoodW :=
  RI.closed.and_ledger fun _ _ h => NR.of_AP h.ap

/-- `-trivial`: `trivial`, the default discharger of `mvcgen`, is slow in these contexts. -/
theorem step_li (dt : Int) : PF LI (step dt) := by
  mvcgen -trivial [step, getPool, setPool, getTask, getGraph, taskCall, setGraph, raiseTask, mkEvent, uniqueName,
    advanceClock, addEvent] invariants
  · loopPF LI
  · loopPF LI
  · loopPF LI
  · loopPF LI
  · loopPF LI
  with try (intros; assumption)
  exact forall_mem_set ‹LI _› ‹_› (Pool.lr_stepProfiles _ dt)

theorem handleEvent_both (ev : SEvent) :
    ⦃fun s => ⌜(AP RunOK [ev] s ∧ s.now = ev.ev.time) ∧ LI s.pools⌝⦄ handleEvent ev
    ⦃post⟨fun b s => ⌜Good s ∧ (b = true → EndLast s)⌝, fun _ s => ⌜GoodW s⌝⟩⦄ := by
  have h := handleEvent_w RI.closed_ledger ev
  mvcgen [h]
  · have h0 := ‹(AP RunOK [ev] _ ∧ _) ∧ _›
    exact ⟨⟨h0.1.1, fun _ he => Option.some.inj he ▸ h0.1.2.symm⟩, h0.2⟩
  · exact fun h hl he => ⟨⟨h.ap, hl⟩, he⟩

theorem iter_both : ⦃fun s => ⌜Good s⌝⦄ iter
    ⦃post⟨fun b s => ⌜Good s ∧ (b = true → EndLast s)⌝, fun _ s => ⌜GoodW s⌝⟩⦄ := by
  refine iter_triple (Q := fun s0 dt s => (AP RunOK [] s ∧ s.now = s0.now + dt) ∧ LI s.pools)
    (H := fun e s => (AP RunOK [e] s ∧ s.now = e.ev.time) ∧ LI s.pools) (fun _ h => ⟨h.1.weak, h.2⟩)
    (fun s0 _ dt h0 => ?_) handleEvent_both (fun _ _ _ _ _ _ _ h _ => ⟨⟨h.1.1, h.2⟩, nofun⟩)
    (fun _ _ s _ q _ _ h _ hp hdue =>
      ⟨⟨AP.popped s _ _ q h.1.1 hp rfl rfl rfl rfl rfl rfl rfl rfl rfl rfl rfl rfl, hdue⟩, h.2⟩)
  have h := Triple.and (step dt) (step_rspec s0.now dt) (step_li dt)
  mvcgen [h]
  · obtain ⟨rfl, hb⟩ := ‹_ ∧ StepBy ..›
    exact ⟨⟨⟨h0.1, rfl⟩, dtOK_of h0.1 hb⟩, h0.2⟩

theorem init_both : ⦃fun s => ⌜Good s⌝⦄ init ⦃post⟨fun _ s => ⌜Good s⌝, fun _ s => ⌜GoodW s⌝⟩⦄ := by
  have h := init_w RI.closed_ledger
  mvcgen [h]
  · exact ⟨⟨‹Good _›.1, fun _ he => nomatch he⟩, ‹Good _›.2⟩
  · exact fun h hl => ⟨h.ap, hl⟩

/-- **The ledger / residency invariant holds when a simulation ends normally** (together with the
residency invariant), for every world, decision tape, draw tape and fuel. -/
theorem simulate_ledger (s0 : SimS) (fuel : Nat) (h : Good s0) (hok : (simulate s0 fuel).1 = none) :
    Good (simulate s0 fuel).2 :=
  ((simulate_loop (fun _ h => ⟨AP.weak h.1, h.2⟩) init_both iter_both s0 fuel h).1 hok).1

/-- **The ledger invariant (and the weak residency invariant) hold in the state a simulation is in
after the constructor and any number of loop iterations, however it ends — normally, out of fuel,
or aborted by an exception at any point of any handler.** -/
theorem simulate_ledger_weak (s0 : SimS) (fuel : Nat) (h : Good s0) : GoodW (simulate s0 fuel).2 :=
  (simulate_loop (fun _ h => ⟨AP.weak h.1, h.2⟩) init_both iter_both s0 fuel h).2

/-- **… and at the head of the `simulate()` loop after any number `k` of completed iterations.** -/
theorem loop_head_ledger (s0 : SimS) (k : Nat) (h : Good s0) :
    HoldsAfter (fun _ s => Good s) GoodW ((ExceptT.run (do init; runK k : SimM Bool)).run s0) :=
  loop_head_loop init_both iter_both s0 k h

/-- A worker as the driver / the loaders build it. -/
def workerFresh (w : Worker) : Bool :=
  w.res.allocs.isEmpty && decide (w.res.avail = w.res.total) && decide ((AList.keys w.res.total).Nodup) &&
  w.placed.isEmpty && w.batchTask.isEmpty && w.batches.isEmpty

def lwf0 (s : SimS) : Bool := wf0 s && s.pools.all (fun p => p.workers.all workerFresh)

theorem lok_of_fresh (w : Worker) (h : workerFresh w = true) : w.LOK := by
  simp only [workerFresh, Bool.and_eq_true, List.isEmpty_iff, decide_eq_true_eq] at h
  obtain ⟨⟨⟨⟨⟨ha, hav⟩, hnd⟩, hp⟩, hbt⟩, hb⟩ := h
  refine Worker.LOK.of_empty ⟨by rw [hav], hnd, ?_, ?_⟩ ha hp hbt hb
  · intro x; rw [ha, hav]; simp
  · intro c l hm; rw [ha] at hm; cases hm

theorem good_initial (s : SimS) (h : lwf0 s = true) : Good s := by
  simp only [lwf0, Bool.and_eq_true] at h
  refine ⟨ap_initial s h.1, ?_⟩
  intro p hp w hw
  have h2 := h.2
  rw [Array.all_eq_true] at h2
  obtain ⟨i, hi, rfl⟩ := Array.getElem_of_mem (Array.mem_toList_iff.mp hp)
  have h3 := h2 i hi
  rw [List.all_eq_true] at h3
  exact lok_of_fresh w (h3 w hw)

end ErdosVerif.Model.Sim
