/-
Lemmas about CPython's heapq algorithms (`Model/Heap.lean`): each permutes its input and keeps
the heap invariant `HeapFrom · 0`, `heappop` returns a minimum; draining a heap; Python's `min`.
-/
import ErdosVerif.Model.Heap

namespace ErdosVerif.Model.Heap

variable {α : Type}

/-- What the proofs need from the comparison, relative to a predicate `P` that holds of
every element ever stored: asymmetry and transitivity of `x ≤ y := ¬ (y < x)`. -/
structure SWO (lt : α → α → Bool) (P : α → Prop) : Prop where
  asymm : ∀ {x y}, P x → P y → lt x y = true → lt y x = false
  le_trans : ∀ {x y z}, P x → P y → P z → lt y x = false → lt z y = false → lt z x = false

def AllP (P : α → Prop) (a : Array α) : Prop := ∀ i (h : i < a.size), P a[i]

theorem allP_iff_mem {P : α → Prop} {a : Array α} : AllP P a ↔ ∀ x ∈ a, P x := by
  constructor
  · intro h x hx
    obtain ⟨i, hi, rfl⟩ := Array.getElem_of_mem hx
    exact h i hi
  · intro h i hi
    exact h _ (Array.getElem_mem hi)

theorem AllP.mono {P : α → Prop} {a b : Array α} (hsub : ∀ x ∈ a, x ∈ b) (h : AllP P b) : AllP P a :=
  allP_iff_mem.mpr fun x hx => allP_iff_mem.mp h x (hsub x hx)

theorem AllP.of_perm {P : α → Prop} {a b : Array α} (hp : a.Perm b) (h : AllP P b) : AllP P a :=
  h.mono fun _ hx => hp.mem_iff.mp hx

theorem AllP.push {P : α → Prop} {a : Array α} {x : α} (h : AllP P a) (hx : P x) : AllP P (a.push x) := by
  rw [allP_iff_mem] at *
  intro y hy
  rcases Array.mem_push.mp hy with hy | rfl
  · exact h y hy
  · exact hx

theorem siftdown_perm (lt : α → α → Bool) (a : Array α) (s p : Nat) : (siftdown lt a s p).Perm a := by
  fun_induction siftdown lt a s p with
  | case1 a p h parent hp hlt ih => exact ih.trans (Array.swap_perm _ _)
  | case2 => exact .rfl
  | case3 => exact .rfl

theorem siftdown_size (lt : α → α → Bool) (a : Array α) (s p : Nat) : (siftdown lt a s p).size = a.size :=
  (siftdown_perm lt a s p).size_eq

theorem bubbleToLeaf_perm (lt : α → α → Bool) (a : Array α) (p : Nat) : (bubbleToLeaf lt a p).1.Perm a := by
  fun_induction bubbleToLeaf lt a p with
  | case1 a p h c hc hg ih => exact ih.trans (Array.swap_perm _ _)
  | case2 => exact .rfl

theorem siftup_perm (lt : α → α → Bool) (a : Array α) (p : Nat) : (siftup lt a p).Perm a := by
  unfold siftup
  exact (siftdown_perm ..).trans (bubbleToLeaf_perm ..)

theorem heapifyLoop_perm (lt : α → α → Bool) (a : Array α) (k : Nat) : (heapifyLoop lt a k).Perm a := by
  induction k generalizing a with
  | zero => exact .rfl
  | succ k ih => exact (ih _).trans (siftup_perm ..)

theorem heapify_perm (lt : α → α → Bool) (a : Array α) : (heapify lt a).Perm a := heapifyLoop_perm ..

theorem heappush_perm (lt : α → α → Bool) (a : Array α) (x : α) : (heappush lt a x).Perm (a.push x) :=
  siftdown_perm ..

theorem siftdown_root (lt : α → α → Bool) (a : Array α) (pos : Nat) (y : α)
    (hy : (siftdown lt a 0 pos)[0]? = some y) : a[0]? = some y ∨ a[pos]? = some y := by
  fun_induction siftdown lt a 0 pos with
  | case1 a pos h parent hp hlt ih =>
    have hpar : ¬ pos = parent := by simp only [parent]; omega
    rcases ih hy with h1 | h1 <;> rw [Array.getElem?_swap] at h1
    · rw [if_neg (by omega)] at h1
      split at h1
      · exact Or.inr ((Array.getElem?_eq_getElem h.2).trans h1)
      · exact Or.inl h1
    · rw [if_neg hpar, if_pos rfl] at h1
      exact Or.inr ((Array.getElem?_eq_getElem h.2).trans h1)
  | case2 => exact Or.inl hy
  | case3 => exact Or.inl hy

theorem heappush_root (lt : α → α → Bool) (q : Array α) (e y : α) (h : (heappush lt q e)[0]? = some y) :
    q[0]? = some y ∨ y = e := by
  unfold heappush at h
  rcases siftdown_root lt (q.push e) q.size y h with h1 | h1 <;> rw [Array.getElem?_push] at h1
  · split at h1
    · exact Or.inr (Option.some.inj h1).symm
    · exact Or.inl h1
  · rw [if_pos rfl] at h1
    exact Or.inr (Option.some.inj h1).symm

theorem foldl_heappush_root (lt : α → α → Bool) (es : List α) (q : Array α) (y : α)
    (h : (es.foldl (heappush lt) q)[0]? = some y) : q[0]? = some y ∨ y ∈ es := by
  induction es generalizing q with
  | nil => exact .inl h
  | cons e es ih =>
    rcases ih _ h with h1 | h1
    · exact (heappush_root lt q e y h1).imp_right fun he => by rw [he]; exact List.mem_cons_self ..
    · exact .inr (List.mem_cons_of_mem _ h1)

theorem foldl_heappush_size (lt : α → α → Bool) (es : List α) (q : Array α) :
    (es.foldl (heappush lt) q).size = q.size + es.length := by
  induction es generalizing q with
  | nil => rfl
  | cons e es ih => rw [List.foldl_cons, ih, (heappush_perm lt q e).size_eq, Array.size_push, List.length_cons]; omega

theorem pop_push_last (a : Array α) (h : 0 < a.size) : a.pop.push a[a.size - 1] = a := by
  apply Array.ext
  · simp; omega
  · intro i h1 h2
    simp only [Array.getElem_push, Array.size_pop, Array.getElem_pop]
    split
    · rfl
    · have : i = a.size - 1 := by simp at h1; omega
      subst this; rfl

theorem set_zero_push_perm (b : Array α) (h : 0 < b.size) (y : α) :
    ((b.set 0 y h).push b[0]).Perm (b.push y) := by
  obtain ⟨l⟩ := b
  cases l with
  | nil => simp at h
  | cons b0 bs =>
    simp only [Array.perm_iff_toList_perm]
    simp
    have e1 : (bs ++ [b0]).Perm (b0 :: bs) := List.perm_append_comm
    have e2 : (bs ++ [y]).Perm (y :: bs) := List.perm_append_comm
    exact (e1.cons y).trans ((List.Perm.swap b0 y bs).trans (e2.cons b0).symm)

theorem heappop_some {lt : α → α → Bool} {a : Array α} {x : α} {a' : Array α}
    (h : heappop lt a = some (x, a')) :
    ∃ hpos : 0 < a.size, x = a[0] ∧
      ((a.size = 1 ∧ a' = a.pop) ∨
        ∃ h' : 0 < a.pop.size, a' = siftup lt (a.pop.set 0 (a[a.size - 1]'(by omega)) h') 0) := by
  unfold heappop at h
  split at h
  · rename_i hpos
    refine ⟨hpos, ?_⟩
    simp only at h
    split at h <;> simp only [Option.some.injEq, Prod.mk.injEq] at h <;> obtain ⟨rfl, rfl⟩ := h
    · rename_i h'
      exact ⟨Array.getElem_pop _, .inr ⟨h', rfl⟩⟩
    · rename_i h'
      have hs : a.size = 1 := by simp at h'; omega
      exact ⟨getElem_congr_idx (by omega), .inl ⟨hs, rfl⟩⟩
  · cases h

theorem heappop_perm (lt : α → α → Bool) (a : Array α) (x : α) (a' : Array α)
    (h : heappop lt a = some (x, a')) : (a'.push x).Perm a := by
  obtain ⟨hpos, rfl, ⟨hs, rfl⟩ | ⟨h', rfl⟩⟩ := heappop_some h
  · rw [getElem_congr_idx (show 0 = a.size - 1 by omega), pop_push_last a hpos]
  · refine ((siftup_perm lt _ 0).push _).trans ?_
    have h2 := set_zero_push_perm a.pop h' (a[a.size - 1]'(by omega))
    rwa [Array.getElem_pop, pop_push_last a hpos] at h2

/-- `p` lies in the subtree rooted at `i` (implicit binary tree on indices). -/
inductive Desc (i : Nat) : Nat → Prop
  | refl : Desc i i
  | left {p} : Desc i p → Desc i (2 * p + 1)
  | right {p} : Desc i p → Desc i (2 * p + 2)

theorem Desc.le {i p : Nat} (h : Desc i p) : i ≤ p := by
  induction h <;> omega

theorem Desc.parent {i p : Nat} (h : Desc i p) (hp : i < p) : Desc i ((p - 1) / 2) ∧ i ≤ (p - 1) / 2 := by
  cases h with
  | refl => omega
  | @left q hq =>
    have : (2 * q + 1 - 1) / 2 = q := by omega
    rw [this]; exact ⟨hq, hq.le⟩
  | @right q hq =>
    have : (2 * q + 2 - 1) / 2 = q := by omega
    rw [this]; exact ⟨hq, hq.le⟩

theorem desc_zero (p : Nat) : Desc 0 p := by
  induction p using Nat.strongRecOn with
  | _ p ih =>
    rcases Nat.eq_zero_or_pos p with rfl | hp
    · exact .refl
    · have hq := ih ((p - 1) / 2) (by omega)
      rcases Nat.mod_two_eq_zero_or_one p with h | h
      · have : p = 2 * ((p - 1) / 2) + 2 := by omega
        rw [this]; exact .right hq
      · have : p = 2 * ((p - 1) / 2) + 1 := by omega
        rw [this]; exact .left hq

/-- Every child `j` whose parent index is at least `k` is not `<` its parent. `HeapFrom a 0` is
the heap invariant of `heapq`. -/
def HeapFrom (lt : α → α → Bool) (a : Array α) (k : Nat) : Prop :=
  ∀ j (hj : j < a.size), 0 < j → k ≤ (j - 1) / 2 → lt a[j] (a[(j - 1) / 2]'(by omega)) = false

/-- Phase 2 (`_siftdown`) invariant: only the pair (parent pos, pos) may be out of order, and
the parent of `pos` is ≤ the children of `pos`. -/
structure Inv2 (lt : α → α → Bool) (a : Array α) (i pos : Nat) : Prop where
  pairs : ∀ j (hj : j < a.size), 0 < j → i ≤ (j - 1) / 2 → j ≠ pos →
    lt a[j] (a[(j - 1) / 2]'(by omega)) = false
  bridge : i < pos → ∀ c (hc : c < a.size) (_ : 0 < c) (_ : (c - 1) / 2 = pos),
    lt a[c] (a[(pos - 1) / 2]'(by omega)) = false
  desc : Desc i pos

/-- Phase 1 (bubble to leaf) invariant: pairs touching `pos` are unconstrained. -/
structure Inv1 (lt : α → α → Bool) (a : Array α) (i pos : Nat) : Prop where
  pairs : ∀ j (hj : j < a.size), 0 < j → i ≤ (j - 1) / 2 → j ≠ pos → (j - 1) / 2 ≠ pos →
    lt a[j] (a[(j - 1) / 2]'(by omega)) = false
  bridge : i < pos → ∀ c (hc : c < a.size) (_ : 0 < c) (_ : (c - 1) / 2 = pos),
    lt a[c] (a[(pos - 1) / 2]'(by omega)) = false
  desc : Desc i pos

variable {lt : α → α → Bool} {P : α → Prop}

theorem siftdown_heapFrom (swo : SWO lt P) (a : Array α) (i pos : Nat)
    (hP : AllP P a) (hpos : pos < a.size) (inv : Inv2 lt a i pos) :
    HeapFrom lt (siftdown lt a i pos) i := by
  fun_induction siftdown lt a i pos with
  | case1 a pos h q hq hlt ih =>
    have hd := inv.desc.parent h.1
    have hP' : AllP P (a.swap q pos hq h.2) := AllP.of_perm (Array.swap_perm _ _) hP
    apply ih hP' (by simpa using hq)
    have hqpos : q < pos := by omega
    have hqdef : q = (pos - 1) / 2 := rfl
    refine ⟨?_, ?_, hd.1⟩
    · intro j hj hj0 hij hjq
      have hj' : j < a.size := by simpa using hj
      simp only [Array.getElem_swap]
      by_cases hjp : j = pos
      · subst hjp
        have : (j - 1) / 2 = q := rfl
        simp only [this, if_neg (Nat.ne_of_gt hqpos), if_pos]
        exact swo.asymm (hP _ _) (hP _ _) hlt
      · by_cases hpq : (j - 1) / 2 = q
        · -- sibling of pos
          simp only [if_neg hjq, if_neg hjp, hpq, if_true]
          have h1 := inv.pairs j hj' hj0 hij hjp
          simp only [hpq] at h1
          exact swo.le_trans (hP _ _) (hP _ _) (hP _ _) (swo.asymm (hP _ _) (hP _ _) hlt) h1
        · by_cases hpp : (j - 1) / 2 = pos
          · simp only [if_neg hjq, if_neg hjp, hpp, if_true, if_neg (Nat.ne_of_gt hqpos)]
            exact inv.bridge h.1 j hj' hj0 hpp
          · simp only [if_neg hjq, if_neg hjp, if_neg hpq, if_neg hpp]
            exact inv.pairs j hj' hj0 hij hjp
    · intro hiq c hc hc0 hcq
      have hc' : c < a.size := by simpa using hc
      have hq0 : 0 < q := by omega
      have hdq := hd.1.parent hiq
      have hqq : lt a[q] (a[(q - 1) / 2]'(by omega)) = false :=
        inv.pairs q hq hq0 hdq.2 (by omega)
      simp only [Array.getElem_swap]
      have n1 : (q - 1) / 2 ≠ q := by omega
      have n2 : (q - 1) / 2 ≠ pos := by omega
      have hcq' : c ≠ q := by omega
      simp only [if_neg n1, if_neg n2, if_neg hcq']
      by_cases hcp : c = pos
      · simp only [if_pos hcp]; exact hqq
      · simp only [if_neg hcp]
        have h1 := inv.pairs c hc' hc0 (by omega) hcp
        simp only [hcq] at h1
        exact swo.le_trans (hP _ _) (hP _ _) (hP _ _) hqq h1
  | case2 a pos h q hq hlt =>
    intro j hj hj0 hij
    by_cases hjp : j = pos
    · subst hjp; simpa using hlt
    · exact inv.pairs j hj hj0 hij hjp
  | case3 a pos h =>
    intro j hj hj0 hij
    have : pos ≤ i := by omega
    have := inv.desc.le
    exact inv.pairs j hj hj0 hij (by omega)

theorem SWO.irrefl (swo : SWO lt P) {x : α} (hx : P x) : lt x x = false := by
  cases h : lt x x with
  | false => rfl
  | true => exact absurd (swo.asymm hx hx h) (by simp [h])

theorem smallerChild_cases (a : Array α) (pos : Nat) (h : 2 * pos + 1 < a.size) :
    smallerChild lt a pos h = 2 * pos + 1 ∨ smallerChild lt a pos h = 2 * pos + 2 := by
  unfold smallerChild; split
  · split <;> simp
  · simp

theorem smallerChild_le (swo : SWO lt P) (a : Array α) (hP : AllP P a) (pos : Nat) (h : 2 * pos + 1 < a.size)
    (c : Nat) (hc : c = smallerChild lt a pos h) (hc' : c < a.size)
    (s : Nat) (hs : s < a.size) (hs0 : 0 < s) (hsp : (s - 1) / 2 = pos) : lt a[s] a[c] = false := by
  have hs' : s = 2 * pos + 1 ∨ s = 2 * pos + 2 := by omega
  unfold smallerChild at hc
  split at hc
  · rename_i h2
    split at hc
    · rename_i hlt
      subst hc
      rcases hs' with rfl | rfl
      · exact swo.irrefl (hP _ _)
      · exact swo.asymm (hP _ _) (hP _ _) hlt
    · rename_i hlt
      subst hc
      rcases hs' with rfl | rfl
      · simpa using hlt
      · exact swo.irrefl (hP _ _)
  · subst hc
    rcases hs' with rfl | rfl
    · exact swo.irrefl (hP _ _)
    · omega

theorem bubbleToLeaf_inv2 (swo : SWO lt P) (a : Array α) (i pos : Nat)
    (hP : AllP P a) (hpos : pos < a.size) (inv : Inv1 lt a i pos) :
    Inv2 lt (bubbleToLeaf lt a pos).1 i (bubbleToLeaf lt a pos).2 ∧
      (bubbleToLeaf lt a pos).2 < (bubbleToLeaf lt a pos).1.size := by
  fun_induction bubbleToLeaf lt a pos with
  | case1 a pos h c hc hg ih =>
    have hP' : AllP P (a.swap pos c (by omega) hc) := AllP.of_perm (Array.swap_perm _ _) hP
    apply ih hP' (by simpa using hc)
    have hcc := smallerChild_cases (lt := lt) a pos h
    have hcdef : c = smallerChild lt a pos h := rfl
    have hcpar : (c - 1) / 2 = pos := by omega
    have hile := inv.desc.le
    refine ⟨?_, ?_, ?_⟩
    · intro j hj hj0 hij hjc hpc
      have hj' : j < a.size := by simpa using hj
      simp only [Array.getElem_swap]
      by_cases hjp : j = pos
      · subst hjp
        have n1 : (j - 1) / 2 ≠ j := by omega
        simp only [if_neg n1, if_neg hpc, if_true]
        exact inv.bridge (by omega) c hc (by omega) hcpar
      · by_cases hpp : (j - 1) / 2 = pos
        · simp only [if_neg hjp, if_neg hjc, hpp, if_true]
          exact smallerChild_le swo a hP pos h c hcdef hc j hj' hj0 hpp
        · simp only [if_neg hjp, if_neg hjc, if_neg hpp, if_neg hpc]
          exact inv.pairs j hj' hj0 hij hjp hpp
    · intro _ d hd hd0 hdc
      have hd' : d < a.size := by simpa using hd
      simp only [Array.getElem_swap]
      have n1 : d ≠ pos := by omega
      have n2 : d ≠ c := by omega
      simp only [if_neg n1, if_neg n2, hcpar, if_true]
      have := inv.pairs d hd' hd0 (by omega) n1 (by omega)
      simpa only [hdc] using this
    · rcases hcc with e | e
      · rw [hcdef, e]; exact .left inv.desc
      · rw [hcdef, e]; exact .right inv.desc
  | case2 a pos h =>
    refine ⟨⟨?_, inv.bridge, inv.desc⟩, hpos⟩
    intro j hj hj0 hij hjp
    have hj' : j < a.size := hj
    exact inv.pairs j hj' hj0 hij hjp (by omega)

theorem Inv1.init {a : Array α} {i : Nat} (h : HeapFrom lt a (i + 1)) : Inv1 lt a i i := by
  refine ⟨?_, ?_, .refl⟩
  · intro j hj hj0 hij hji hpi
    exact h j hj hj0 (by omega)
  · intro hlt; omega

/-- `_siftup` at `i` extends the heap property from the subtrees below `i` to `i`. -/
theorem siftup_heapFrom (swo : SWO lt P) (a : Array α) (i : Nat) (hP : AllP P a)
    (h : HeapFrom lt a (i + 1)) : HeapFrom lt (siftup lt a i) i := by
  by_cases hi : i < a.size
  · unfold siftup
    have h2 := bubbleToLeaf_inv2 swo a i i hP hi (Inv1.init h)
    exact siftdown_heapFrom swo _ i _ (AllP.of_perm (bubbleToLeaf_perm ..) hP) h2.2 h2.1
  · -- nothing to do: no index ≥ i has a child inside the array
    have e : siftup lt a i = a := by
      unfold siftup
      have : bubbleToLeaf lt a i = (a, i) := by
        unfold bubbleToLeaf; rw [dif_neg (by omega)]
      rw [this]; unfold siftdown; simp
    rw [e]
    intro j hj hj0 hij
    omega

theorem heapFrom_half (a : Array α) : HeapFrom lt a (a.size / 2) := by
  intro j hj hj0 hij; omega

theorem heapifyLoop_heapFrom (swo : SWO lt P) (a : Array α) (k : Nat) (hP : AllP P a)
    (h : HeapFrom lt a k) : HeapFrom lt (heapifyLoop lt a k) 0 := by
  induction k generalizing a with
  | zero => exact h
  | succ k ih =>
    exact ih _ (AllP.of_perm (siftup_perm ..) hP) (siftup_heapFrom swo a k hP h)

theorem heapify_heap (swo : SWO lt P) (a : Array α) (hP : AllP P a) : HeapFrom lt (heapify lt a) 0 :=
  heapifyLoop_heapFrom swo a _ hP (heapFrom_half a)

theorem heappush_heap (swo : SWO lt P) (a : Array α) (x : α) (hP : AllP P a) (hx : P x)
    (h : HeapFrom lt a 0) : HeapFrom lt (heappush lt a x) 0 := by
  unfold heappush
  apply siftdown_heapFrom swo (a.push x) 0 a.size (hP.push hx) (by simp)
  refine ⟨?_, ?_, desc_zero _⟩
  · intro j hj hj0 _ hjn
    have hj' : j < a.size := by simp at hj; omega
    have hq : (j - 1) / 2 < a.size := by omega
    rw [Array.getElem_push_lt hj', Array.getElem_push_lt hq]
    exact h j hj' hj0 (Nat.zero_le _)
  · intro _ c hc hc0 hcp
    simp at hc; omega

theorem heappop_heap (swo : SWO lt P) (a : Array α) (x : α) (a' : Array α) (hP : AllP P a)
    (h : HeapFrom lt a 0) (hpop : heappop lt a = some (x, a')) : HeapFrom lt a' 0 := by
  obtain ⟨hpos, -, ⟨hs, rfl⟩ | ⟨h', rfl⟩⟩ := heappop_some hpop
  · intro j hj; simp [hs] at hj
  · refine siftup_heapFrom swo _ 0 ?_ ?_
    · intro j hj
      simp only [Array.getElem_set, Array.getElem_pop]
      split <;> exact hP _ _
    -- below the root nothing has changed
    intro j hj hj0 hij
    have hj' : j < a.size := by simp at hj; omega
    have n1 : 0 ≠ j := by omega
    have n2 : 0 ≠ (j - 1) / 2 := by omega
    simp only [Array.getElem_set, if_neg n1, if_neg n2, Array.getElem_pop]
    exact h j hj' hj0 (Nat.zero_le _)

theorem root_min (swo : SWO lt P) (a : Array α) (hP : AllP P a) (h : HeapFrom lt a 0)
    (j : Nat) (hj : j < a.size) : lt a[j] (a[0]'(by omega)) = false := by
  induction j using Nat.strongRecOn with
  | _ j ih =>
    rcases Nat.eq_zero_or_pos j with rfl | hj0
    · exact swo.irrefl (hP _ _)
    · have h1 := h j hj hj0 (Nat.zero_le _)
      have h2 := ih ((j - 1) / 2) (by omega) (by omega)
      exact swo.le_trans (hP _ _) (hP _ _) (hP _ _) h2 h1

theorem heappop_fst (a : Array α) (x : α) (a' : Array α) (hpop : heappop lt a = some (x, a')) :
    ∃ h : 0 < a.size, x = a[0] :=
  let ⟨h, hx, _⟩ := heappop_some hpop
  ⟨h, hx⟩

theorem heappop_eq_none_iff (a : Array α) : heappop lt a = none ↔ a.size = 0 := by
  unfold heappop
  split
  · rename_i h
    have : a.size ≠ 0 := by omega
    simp only [this, iff_false]
    split <;> simp
  · rename_i h
    simp only [true_iff]; omega

theorem heappop_subset {a : Array α} {x : α} {a' : Array α} (hpop : heappop lt a = some (x, a')) :
    ∀ y ∈ a', y ∈ a :=
  fun _ hy => (heappop_perm lt a x a' hpop).mem_iff.mp (Array.mem_push.mpr (.inl hy))

def Good (lt : α → α → Bool) (P : α → Prop) (a : Array α) : Prop := AllP P a ∧ HeapFrom lt a 0

theorem Good.push (swo : SWO lt P) {a : Array α} {x : α} (h : Good lt P a) (hx : P x) : Good lt P (heappush lt a x) :=
  ⟨.of_perm (heappush_perm ..) (h.1.push hx), heappush_heap swo a x h.1 hx h.2⟩

theorem Good.foldl_push (swo : SWO lt P) (es : List α) {a : Array α} (h : Good lt P a) (he : ∀ e ∈ es, P e) :
    Good lt P (es.foldl (heappush lt) a) := by
  induction es generalizing a with
  | nil => exact h
  | cons e es ih => exact ih (h.push swo (he e (List.mem_cons_self ..))) fun x hx => he x (List.mem_cons_of_mem _ hx)

theorem Good.heapify (swo : SWO lt P) {a : Array α} (h : AllP P a) : Good lt P (heapify lt a) :=
  ⟨.of_perm (heapify_perm ..) h, heapify_heap swo a h⟩

theorem Good.pop (swo : SWO lt P) {a a' : Array α} {x : α} (h : Good lt P a) (hp : heappop lt a = some (x, a')) :
    Good lt P a' ∧ (∃ h0 : 0 < a.size, x = a[0]) ∧ P x ∧ (∀ y ∈ a', lt y x = false) ∧ ∀ y ∈ a, lt y x = false := by
  obtain ⟨h0, rfl⟩ := heappop_fst a x a' hp
  have hall : ∀ y ∈ a, lt y a[0] = false := fun y hy => by
    obtain ⟨j, hj, rfl⟩ := Array.getElem_of_mem hy
    exact root_min swo a h.1 h.2 j hj
  exact ⟨⟨h.1.mono (heappop_subset hp), heappop_heap swo a _ a' h.1 h.2 hp⟩, ⟨h0, rfl⟩, h.1 0 h0,
    fun y hy => hall y (heappop_subset hp y hy), hall⟩

/-- The element `heappop` returns is not above anything that stays. -/
theorem Good.pop_min (swo : SWO lt P) {a a' : Array α} {x : α} (h : Good lt P a) (hp : heappop lt a = some (x, a')) :
    ∀ y ∈ a', lt y x = false :=
  (h.pop swo hp).2.2.2.1

theorem drain_mem (a : Array α) (n : Nat) (y : α) (hy : y ∈ drain lt n a) : y ∈ a := by
  induction n generalizing a with
  | zero => simp [drain] at hy
  | succ n ih =>
    unfold drain at hy
    split at hy
    · simp at hy
    · rename_i x a' hpop
      rcases List.mem_cons.mp hy with rfl | hy
      · obtain ⟨_, rfl⟩ := heappop_fst a y a' hpop
        exact Array.getElem_mem _
      · exact heappop_subset hpop y (ih a' hy)

theorem drain_sorted (swo : SWO lt P) (a : Array α) (hP : AllP P a) (h : HeapFrom lt a 0) (n : Nat) :
    (drain lt n a).Pairwise (fun x y => lt y x = false) := by
  induction n generalizing a with
  | zero => simp [drain]
  | succ n ih =>
    unfold drain
    split
    · exact .nil
    · rename_i x a' hpop
      have g := (Good.pop swo ⟨hP, h⟩ hpop).1
      have hmin := Good.pop_min swo ⟨hP, h⟩ hpop
      exact .cons (fun y hy => hmin y (drain_mem a' n y hy)) (ih a' g.1 g.2)

theorem drain_perm (a : Array α) (n : Nat) (hn : a.size ≤ n) : (drain lt n a).Perm a.toList := by
  induction n generalizing a with
  | zero =>
    have : a = #[] := Array.eq_empty_of_size_eq_zero (by omega)
    subst this; simp [drain]
  | succ n ih =>
    unfold drain
    split
    · rename_i hnone
      have : a = #[] := Array.eq_empty_of_size_eq_zero ((heappop_eq_none_iff a).mp hnone)
      subst this; simp
    · rename_i x a' hpop
      have hp := heappop_perm lt a x a' hpop
      have hs : a'.size + 1 = a.size := by simpa using hp.size_eq
      have h2 : (x :: a'.toList).Perm a.toList := by
        have := Array.perm_iff_toList_perm.mp hp
        simp only [Array.toList_push] at this
        exact (List.perm_append_comm (l₁ := [x]) (l₂ := a'.toList)).trans this
      exact ((ih a' (by omega)).cons x).trans h2

/-- The loop of Python's `min` (keep the candidate unless the next element is `<` it): the result
is the start value or a later element, and nothing seen is `<` it. -/
theorem foldl_min_spec (swo : SWO lt P) (ys : List α) (best m : α) (hb : P best) (hP : ∀ y ∈ ys, P y)
    (hm : ys.foldl (fun best y => if lt y best then y else best) best = m) :
    m ∈ best :: ys ∧ ∀ z ∈ best :: ys, lt z m = false := by
  induction ys generalizing best with
  | nil =>
    subst hm
    exact ⟨by simp, by simpa using swo.irrefl hb⟩
  | cons y ys ih =>
    have hy : P y := hP y (by simp)
    have hys : ∀ z ∈ ys, P z := fun z hz => hP z (by simp [hz])
    simp only [List.foldl_cons] at hm
    cases hlt : lt y best with
    | true =>
      -- `y` is the new candidate, and `y ≤ best`
      simp only [hlt, if_true] at hm
      obtain ⟨hmem, hmin⟩ := ih y hy hys hm
      have hPm : P m := hP m hmem
      refine ⟨List.mem_cons_of_mem _ hmem, fun z hz => ?_⟩
      rcases List.mem_cons.mp hz with rfl | hz
      · exact swo.le_trans hPm hy hb (hmin y (by simp)) (swo.asymm hy hb hlt)
      · exact hmin z hz
    | false =>
      -- `best` stays, and `best ≤ y`
      simp only [hlt, Bool.false_eq_true, if_false] at hm
      obtain ⟨hmem, hmin⟩ := ih best hb hys hm
      have hPm : P m := by
        rcases List.mem_cons.mp hmem with rfl | h
        · exact hb
        · exact hys _ h
      refine ⟨?_, fun z hz => ?_⟩
      · rcases List.mem_cons.mp hmem with rfl | h <;> simp [*]
      · rcases List.mem_cons.mp hz with rfl | hz
        · exact hmin z (by simp)
        · rcases List.mem_cons.mp hz with rfl | hz
          · exact swo.le_trans hPm hb hy (hmin best (by simp)) hlt
          · exact hmin z (by simp [hz])

theorem minFirst_spec (swo : SWO lt P) (l : List α) (hP : ∀ x ∈ l, P x) (m : α)
    (h : minFirst lt l = some m) : m ∈ l ∧ ∀ y ∈ l, lt y m = false := by
  cases l with
  | nil => simp [minFirst] at h
  | cons x xs =>
    simp only [minFirst, Option.some.injEq] at h
    exact foldl_min_spec swo xs x m (hP x (by simp)) (fun y hy => hP y (by simp [hy])) h

end ErdosVerif.Model.Heap
