/-
C15 (Clockwork model), part 4: what one `schedule` invocation from an invariant state
guarantees.
-/
import ErdosVerif.Lemmas.ClockworkLoop
import ErdosVerif.Lemmas.ClockworkAdmit

namespace ErdosVerif.Clockwork

/-- Everything the property theorems need about the result `r` of one invocation from an
invariant state `st`. -/
structure StepSpec (c : Cfg) (st : SState) (inv : Invocation) (r : SState × StepOut) : Prop
    extends SStep c st r.1 inv.offered where
  placed_from : ∀ b ∈ r.2.batches, ∀ tid ∈ b.tids, tid ∈ allTids st ∨ tid ∈ inv.offered
  placed_gone : ∀ b ∈ r.2.batches, ∀ tid ∈ b.tids, tid ∉ allTids r.1
  placed_nodup : (r.2.batches.flatMap (·.tids)).Nodup
  ok : ∀ b ∈ r.2.batches, ∃ wv, inv.workers[b.worker]? = some wv ∧
    BatchOK c inv.now b.worker wv.loaded b
  fits : ∀ w wv, inv.workers[w]? = some wv →
    (fitsRun c wv.avail (r.2.batches.filter (fun b => b.worker == w))).isSome
  cancel_hopeless : r.2.err = none → ∀ tid ∈ inv.offered,
    Hopeless c inv.now tid → tid ∈ r.2.cancels
  cancel_only : ∀ x ∈ r.2.cancels, x ∈ inv.offered ∧ Hopeless c inv.now x

/-- A result that reports an exception carries neither batches nor cancellations. -/
theorem StepSpec.error {c : Cfg} {st st' : SState} {inv : Invocation} {e : String} {fo : Bool}
    (h : SStep c st st' inv.offered) :
    StepSpec c st inv (st', { err := some e, cancels := [], batches := [], fuelOut := fo }) :=
  ⟨h, by simp, by simp, by simp, by simp, fun _ _ _ => by simp [fitsRun], nofun, by simp⟩

theorem schedule_spec {c : Cfg} {st : SState} (h : SInv c st) (inv : Invocation) :
    StepSpec c st inv (schedule c st inv) := by
  obtain ⟨ha, hcancel⟩ := admitAll_spec inv.now inv.offered h
  unfold schedule
  split
  · rename_i st1 cs e heq
    rw [heq] at ha
    exact .error ha
  · rename_i st1 cs heq
    rw [heq] at ha hcancel
    split
    · exact .error ha
    · have hi := inferFrom_spec inv.now 0 inv.workers ha.sinv
      split
      · rename_i st2 bs e fo heq2
        rw [heq2] at hi
        exact .error (ha.shrink hi.sstep)
      · rename_i st2 bs fo heq2
        rw [heq2] at hi
        have hc := hcancel rfl
        refine ⟨ha.shrink hi.sstep, fun b hb tid ht => ha.sub tid (hi.placed.from0 b hb tid ht),
          hi.placed.gone, hi.placed.nodup, fun b hb => ?_, fun w wv hw => ?_, fun _ => hc.1, hc.2⟩
        · obtain ⟨k, wv, e1, e2, e3⟩ := hi.ok b hb
          obtain rfl : b.worker = k := by omega
          exact ⟨wv, e2, by simpa using e3⟩
        · simpa using hi.fits w wv hw

end ErdosVerif.Clockwork
