/-
C20: `sumBy`, and the arithmetic of the slot that holds a time.
-/
import ErdosVerif.Model.StrlSem
import ErdosVerif.Lemmas.Isum
namespace ErdosVerif.Strl

open ErdosVerif.Mip

@[simp] theorem sumBy_nil {α : Type} (f : α → Int) : sumBy f [] = 0 := rfl
@[simp] theorem sumBy_cons {α : Type} (f : α → Int) (a : α) (l : List α) :
    sumBy f (a :: l) = f a + sumBy f l := rfl

/-- `sumBy` is the sum of `Model/Mip.lean`: its facts are those of `Lemmas/Isum.lean`. -/
theorem sumBy_eq_isum {α : Type} (f : α → Int) (l : List α) : sumBy f l = isum (l.map f) := by
  induction l with
  | nil => rfl
  | cons a l ih => simp [ih]

theorem sumBy_append {α : Type} (f : α → Int) (l₁ l₂ : List α) :
    sumBy f (l₁ ++ l₂) = sumBy f l₁ + sumBy f l₂ := by
  simp only [sumBy_eq_isum, List.map_append, isum_append]

theorem sumBy_le_sumBy {α : Type} (f g : α → Int) (l : List α) (h : ∀ a ∈ l, f a ≤ g a) :
    sumBy f l ≤ sumBy g l := by
  simpa only [sumBy_eq_isum] using isum_map_le h

theorem sumBy_congr {α : Type} (f g : α → Int) (l : List α) (h : ∀ a ∈ l, f a = g a) :
    sumBy f l = sumBy g l := by
  simpa only [sumBy_eq_isum] using isum_map_eq h

theorem sumBy_zero {α : Type} (f : α → Int) (l : List α) (h : ∀ a ∈ l, f a = 0) :
    sumBy f l = 0 := by
  simpa only [sumBy_eq_isum] using isum_map_zero h

theorem sumBy_nonneg {α : Type} (f : α → Int) (l : List α) (h : ∀ a ∈ l, 0 ≤ f a) :
    0 ≤ sumBy f l := by
  simpa only [sumBy_eq_isum] using isum_map_nonneg h

theorem eq_of_sumBy_eq {α : Type} (f g : α → Int) (l : List α) (h : ∀ a ∈ l, f a ≤ g a)
    (hs : sumBy f l = sumBy g l) : ∀ a ∈ l, f a = g a :=
  eq_of_isum_eq h (by simp only [← sumBy_eq_isum, hs, Int.le_refl])

theorem sumBy_eq_zero {α : Type} (f : α → Int) (l : List α) (h : ∀ a ∈ l, 0 ≤ f a)
    (hs : sumBy f l = 0) : ∀ a ∈ l, f a = 0 := fun a ha =>
  (eq_of_sumBy_eq (fun _ => 0) f l h (by rw [hs, sumBy_zero _ l fun _ _ => rfl]) a ha).symm

theorem sumBy_map {α β : Type} (f : β → Int) (g : α → β) (l : List α) :
    sumBy f (l.map g) = sumBy (fun a => f (g a)) l := by
  simp only [sumBy_eq_isum, List.map_map, Function.comp_def]

theorem sumBy_flatMap {α β : Type} (f : β → Int) (g : α → List β) (l : List α) :
    sumBy f (l.flatMap g) = sumBy (fun a => sumBy f (g a)) l := by
  simp only [sumBy_eq_isum, isum_flatMap]

theorem sumBy_sublist_le {α : Type} (f : α → Int) {l₁ l₂ : List α} (hs : l₁.Sublist l₂)
    (h : ∀ a ∈ l₂, 0 ≤ f a) : sumBy f l₁ ≤ sumBy f l₂ := by
  simpa only [sumBy_eq_isum] using isum_sublist_le hs h

theorem sumBy_one {α : Type} (l : List α) : sumBy (fun _ => 1) l = l.length := by
  simpa only [sumBy_eq_isum] using isum_map_one l

theorem sumBy_mem_le {α : Type} (f : α → Int) (l : List α) (h : ∀ a ∈ l, 0 ≤ f a)
    (a : α) (ha : a ∈ l) : f a ≤ sumBy f l := by
  simpa only [sumBy_eq_isum] using le_isum_map h ha

theorem exists_one_of_sum_one {α : Type} (f : α → Int) (l : List α) (hnn : ∀ a ∈ l, 0 ≤ f a)
    (hsum : sumBy f l = 1) : ∃ a ∈ l, f a = 1 := by
  -- some member is not 0, and a member is at most the sum
  obtain ⟨a, ha, h0⟩ := exists_of_isum_ne_zero (l := l) (f := f) (by rw [← sumBy_eq_isum, hsum]; decide)
  have := sumBy_mem_le f l hnn a ha
  have := hnn a ha
  exact ⟨a, ha, by omega⟩

/-- Non-negative integer weights that sum to 1 pick out one member: a weighted sum is the value
at any member of weight 1. -/
theorem sumBy_mul_pick {α : Type} (f g : α → Int) (l : List α) (hnn : ∀ a ∈ l, 0 ≤ f a)
    (hsum : sumBy f l = 1) : ∀ r ∈ l, f r = 1 → sumBy (fun a => g a * f a) l = g r := fun r hr h1 => by
  simpa only [sumBy_eq_isum] using isum_mul_pick hnn (by rw [← sumBy_eq_isum, hsum]; decide) hr h1 g

theorem sumBy_mul_const {α : Type} (f : α → Int) (c : Int) (l : List α) :
    sumBy (fun a => c * f a) l = c * sumBy f l := by
  simpa only [sumBy_eq_isum] using isum_map_mul_left l c f

/-- `(l.map f).sum` (used by the model's `evalTerms`) is `sumBy`. -/
theorem map_sum_eq_sumBy {α : Type} (f : α → Int) (l : List α) : (l.map f).sum = sumBy f l := by
  induction l with
  | nil => simp
  | cons a l ih => simp [ih]

/-- The registration time (`start + j·g`) of the slot that contains `t`, for leaves whose
start is congruent to `r` modulo `g`. -/
def slotKey (g r t : Nat) : Nat := t - (t - r) % g

theorem slotKey_mem (g start dur t r : Nat) (hg : 0 < g) (hs : start % g = r)
    (h1 : start ≤ t) (h2 : t < start + dur) : slotKey g r t ∈ slotTimes g start dur := by
  unfold slotKey slotTimes
  -- d = t - start = g * j + m
  have hd := Nat.div_add_mod (t - start) g
  have hm := Nat.mod_lt (t - start) hg
  have hsd := Nat.div_add_mod start g
  rw [hs] at hsd
  have hr : r ≤ start := by omega
  -- t - r = g * (start / g + (t - start) / g) + (t - start) % g
  have e1 : t - r = g * (start / g + (t - start) / g) + (t - start) % g := by
    rw [Nat.mul_add]; omega
  have e2 : (t - r) % g = (t - start) % g := by
    rw [e1, Nat.mul_add_mod]; exact Nat.mod_eq_of_lt hm
  rw [e2]
  apply List.mem_map.mpr
  refine ⟨(t - start) / g, ?_, ?_⟩
  · apply List.mem_range.mpr
    -- (j + 1) * g ≤ dur + g - 1
    have : (t - start) / g + 1 ≤ (dur + g - 1) / g := by
      apply (Nat.le_div_iff_mul_le hg).mpr
      rw [Nat.add_mul, Nat.mul_comm]; omega
    omega
  · rw [Nat.mul_comm]; omega

end ErdosVerif.Strl
