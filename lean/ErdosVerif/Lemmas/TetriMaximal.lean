/-
Adding one rewarded task to a plan raises the reward by at least one unit (`den`), hence —
by completeness — the objective of some feasible point; within the solvers' relative gap
this cannot happen below ten units of reward.  The check gets the ten-unit premise per instance
from `objBound` (every rewarded task at its best cell), which bounds the objective.
-/
import ErdosVerif.Lemmas.TetriExact
namespace ErdosVerif.Tetri
open ErdosVerif.Mip ErdosVerif.TetriSpec

variable {I : Inst}

theorem plan_get_set {plan : Plan} {t : Nat} (ht : t < plan.length) (x : Option Cell) (t' : Nat) :
    Plan.get (plan.set t x) t' = if t' = t then x else plan.get t' := by
  simp only [Plan.get, List.getD_eq_getElem?_getD, List.getElem?_set]
  by_cases h : t = t'
  · subst h; simp [ht]
  · simp [h, Ne.symm h]

theorem isum_map_update {l : List Nat} (hn : l.Nodup) {t : Nat} (ht : t ∈ l) (f g : Nat → Int)
    (h : ∀ a ∈ l, a ≠ t → g a = f a) : isum (l.map g) = isum (l.map f) + (g t - f t) := by
  induction l with
  | nil => simp at ht
  | cons x xs ih =>
    have hnx := List.nodup_cons.mp hn
    simp only [List.map_cons, isum_cons]
    by_cases hx : x = t
    · subst hx
      have : isum (xs.map g) = isum (xs.map f) :=
        isum_map_eq (fun a ha => h a (by simp [ha]) (by intro e; subst e; exact hnx.1 ha))
      omega
    · have := ih hnx.2 ((List.mem_cons.mp ht).resolve_left (Ne.symm hx)) (fun a ha => h a (by simp [ha]))
      have hgx := h x (by simp) hx
      omega

theorem planReward_set {plan : Plan} (hlen : plan.length = I.nT) {t : Nat} (ht : t ∈ I.nonRunning)
    (hrew : I.rewarded t = true) (hun : plan.get t = none) (q : Cell) :
    planReward I (plan.set t (some q)) = planReward I plan + I.rew q.2.1 := by
  unfold planReward
  have htl : t < plan.length := by rw [hlen]; exact (mem_nonRunning.mp ht).1
  have hnd : (I.act.filter I.rewarded).Nodup :=
    List.Nodup.sublist List.filter_sublist (List.Nodup.sublist List.filter_sublist List.nodup_range)
  have hmem : t ∈ I.act.filter I.rewarded := List.mem_filter.mpr ⟨act_of_nonRunning ht, hrew⟩
  rw [isum_map_update hnd hmem (rewOf I plan) (rewOf I (plan.set t (some q)))]
  · simp [rewOf, plan_get_set htl, hun, (mem_nonRunning.mp ht).2.2]
  · intro a _ hne
    simp [rewOf, plan_get_set htl, hne]

/-- If the plan decoded from a feasible point stays valid when a rewarded, unplaced task is added
at some cell, then some feasible point earns at least one unit (`den`) more: the witness of the
extended plan. -/
theorem extension_improves {σ : Var → Int} (h : sat σ (gen I)) (hwf : I.wf = true)
    (hm : I.noModel = false) (hac : I.cplex = false → wfAcyclic I = true)
    {t : Nat} (ht : t ∈ I.nonRunning) (hrew : I.rewarded t = true)
    (hun : (planOf I σ).get t = none) {q : Cell} (hv' : ValidPlan I ((planOf I σ).set t (some q))) :
    ∃ σ', sat σ' (gen I) ∧ objective σ (gen I) + (I.den : Int) ≤ objective σ' (gen I) := by
  obtain ⟨σ', hs', _, ho'⟩ := tetri_complete hv' hwf hm hac
  refine ⟨σ', hs', ?_⟩
  have hq : q.2.1 < I.nSlots := by
    have hg : Plan.get ((planOf I σ).set t (some q)) t = some q := by
      rw [plan_get_set (by rw [planOf_length]; exact (mem_nonRunning.mp ht).1)]; simp
    exact (hv'.wf t q (mem_nonRunning.mp ht).1 (mem_nonRunning.mp ht).2.2 hg).2.1
  rw [ho', planReward_set (planOf_length I σ) ht hrew hun q, objective_eq_planReward h hwf hm]
  have := (rew_bounds I hq).1
  omega

theorem foldl_max_ge {α : Type} (f : α → Int) (l : List α) (init : Int) :
    init ≤ l.foldl (fun acc q => max acc (f q)) init ∧
    ∀ q ∈ l, f q ≤ l.foldl (fun acc q => max acc (f q)) init := by
  induction l generalizing init with
  | nil => simp
  | cons x xs ih =>
    simp only [List.foldl_cons, List.mem_cons, forall_eq_or_imp]
    have h := ih (max init (f x))
    refine ⟨by have := h.1; omega, by have := h.1; omega, h.2⟩

theorem zero_le_maxRew (I : Inst) (t : Nat) : 0 ≤ maxRew I t := by
  unfold maxRew
  split
  · exact (foldl_max_ge _ _ 0).1
  · omega

theorem rew_le_maxRew {t : Nat} {q : Nat × Nat × Nat} (hq : q ∈ I.keys t)
    (hv : I.hasVar t q.1 q.2.1 q.2.2 = true) : I.rew q.2.1 ≤ maxRew I t := by
  unfold maxRew
  rw [if_pos (List.any_eq_true.mpr ⟨q, hq, hv⟩)]
  exact (foldl_max_ge (fun q : Nat × Nat × Nat => I.rew q.2.1) _ 0).2 q (List.mem_filter.mpr ⟨hq, hv⟩)

theorem objective_le_objBound {σ : Var → Int} (h : sat σ (gen I)) (hwf : I.wf = true)
    (hm : I.noModel = false) : objective σ (gen I) ≤ objBound I := by
  rw [objective_eq_planReward h hwf hm]
  unfold planReward objBound
  apply isum_map_le
  intro t ht
  unfold rewOf
  rw [planOf_get_act σ (List.mem_filter.mp ht).1]
  cases hr : I.running t with
  | true => cases hc : I.cplex <;> simp [pick, hr, runningCell]
  | false =>
    simp only [hr, Bool.and_false, Bool.false_eq_true, if_false, pick]
    cases hch : I.chosen σ t with
    | none => exact zero_le_maxRew I t
    | some c => exact rew_le_maxRew (chosen_spec hch).1 (chosen_spec hch).2.1

end ErdosVerif.Tetri
