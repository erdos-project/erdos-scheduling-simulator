import ErdosVerif.Lemmas.SimProgressHandlers
/-!
Progress of the `simulate()` loop: `__step(dt)`, `__handle_event`, the constructor, one iteration.

Every RUNNING task whose remaining time reaches 0 in this step is reported by `Task.step`
(it joins `finished`), gets a TASK_FINISHED event stamped with the new clock value, and the
event is queued after the clock moved. A RUNNING task whose remaining time was already 0 is
not reported again: its event is still in the queue. The invariant used in the loops is
uniform (it does not say which tasks have been stepped), so `dt` is arbitrary here.

From `advanceClock` to the `.pop` entry of the popped event the shape of the history may be broken (two equal clock
entries when `dt = 0`): `PGC`, `popped`. The handlers are those of `Lemmas/SimWalk.lean` for the assertion `PI`.
-/
open Std.Do
set_option mvcgen.warning false

namespace ErdosVerif.Model.Sim

/-- The state with the pop entry that the loop is about to append (only its place in the
clock / pop skeleton matters). -/
def popped (s : SimS) : SimS := { s with log := s.log.push (.pop 0 0) }

/-- Inside `__step`: `fin` = tasks reported finished and not yet given an event, `evs` =
events created and not yet queued, `n'` = the clock value after the step. -/
structure PGS (n' : Int) (fin : List TaskId) (evs : List SEvent) (s : SimS) : Prop where
  pre : ∀ t x, taskAt s.graphs t = some x → x.PreOK
  due : ∀ t x, taskAt s.graphs t = some x → x.state = .running → x.remaining = some 0 →
    pg_Due (s.queue.toList ++ evs) n' t ∨ t ∈ fin
  eids : EInv (s.queue.toList ++ evs) s.future s.nextSched s.nextEid
  allQ : ∀ g ∈ s.allGraphs.toList, g.Quiet
  tmplQ : ∀ j ∈ s.jobs.toList, j.template.Quiet
  lg : LG s.log.toList s.now

section
variable {n n' dt : Int} {T : Option Int} {fin : List TaskId} {e : SEvent} {evs rest : List SEvent} {s : SimS}

theorem PGS.init (h : PG none [] s ∧ s.now = n) (hdt : ¬ dt < 0) : PGS (n + dt) [] [] s := by
  refine ⟨h.1.pre, ?_, h.1.eids, h.1.allQ, h.1.tmplQ, h.1.lg⟩
  intro t x ht hs hr
  obtain ⟨e, he, h1, h2, h3⟩ := h.1.due t x ht hs hr (by simp)
  exact Or.inl ⟨e, he, h1, h2, by rw [h.2] at h3; omega⟩

theorem PGS.setPools (h : PGS n' fin evs s) (p : Array Pool) : PGS n' fin evs { s with pools := p } :=
  ⟨h.pre, h.due, h.eids, h.allQ, h.tmplQ, h.lg⟩

theorem doStep_facts (x : TaskS) (now dt : Int) :
    (x.doStep now dt).1.pre = x.pre ∧
    ((x.doStep now dt).2 = false → (x.doStep now dt).1.remaining = some 0 → (x.doStep now dt).1 = x) := by
  rcases TaskS.doStep_cases x now dt with ⟨_, e⟩ | ⟨r, _, _, _, _, ⟨_, e⟩ | ⟨hpos, e⟩⟩ <;> rw [e]
  · exact ⟨rfl, fun _ _ => rfl⟩
  · exact ⟨rfl, nofun⟩
  · exact ⟨rfl, fun _ h => absurd (Option.some.inj h) (by omega)⟩

/-- One `Task.step` in the innermost loop; `g1`, `x1` are what `getTask` read and `g2`, `x2`
what `taskCall` read. -/
theorem PGS.taskStep {fin' : List TaskId} {t : TaskId} {g1 g2 : GraphS} {x1 x2 : TaskS} (h : PGS n' fin [] s)
    (m0 : Int) (hg1 : s.graphs[t.g]? = some g1) (hx1 : g1.task? t.t = some x1)
    (hg2 : s.graphs[t.g]? = some g2) (hx2 : g2.task? t.t = some x2)
    (hfin' : (fin' = fin ∧ ¬ (x1.doStep m0 dt).2 = true) ∨ fin' = fin ++ [t]) :
    PGS n' fin' [] { s with graphs := s.graphs.setIfInBounds t.g (g2.setTask t.t (x2.call (.step m0 dt)).1) } := by
  obtain rfl : g2 = g1 := Option.some.inj (hg2.symm.trans hg1)
  obtain rfl : x2 = x1 := Option.some.inj (hx2.symm.trans hx1)
  have hT : taskAt s.graphs t = some x2 := taskAt_of _ _ g2 x2 hg2 hx2
  obtain ⟨k1, k3⟩ := doStep_facts x2 m0 dt
  obtain ⟨hT't, hT'o⟩ := taskAt_setTask s.graphs t g2 x2 (x2.doStep m0 dt).1 hg2 hx2
  have hsub : ∀ u ∈ fin, u ∈ fin' := by
    rcases hfin' with ⟨rfl, _⟩ | rfl
    · exact fun _ hu => hu
    · exact fun _ hu => List.mem_append_left _ hu
  refine ⟨?_, ?_, h.eids, h.allQ, h.tmplQ, h.lg⟩
  · intro u y (hu : taskAt (s.graphs.setIfInBounds t.g (g2.setTask t.t (x2.doStep m0 dt).1)) u = some y)
    by_cases hut : u = t
    · subst hut
      rw [hT't] at hu; cases hu
      have := h.pre u x2 hT
      unfold TaskS.PreOK at this ⊢
      rw [k1]; exact this
    · rw [hT'o u hut] at hu; exact h.pre u y hu
  · intro u y (hu : taskAt (s.graphs.setIfInBounds t.g (g2.setTask t.t (x2.doStep m0 dt).1)) u = some y) hs hr
    by_cases hut : u = t
    · subst hut
      rw [hT't] at hu; cases hu
      rcases hfin' with ⟨_, h2⟩ | rfl
      · -- not reported: the task is as it was, and was covered
        rw [k3 (by simpa using h2) hr] at hs hr
        exact (h.due u x2 hT hs hr).imp_right (hsub u)
      · exact Or.inr (by simp)
    · rw [hT'o u hut] at hu
      exact (h.due u y hu hs hr).imp_right (hsub u)

theorem PGS.mkEvent {t : TaskId} {rest : List TaskId} (e : SEvent) (h : PGS n' (t :: rest) evs s)
    (hty : e.ev.etype = ET.taskFinished) (htid : e.tid = some t) (hetime : e.ev.time = n') (heid : e.ev.eid = s.nextEid) :
    PGS n' rest (evs ++ [e]) { s with nextEid := s.nextEid + 1 } := by
  have hmem : ∀ e' ∈ s.queue.toList ++ (evs ++ [e]), e' ∈ s.queue.toList ++ evs ∨ e' = e := by
    intro e' he'
    rw [← List.append_assoc] at he'
    exact (List.mem_append.mp he').imp_right List.mem_singleton.mp
  refine ⟨h.pre, ?_, h.eids.fresh heid hmem, h.allQ, h.tmplQ, h.lg⟩
  intro u y hu hs hr
  rcases h.due u y hu hs hr with ⟨e1, he1, h1⟩ | h3
  · refine Or.inl ⟨e1, ?_, h1⟩
    rw [← List.append_assoc]; exact List.mem_append_left _ he1
  · rcases List.mem_cons.mp h3 with rfl | h4
    · refine Or.inl ⟨e, ?_, hty, htid, by rw [hetime]; exact Int.le_refl _⟩
      rw [← List.append_assoc]; exact List.mem_append_right _ (List.mem_singleton.mpr rfl)
    · exact Or.inr h4

def PGC (dt : Int) (ex : List SEvent) (s : SimS) : Prop :=
  PG none ex (popped s) ∧ (0 < dt → PG none ex s)

theorem PGS.clock (h : PGS n' [] evs s) (hn' : n' = s.now + dt) :
    PGC dt evs { s with now := s.now + dt, log := s.log.push (.clock (s.now + dt)) } := by
  have hdue : ∀ t x, taskAt s.graphs t = some x → x.state = .running → x.remaining = some 0 → some t ≠ none →
      pg_Due (s.queue.toList ++ evs) (s.now + dt) t := by
    intro t x ht hs hr _
    rcases h.due t x ht hs hr with h1 | h1
    · rw [← hn']; exact h1
    · cases h1
  constructor
  · refine ⟨h.pre, hdue, h.eids, h.allQ, h.tmplQ, ?_⟩
    show LG ((s.log.push (.clock (s.now + dt))).push (.pop 0 0)).toList (s.now + dt)
    unfold LG
    rw [pg_skel_push_pop, pg_skel_push_clock]
    exact ⟨SF.clock_pop h.lg.1, by intro a ha; simp at ha⟩
  · intro hpos
    refine ⟨h.pre, hdue, h.eids, h.allQ, h.tmplQ, ?_⟩
    show LG (s.log.push (.clock (s.now + dt))).toList (s.now + dt)
    unfold LG
    rw [pg_skel_push_clock]
    refine ⟨SF.clock_strict h.lg.1 h.lg.2 (by omega), fun a ha => ?_⟩
    rw [List.getLast?_concat] at ha
    cases ha; rfl

theorem PGC.addEvent (h : PGC dt (e :: rest) s) :
    PGC dt rest { s with queue := Heap.heappush SEvent.lt s.queue e } :=
  ⟨PG.queueEx (c := []) h.1, fun hpos => PG.queueEx (c := []) (h.2 hpos)⟩

end

/-- Invariant of the three nested loops that step the tasks (`p.2` = tasks reported so far). -/
abbrev stepLoop (n dt : Int) {α : Type} {xs : List α} :
    PostCond (List.Cursor xs × List TaskId) (.except SErr (.arg SimS .pure)) :=
  post⟨fun p s => ⌜PGS (n + dt) p.2 [] s ∧ s.now = n⌝, fun _ _ => ⌜True⌝⟩

theorem step_p (n dt : Int) :
    ⦃fun s => ⌜PG none [] s ∧ s.now = n⌝⦄ step dt
    ⦃post⟨fun _ s' => ⌜PGC dt [] s' ∧ s'.now = n + dt⌝, fun _ _ => ⌜True⌝⟩⦄ := by
  mvcgen -trivial [step, getPool, setPool, getTask, getGraph, taskCall, setGraph, raiseTask, mkEvent, uniqueName,
    advanceClock, addEvent] invariants
  · stepLoop n dt
  · stepLoop n dt
  · stepLoop n dt
  · post⟨fun p s => ⌜PGS (n + dt) p.1.suffix p.2 s ∧ s.now = n⌝, fun _ _ => ⌜True⌝⟩
  · post⟨fun p s => ⌜PGC dt p.1.suffix s ∧ s.now = n + dt⌝, fun _ _ => ⌜True⌝⟩
  with try first | rfl | assumption
  -- `Task.step` reported the task / did not report it
  · rename_i h _ hg1 _ hx1 _ _ hg2 _ hx2 _ _ _ _
    exact ⟨h.1.taskStep _ hg1 hx1 hg2 hx2 (Or.inr rfl), h.2⟩
  · rename_i h _ hg1 _ hx1 _ _ hg2 _ hx2 _ _ hrep
    exact ⟨h.1.taskStep _ hg1 hx1 hg2 hx2 (Or.inl ⟨rfl, hrep⟩), h.2⟩
  · rename_i h _ _ _
    exact ⟨h.1.setPools _, h.2⟩
  · rename_i hdt _ h _ _
    exact ⟨PGS.init h hdt, h.2⟩
  -- the new event is stamped `now + dt` with the clock value read at the start
  · have hn := congrArg (· + dt) ‹PG none [] _ ∧ _›.2
    have h := ‹PGS _ _ _ _ ∧ _›
    exact ⟨h.1.mkEvent _ rfl rfl hn rfl, h.2⟩
  · rename_i h _
    exact ⟨h.1.addEvent, h.2⟩
  · rename_i h _
    exact ⟨h.1.clock (by rw [h.2]), congrArg (· + dt) h.2⟩

theorem logPop_p (ev : SEvent) (a : Int) (b : Nat) :
    ⦃fun s => ⌜PG none [ev] (popped s) ∧ ev.ev.time ≤ s.now⌝⦄ logE (.pop a b)
    ⦃post⟨fun _ => Hold PI { cur := some ev }, fun _ _ => ⌜True⌝⟩⦄ := by
  mvcgen [logE]
  have h := ‹_ ∧ _›
  exact ⟨h.1.benign (hlg := LG.congr ((pg_skel_push_pop _ _ _).trans (pg_skel_push_pop _ _ _).symm)),
    fun _ he => Option.some.inj he ▸ h.2⟩

theorem ne_fin_of_not {ty : Nat} (h : ¬ (ty == ET.taskFinished) = true) : ty ≠ ET.taskFinished :=
  fun he => h (beq_iff_eq.mpr he)

theorem handleEvent_p (ev : SEvent) :
    ⦃fun s => ⌜PG none [ev] (popped s) ∧ ev.ev.time ≤ s.now⌝⦄ handleEvent ev
    ⦃post⟨fun _ => PA [], fun _ _ => ⌜True⌝⟩⦄ := by
  have h := handleEvent_from PI.closed ev (logPop_p ev ev.ev.time ev.ev.etype)
  mvcgen [h]
  exact fun _ h _ => h.inv

theorem init_p : KeepsP [] init := by
  have h := init_w PI.closed
  mvcgen [h]
  · exact ⟨‹_›, fun _ he => nomatch he⟩
  · exact fun _ h => h.inv

/-- What the loop head must know to exclude a zero-length step without a pop. -/
def NoStallPre (s : SimS) : Prop :=
  ∀ t ∈ placedList s, ∀ x, taskAt s.graphs t = some x → x.remainingTime = .ok 0 →
    ∀ head, s.queue[0]? = some head → head.ev.time ≤ s.now

/-- **The non-popping branch advances the clock**: a `dt` that stops short of the next event is the remaining time of
a placed task, and not 0, or the event would be due. -/
theorem minRem_pos {s : SimS} {head : SEvent} {dt : Int} (h : StepBy s head dt) (hns : NoStallPre s)
    (hlt : dt < head.ev.time - s.now) (h0 : 0 ≤ dt) : 0 < dt := by
  rcases Int.lt_or_eq_of_le h0 with hpos | hz
  · exact hpos
  · obtain ⟨t, ht, g, x, hg, hx, hr⟩ := h.short hlt
    have := hns t ht x (taskAt_of _ _ g x hg hx) (hz ▸ hr) head h.root
    omega

theorem PG.afterPop {s : SimS} {e : SEvent} {q' : Array SEvent} (h : PG none [] (popped s))
    (hpop : Heap.heappop SEvent.lt s.queue = some (e, q')) : PG none [e] (popped { s with queue := q' }) := by
  have hp := perm_heappop s.queue q' e [] hpop
  exact h.benign (hq := fun _ he _ => hp.subset he) (hq2 := fun _ he _ => hp.symm.subset he)

theorem iter_p : ⦃fun s => ⌜PG none [] s ∧ NoStallPre s⌝⦄ iter ⦃post⟨fun _ s => ⌜PG none [] s⌝, fun _ _ => ⌜True⌝⟩⦄ :=
  iter_triple (Q := fun s0 dt s => PGC dt [] s ∧ s.now = s0.now + dt)
    (H := fun e s => PG none [e] (popped s) ∧ e.ev.time ≤ s.now) (fun _ _ => trivial)
    (fun s0 _ dt h0 s hs => step_p s0.now dt s ⟨hs.1 ▸ h0.1, by rw [hs.1]⟩) handleEvent_p
    -- the branch that does not pop: the clock moved by a positive amount, so the log shape holds again
    (fun _ _ _ _ h0 hb hlt h hs => h.1.2 (minRem_pos hb h0.2 hlt hs.nonneg))
    (fun _ _ _ _ _ _ _ h _ hp hdue => ⟨h.1.1.afterPop hp, Int.le_of_eq hdue.symm⟩)

end ErdosVerif.Model.Sim
