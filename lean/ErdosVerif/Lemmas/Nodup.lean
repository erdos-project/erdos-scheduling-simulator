/-! Two facts about `List.Nodup` that the graph, ledger, planner and simulator lemmas share. -/
namespace ErdosVerif

theorem nodup_concat {α : Type} {l : List α} {a : α} (h : l.Nodup) (ha : a ∉ l) : (l ++ [a]).Nodup :=
  List.nodup_append.mpr ⟨h, List.pairwise_singleton _ a, fun _ hx _ hy e => ha (List.mem_singleton.mp hy ▸ e ▸ hx)⟩

theorem eq_of_nodup_map {α β : Type} (f : α → β) {l : List α} (h : (l.map f).Nodup) {a b : α}
    (ha : a ∈ l) (hb : b ∈ l) (e : f a = f b) : a = b :=
  have hne : l.Pairwise (fun x y => f x ≠ f y) := List.pairwise_map.mp h
  List.Pairwise.forall_of_forall_of_flip (R := fun x y => f x = f y → x = y) (fun _ _ _ => rfl)
    (hne.imp fun hn e => absurd e hn) (hne.imp fun hn e => absurd e.symm hn) ha hb e

end ErdosVerif
