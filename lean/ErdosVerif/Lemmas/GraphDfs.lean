/-
Properties of the iterative `depth_first` model (`Graph.dfsLoop`,
`Graph.depthFirstWith`): fuel sufficiency, absence of errors on closed graphs,
yielded set = reachable set, `Nodup` of the repaired generator and
"former generator (`skip = false`) with duplicates dropped = repaired generator".

Everything is stated for an explicit `skip` flag (see `dfsSkipVisitedOnPop`).
-/
import ErdosVerif.Lemmas.GraphBasic

namespace ErdosVerif.Model.Graph

theorem dfsLoop_zero (g : Graph) (skip : Bool) (stack visited acc : List Nat) :
    dfsLoop g skip 0 stack visited acc = (acc, some "OutOfFuel") := by
  simp [dfsLoop]

theorem dfsLoop_nil (g : Graph) (skip : Bool) (fuel : Nat) (visited acc : List Nat) :
    dfsLoop g skip (fuel + 1) [] visited acc = (acc, none) := by
  simp [dfsLoop]

theorem dfsLoop_cons (g : Graph) (skip : Bool) (fuel n : Nat) (stack visited acc : List Nat) :
    dfsLoop g skip (fuel + 1) (n :: stack) visited acc =
      if (skip && visited.contains n) = true then dfsLoop g skip fuel stack visited acc
      else match List.lookup n g.children with
        | none => (acc ++ [n], some "ValueError")
        | some cs =>
          dfsLoop g skip fuel
            ((cs.filter (fun c => !(n :: visited).contains c)).reverse ++ stack)
            (n :: visited) (acc ++ [n]) := by
  rfl

theorem dfsLoop_cons_skip {g : Graph} {skip : Bool} {fuel n : Nat} {stack visited acc : List Nat}
    (h : (skip && visited.contains n) = true) :
    dfsLoop g skip (fuel + 1) (n :: stack) visited acc = dfsLoop g skip fuel stack visited acc := by
  rw [dfsLoop_cons, if_pos h]

theorem dfsLoop_cons_none {g : Graph} {skip : Bool} {fuel n : Nat} {stack visited acc : List Nat}
    (h : ¬ (skip && visited.contains n) = true) (hl : List.lookup n g.children = none) :
    dfsLoop g skip (fuel + 1) (n :: stack) visited acc = (acc ++ [n], some "ValueError") := by
  rw [dfsLoop_cons, if_neg h, hl]

theorem dfsLoop_cons_some {g : Graph} {skip : Bool} {fuel n : Nat} {stack visited acc cs : List Nat}
    (h : ¬ (skip && visited.contains n) = true) (hl : List.lookup n g.children = some cs) :
    dfsLoop g skip (fuel + 1) (n :: stack) visited acc =
      dfsLoop g skip fuel
        ((cs.filter (fun c => !(n :: visited).contains c)).reverse ++ stack)
        (n :: visited) (acc ++ [n]) := by
  rw [dfsLoop_cons, if_neg h, hl]

theorem depthFirstWith_some (skip : Bool) (g : Graph) (n : Nat) :
    g.depthFirstWith skip (some n) = dfsLoop g skip (dfsFuel g [n]) [n] [] [] := rfl

theorem depthFirstWith_none (skip : Bool) (g : Graph) :
    g.depthFirstWith skip none =
      dfsLoop g skip (dfsFuel g g.getSources.reverse) g.getSources.reverse [] [] := rfl

theorem depthFirstWith_eq_loop (g : Graph) (start : Option Nat) :
    ∃ frontier, ∀ skip,
      g.depthFirstWith skip start = dfsLoop g skip (dfsFuel g frontier) frontier [] [] := by
  cases start <;> exact ⟨_, fun _ => rfl⟩

/-- If `Inv` is preserved by the two kinds of loop step, the loop ends in one of
three ways, each with `Inv` at the state where it stopped. -/
theorem dfsLoop_inv (g : Graph) (skip : Bool) (Inv : List Nat → List Nat → List Nat → Prop)
    (hskip : ∀ n rest v a, Inv (n :: rest) v a → skip = true → n ∈ v → Inv rest v a)
    (hpush : ∀ n rest v a cs, Inv (n :: rest) v a → (skip = true → n ∉ v) →
        List.lookup n g.children = some cs →
        Inv ((cs.filter (fun c => !(n :: v).contains c)).reverse ++ rest) (n :: v) (a ++ [n]))
    (fuel : Nat) (stack visited acc : List Nat) (h0 : Inv stack visited acc) :
    (∃ v, Inv [] v (dfsLoop g skip fuel stack visited acc).1 ∧
        (dfsLoop g skip fuel stack visited acc).2 = none) ∨
    (∃ n rest v a, Inv (n :: rest) v a ∧ List.lookup n g.children = none ∧
        (skip = true → n ∉ v) ∧
        dfsLoop g skip fuel stack visited acc = (a ++ [n], some "ValueError")) ∨
    (∃ s v, Inv s v (dfsLoop g skip fuel stack visited acc).1 ∧
        (dfsLoop g skip fuel stack visited acc).2 = some "OutOfFuel") := by
  induction fuel generalizing stack visited acc with
  | zero =>
    right; right
    exact ⟨stack, visited, by simpa [dfsLoop_zero] using h0, by simp [dfsLoop_zero]⟩
  | succ fuel ih =>
    cases stack with
    | nil =>
      left
      exact ⟨visited, by simpa [dfsLoop_nil] using h0, by simp [dfsLoop_nil]⟩
    | cons n rest =>
      by_cases hs : (skip && visited.contains n) = true
      · rw [dfsLoop_cons_skip hs]
        have hs' : skip = true ∧ n ∈ visited := by simpa using hs
        exact ih _ _ _ (hskip n rest visited acc h0 hs'.1 hs'.2)
      · have hs' : skip = true → n ∉ visited := by
          intro h; simpa [h] using hs
        cases hl : List.lookup n g.children with
        | none =>
          right; left
          exact ⟨n, rest, visited, acc, h0, hl, hs', dfsLoop_cons_none hs hl⟩
        | some cs =>
          rw [dfsLoop_cons_some hs hl]
          exact ih _ _ _ (hpush n rest visited acc cs h0 hs' hl)

/-- Potential: total length of the child lists of the entries of `d` whose key is
not yet visited (duplicate keys only make it larger). -/
def dfsPot (visited : List Nat) : Dict (List Nat) → Nat
  | [] => 0
  | p :: r => (if p.1 ∈ visited then 0 else p.2.length) + dfsPot visited r

theorem foldl_length_eq_dfsPot (d : Dict (List Nat)) (a : Nat) :
    d.foldl (fun a p => a + p.2.length) a = a + dfsPot [] d := by
  induction d generalizing a with
  | nil => simp [dfsPot]
  | cons p r ih => simp [dfsPot, ih, Nat.add_assoc]

theorem dfsPot_head_le (visited : List Nat) (n : Nat) (p : Nat × List Nat) :
    (if p.1 ∈ n :: visited then 0 else p.2.length) ≤
      (if p.1 ∈ visited then 0 else p.2.length) := by
  by_cases h1 : p.1 ∈ visited
  · simp [h1]
  · by_cases h2 : p.1 = n
    · simp [h2]
    · simp [h1, h2]

theorem dfsPot_cons_le (visited : List Nat) (n : Nat) (d : Dict (List Nat)) :
    dfsPot (n :: visited) d ≤ dfsPot visited d := by
  induction d with
  | nil => simp [dfsPot]
  | cons p r ih =>
    have := dfsPot_head_le visited n p
    simp only [dfsPot]
    omega

theorem dfsPot_visit {d : Dict (List Nat)} {n : Nat} {cs visited : List Nat}
    (hmem : (n, cs) ∈ d) (hn : n ∉ visited) :
    dfsPot (n :: visited) d + cs.length ≤ dfsPot visited d := by
  induction d with
  | nil => simp at hmem
  | cons p r ih =>
    rcases List.mem_cons.mp hmem with h | h
    · subst h
      have := dfsPot_cons_le visited n r
      simp only [dfsPot, List.mem_cons, true_or, if_true, if_neg hn]
      omega
    · have := ih h
      have h2 := dfsPot_head_le visited n p
      simp only [dfsPot]
      omega

/-- Each child of a *visited* stack entry `p` is visited or sits above `p` on the stack.  So
popping a visited node again (which the `skip = false` loop expands a second time) pushes
nothing (`filter_eq_nil`), and the fuel bound covers both variants. -/
def DfsStackInv (g : Graph) (visited stack : List Nat) : Prop :=
  ∀ above p below, stack = above ++ p :: below → p ∈ visited →
    ∀ c, c ∈ g.childrenOf p → c ∈ visited ∨ c ∈ above

theorem DfsStackInv.init (g : Graph) (stack : List Nat) : DfsStackInv g [] stack := by
  intro above p below _ hp
  simp at hp

theorem DfsStackInv.filter_eq_nil {g : Graph} {visited rest cs : List Nat} {n : Nat}
    (h : DfsStackInv g visited (n :: rest)) (hn : n ∈ visited)
    (hl : List.lookup n g.children = some cs) :
    cs.filter (fun c => !(n :: visited).contains c) = [] := by
  rw [List.filter_eq_nil_iff]
  intro c hc
  have := h [] n rest rfl hn c (by rwa [childrenOf_of_lookup hl])
  simp_all

theorem DfsStackInv.pop {g : Graph} {visited rest : List Nat} {n : Nat}
    (h : DfsStackInv g visited (n :: rest)) (hn : n ∈ visited) :
    DfsStackInv g visited rest := by
  intro above p below hst hp c hc
  have := h (n :: above) p below (by simp [hst]) hp c hc
  rcases this with h1 | h1
  · exact .inl h1
  · rcases List.mem_cons.mp h1 with h2 | h2
    · exact .inl (h2 ▸ hn)
    · exact .inr h2

theorem DfsStackInv.push {g : Graph} {visited rest cs : List Nat} {n : Nat}
    (h : DfsStackInv g visited (n :: rest)) (hl : List.lookup n g.children = some cs) :
    DfsStackInv g (n :: visited)
      ((cs.filter (fun c => !(n :: visited).contains c)).reverse ++ rest) := by
  intro above p below hst hp c hc
  have key : ∀ a', above = (cs.filter (fun c => !(n :: visited).contains c)).reverse ++ a' →
      rest = a' ++ p :: below → c ∈ n :: visited ∨ c ∈ above := by
    intro a' ha hr
    rcases List.mem_cons.mp hp with hpn | hpv
    · subst hpn
      rw [childrenOf_of_lookup hl] at hc
      by_cases hv : c ∈ p :: visited
      · exact .inl hv
      · right
        rw [ha]
        apply List.mem_append_left
        simp only [List.mem_reverse, List.mem_filter]
        exact ⟨hc, by simpa using hv⟩
    · have := h (n :: a') p below (by simp [hr]) hpv c hc
      rcases this with h1 | h1
      · exact .inl (List.mem_cons_of_mem _ h1)
      · rcases List.mem_cons.mp h1 with h2 | h2
        · exact .inl (h2 ▸ List.mem_cons_self)
        · exact .inr (ha ▸ List.mem_append_right _ h2)
  rcases List.append_eq_append_iff.mp hst with ⟨a', ha, hr⟩ | ⟨c', hc', hr⟩
  · exact key a' ha hr
  · cases c' with
    | nil =>
      simp at hc' hr
      exact key [] (by simp [hc']) (by simp [hr])
    | cons q c'' =>
      exfalso
      simp only [List.cons_append, List.cons.injEq] at hr
      have hq : p ∈ (cs.filter (fun c => !(n :: visited).contains c)).reverse := by
        rw [hc', hr.1]; simp
      simp only [List.mem_reverse, List.mem_filter] at hq
      have : p ∉ n :: visited := by simpa using hq.2
      exact this hp

theorem dfsLoop_fuel (g : Graph) (skip : Bool) (fuel : Nat) (stack visited acc : List Nat)
    (hI : DfsStackInv g visited stack)
    (hfuel : dfsPot visited g.children + stack.length < fuel) :
    (dfsLoop g skip fuel stack visited acc).2 ≠ some "OutOfFuel" := by
  induction fuel generalizing stack visited acc with
  | zero => omega
  | succ fuel ih =>
    cases stack with
    | nil => simp [dfsLoop_nil]
    | cons n rest =>
      simp only [List.length_cons] at hfuel
      by_cases hs : (skip && visited.contains n) = true
      · rw [dfsLoop_cons_skip hs]
        have hs' : skip = true ∧ n ∈ visited := by simpa using hs
        exact ih _ _ _ (hI.pop hs'.2) (by omega)
      · cases hl : List.lookup n g.children with
        | none => rw [dfsLoop_cons_none hs hl]; simp
        | some cs =>
          rw [dfsLoop_cons_some hs hl]
          apply ih _ _ _ (hI.push hl)
          by_cases hv : n ∈ visited
          · -- revisit (only when `skip = false`): nothing is pushed
            have hnil := hI.filter_eq_nil hv hl
            have := dfsPot_cons_le visited n g.children
            simp only [hnil, List.reverse_nil, List.nil_append]
            omega
          · have h1 := dfsPot_visit (Dict.mem_of_lookup_eq_some hl) hv
            have h2 : (cs.filter (fun c => !(n :: visited).contains c)).length ≤ cs.length :=
              List.length_filter_le _ _
            simp only [List.length_append, List.length_reverse]
            omega

theorem dfsLoop_dfsFuel (g : Graph) (skip : Bool) (frontier : List Nat) :
    (dfsLoop g skip (dfsFuel g frontier) frontier [] []).2 ≠ some "OutOfFuel" := by
  apply dfsLoop_fuel g skip _ _ _ _ (DfsStackInv.init g frontier)
  unfold dfsFuel
  rw [foldl_length_eq_dfsPot]
  omega

theorem dfs_fuel_suffices (skip : Bool) (g : Graph) (start : Option Nat) :
    (g.depthFirstWith skip start).2 ≠ some "OutOfFuel" := by
  obtain ⟨frontier, h⟩ := depthFirstWith_eq_loop g start
  rw [h]
  exact dfsLoop_dfsFuel g skip frontier

theorem dfsLoop_no_valueError (g : Graph) (skip : Bool)
    (hclosed : ∀ u v, g.Edge u v → g.hasNode v = true)
    (fuel : Nat) (stack visited acc : List Nat) (hst : ∀ x ∈ stack, g.hasNode x = true) :
    (dfsLoop g skip fuel stack visited acc).2 = none ∨
      (dfsLoop g skip fuel stack visited acc).2 = some "OutOfFuel" := by
  have := dfsLoop_inv g skip (fun s _ _ => ∀ x ∈ s, g.hasNode x = true)
    (fun n rest v a h _ _ x hx => h x (List.mem_cons_of_mem _ hx))
    (by
      intro n rest v a cs h _ hl x hx
      rcases List.mem_append.mp hx with hx | hx
      · simp only [List.mem_reverse, List.mem_filter] at hx
        exact hclosed n x (edge_iff_lookup.mpr ⟨cs, hl, hx.1⟩)
      · exact h x (List.mem_cons_of_mem _ hx))
    fuel stack visited acc hst
  rcases this with ⟨_, _, h⟩ | ⟨n, rest, v, a, h, hl, _, _⟩ | ⟨_, _, _, h⟩
  · exact .inl h
  · have := h n List.mem_cons_self
    simp [hasNode, hl] at this
  · exact .inr h

theorem dfsLoop_sound (g : Graph) (skip : Bool) (R : Nat → Prop)
    (hR : ∀ u v, R u → g.Edge u v → R v)
    (fuel : Nat) (stack visited acc : List Nat)
    (hst : ∀ x ∈ stack, R x) (hacc : ∀ x ∈ acc, R x) :
    ∀ x ∈ (dfsLoop g skip fuel stack visited acc).1, R x := by
  have := dfsLoop_inv g skip (fun s _ a => (∀ x ∈ s, R x) ∧ (∀ x ∈ a, R x))
    (fun n rest v a h _ _ => ⟨fun x hx => h.1 x (List.mem_cons_of_mem _ hx), h.2⟩)
    (by
      intro n rest v a cs h _ hl
      have hn : R n := h.1 n List.mem_cons_self
      refine ⟨fun x hx => ?_, fun x hx => ?_⟩
      · rcases List.mem_append.mp hx with hx | hx
        · simp only [List.mem_reverse, List.mem_filter] at hx
          exact hR n x hn (edge_iff_lookup.mpr ⟨cs, hl, hx.1⟩)
        · exact h.1 x (List.mem_cons_of_mem _ hx)
      · rcases List.mem_append.mp hx with hx | hx
        · exact h.2 x hx
        · simp at hx; exact hx ▸ hn)
    fuel stack visited acc ⟨hst, hacc⟩
  rcases this with ⟨_, h, _⟩ | ⟨n, rest, v, a, h, _, _, heq⟩ | ⟨_, _, h, _⟩
  · exact h.2
  · rw [heq]
    intro x hx
    rcases List.mem_append.mp hx with hx | hx
    · exact h.2 x hx
    · simp at hx; exact hx ▸ h.1 n List.mem_cons_self
  · exact h.2

theorem dfsLoop_complete (g : Graph) (skip : Bool)
    (fuel : Nat) (stack visited acc : List Nat)
    (hJ : ∀ p ∈ visited, ∀ c, g.Edge p c → c ∈ visited ∨ c ∈ stack)
    (hva : ∀ x ∈ visited, x ∈ acc)
    (hnone : (dfsLoop g skip fuel stack visited acc).2 = none) :
    ∃ V : List Nat, (∀ x, x ∈ visited ∨ x ∈ stack → x ∈ V) ∧
      (∀ p ∈ V, ∀ c, g.Edge p c → c ∈ V) ∧
      (∀ x ∈ V, x ∈ (dfsLoop g skip fuel stack visited acc).1) := by
  have := dfsLoop_inv g skip
    (fun s v a => (∀ p ∈ v, ∀ c, g.Edge p c → c ∈ v ∨ c ∈ s) ∧ (∀ x ∈ v, x ∈ a) ∧
      (∀ x, x ∈ visited ∨ x ∈ stack → x ∈ v ∨ x ∈ s))
    (by
      -- a popped node that is already visited can be dropped from the stack
      intro n rest v a ⟨h1, h2, h3⟩ _ hn
      have drop : ∀ {x}, x ∈ v ∨ x ∈ n :: rest → x ∈ v ∨ x ∈ rest := fun h =>
        h.elim .inl fun h => (List.mem_cons.mp h).elim (fun e => .inl (e ▸ hn)) .inr
      exact ⟨fun p hp c hc => drop (h1 p hp c hc), h2, fun x hx => drop (h3 x hx)⟩)
    (by
      -- the children of the expanded node are visited or pushed
      intro n rest v a cs ⟨h1, h2, h3⟩ _ hl
      have keep : ∀ {x}, x ∈ v ∨ x ∈ n :: rest → x ∈ n :: v ∨
          x ∈ (cs.filter (fun c => !(n :: v).contains c)).reverse ++ rest := fun h =>
        h.elim (fun h => .inl (List.mem_cons_of_mem _ h)) fun h =>
          (List.mem_cons.mp h).elim (fun e => .inl (e ▸ List.mem_cons_self))
            (fun h => .inr (List.mem_append_right _ h))
      refine ⟨fun p hp c hc => ?_, fun x hx => ?_, fun x hx => keep (h3 x hx)⟩
      · rcases List.mem_cons.mp hp with rfl | hpv
        · obtain ⟨cs', hl', hc'⟩ := edge_iff_lookup.mp hc
          obtain rfl : cs = cs' := by simpa [hl] using hl'
          by_cases hv : c ∈ p :: v
          · exact .inl hv
          · exact .inr (List.mem_append_left _ (by simpa [hc'] using hv))
        · exact keep (h1 p hpv c hc)
      · rcases List.mem_cons.mp hx with rfl | hx
        · simp
        · exact List.mem_append_left _ (h2 x hx))
    fuel stack visited acc ⟨hJ, hva, fun x hx => hx⟩
  rcases this with ⟨V, h, _⟩ | ⟨n, rest, v, a, _, _, _, heq⟩ | ⟨_, _, _, h⟩
  · refine ⟨V, fun x hx => ?_, fun p hp c hc => ?_, h.2.1⟩
    · simpa using h.2.2 x hx
    · simpa using h.1 p hp c hc
  · rw [heq] at hnone; simp at hnone
  · rw [h] at hnone; simp at hnone

theorem dfsFrontier_no_error (skip : Bool) {g : Graph}
    (hclosed : ∀ u v, g.Edge u v → g.hasNode v = true)
    {frontier : List Nat} (hF : ∀ x ∈ frontier, g.hasNode x = true) :
    (dfsLoop g skip (dfsFuel g frontier) frontier [] []).2 = none := by
  rcases dfsLoop_no_valueError g skip hclosed (dfsFuel g frontier) frontier [] [] hF with h | h
  · exact h
  · exact absurd h (dfsLoop_dfsFuel g skip frontier)

theorem dfsFrontier_mem_iff (skip : Bool) {g : Graph}
    (hclosed : ∀ u v, g.Edge u v → g.hasNode v = true)
    {frontier : List Nat} (hF : ∀ x ∈ frontier, g.hasNode x = true) (m : Nat) :
    m ∈ (dfsLoop g skip (dfsFuel g frontier) frontier [] []).1 ↔
      ∃ s, s ∈ frontier ∧ g.Reach s m := by
  constructor
  · exact dfsLoop_sound g skip (fun x => ∃ s, s ∈ frontier ∧ g.Reach s x)
      (fun u v ⟨s, hs, hr⟩ e => ⟨s, hs, hr.tail e⟩) _ frontier [] []
      (fun x hx => ⟨x, hx, .refl x⟩) (by simp) m
  · rintro ⟨s, hs, hr⟩
    obtain ⟨V, h1, h2, h3⟩ := dfsLoop_complete g skip (dfsFuel g frontier) frontier [] []
      (by simp) (by simp) (dfsFrontier_no_error skip hclosed hF)
    exact h3 m (hr.closed (P := (· ∈ V)) (fun p c hp e => h2 p hp c e) (h1 s (.inr hs)))

theorem dfs_no_error (skip : Bool) {g : Graph} (hclosed : ∀ u v, g.Edge u v → g.hasNode v = true)
    {n : Nat} (hn : g.hasNode n = true) : (g.depthFirstWith skip (some n)).2 = none := by
  rw [depthFirstWith_some]
  exact dfsFrontier_no_error skip hclosed (by simpa using hn)

theorem dfs_mem_iff_reach (skip : Bool) {g : Graph}
    (hclosed : ∀ u v, g.Edge u v → g.hasNode v = true)
    {n : Nat} (hn : g.hasNode n = true) (m : Nat) :
    m ∈ (g.depthFirstWith skip (some n)).1 ↔ g.Reach n m := by
  rw [depthFirstWith_some, dfsFrontier_mem_iff skip hclosed (by simpa using hn)]
  simp

theorem dfs_sources_no_error (skip : Bool) {g : Graph}
    (hclosed : ∀ u v, g.Edge u v → g.hasNode v = true) :
    (g.depthFirstWith skip none).2 = none := by
  rw [depthFirstWith_none]
  exact dfsFrontier_no_error skip hclosed
    (fun x hx => (mem_getSources.mp (List.mem_reverse.mp hx)).1)

theorem dfs_sources_mem_iff (skip : Bool) {g : Graph}
    (hclosed : ∀ u v, g.Edge u v → g.hasNode v = true) (m : Nat) :
    m ∈ (g.depthFirstWith skip none).1 ↔ ∃ s, s ∈ g.getSources ∧ g.Reach s m := by
  rw [depthFirstWith_none, dfsFrontier_mem_iff skip hclosed
    (fun x hx => (mem_getSources.mp (List.mem_reverse.mp hx)).1)]
  simp

theorem dfsLoop_nodup_of_skip (g : Graph) (fuel : Nat) (stack visited acc : List Nat)
    (hnd : acc.Nodup) (hav : ∀ x ∈ acc, x ∈ visited) :
    (dfsLoop g true fuel stack visited acc).1.Nodup := by
  have := dfsLoop_inv g true (fun _ v a => a.Nodup ∧ ∀ x ∈ a, x ∈ v)
    (fun n rest v a h _ _ => h)
    (by
      intro n rest v a cs h hn _
      refine ⟨nodup_concat h.1 fun hx => hn rfl (h.2 n hx), fun x hx => ?_⟩
      rcases List.mem_append.mp hx with hx | hx
      · exact List.mem_cons_of_mem _ (h.2 x hx)
      · simp at hx; simp [hx])
    fuel stack visited acc ⟨hnd, hav⟩
  rcases this with ⟨_, h, _⟩ | ⟨n, rest, v, a, h, _, hn, heq⟩ | ⟨_, _, h, _⟩
  · exact h.1
  · rw [heq]; exact nodup_concat h.1 fun hx => hn rfl (h.2 n hx)
  · exact h.1

theorem dfs_nodup_of_skip (g : Graph) (start : Option Nat) :
    (g.depthFirstWith true start).1.Nodup := by
  obtain ⟨frontier, h⟩ := depthFirstWith_eq_loop g start
  rw [h]
  exact dfsLoop_nodup_of_skip g _ _ [] [] (by simp) (by simp)

theorem eraseDups_append_singleton (l : List Nat) (n : Nat) :
    (l ++ [n]).eraseDups = if n ∈ l then l.eraseDups else l.eraseDups ++ [n] := by
  rw [List.eraseDups_append]
  by_cases h : n ∈ l
  · simp [List.removeAll, h]
  · simp [List.removeAll, h, List.eraseDups_cons]

/-- Lock-step simulation of the former (`skip = false`) and the repaired
(`skip = true`) loop: same stack, same visited *set*, and the repaired output is
the former output with later duplicates dropped. -/
theorem dfsLoop_dedup (g : Graph) (fuel : Nat) (stack vf vt af at' : List Nat)
    (hv : ∀ x, x ∈ vf ↔ x ∈ vt)
    (hI : DfsStackInv g vf stack)
    (hnode : ∀ x ∈ vf, List.lookup x g.children ≠ none)
    (haf : ∀ x, x ∈ af ↔ x ∈ vf)
    (hacc : af.eraseDups = at') :
    (dfsLoop g false fuel stack vf af).1.eraseDups = (dfsLoop g true fuel stack vt at').1 := by
  induction fuel generalizing stack vf vt af at' with
  | zero => simpa [dfsLoop_zero] using hacc
  | succ fuel ih =>
    cases stack with
    | nil => simpa [dfsLoop_nil] using hacc
    | cons n rest =>
      have hsf : ¬ (false && vf.contains n) = true := by simp
      by_cases hn : n ∈ vf
      · -- revisit: the former code yields `n` again and pushes nothing
        have hst : (true && vt.contains n) = true := by simpa using (hv n).mp hn
        rw [dfsLoop_cons_skip hst]
        cases hl : List.lookup n g.children with
        | none => exact absurd hl (hnode n hn)
        | some cs =>
          rw [dfsLoop_cons_some hsf hl]
          have hnil := hI.filter_eq_nil hn hl
          have hI' := hI.push hl
          simp only [hnil, List.reverse_nil, List.nil_append] at hI' ⊢
          apply ih _ _ _ _ _ _ hI'
          · intro x hx
            rcases List.mem_cons.mp hx with rfl | h
            · exact hnode x hn
            · exact hnode x h
          · intro x; simp [haf, or_comm]
          · rw [eraseDups_append_singleton, if_pos ((haf n).mpr hn)]
            exact hacc
          · intro x; rw [← hv x]; simp; rintro rfl; exact hn
      · have hnt : n ∉ vt := fun h => hn ((hv n).mpr h)
        have hst : ¬ (true && vt.contains n) = true := by simpa using hnt
        have hnaf : n ∉ af := fun h => hn ((haf n).mp h)
        cases hl : List.lookup n g.children with
        | none =>
          rw [dfsLoop_cons_none hsf hl, dfsLoop_cons_none hst hl]
          simp only []
          rw [eraseDups_append_singleton, if_neg hnaf, hacc]
        | some cs =>
          rw [dfsLoop_cons_some hsf hl, dfsLoop_cons_some hst hl]
          have hfilt : cs.filter (fun c => !(n :: vt).contains c) =
              cs.filter (fun c => !(n :: vf).contains c) :=
            List.filter_congr fun c _ => by simp [hv c]
          rw [hfilt]
          apply ih _ _ _ _ _ _ (hI.push hl)
          · intro x hx
            rcases List.mem_cons.mp hx with rfl | h
            · simp [hl]
            · exact hnode x h
          · intro x; simp [haf, or_comm]
          · rw [eraseDups_append_singleton, if_neg hnaf, hacc]
          · intro x; simp [hv]

theorem dfs_dedup_eq_skip (g : Graph) (start : Option Nat) :
    (g.depthFirstWith false start).1.eraseDups = (g.depthFirstWith true start).1 := by
  obtain ⟨frontier, h⟩ := depthFirstWith_eq_loop g start
  rw [h, h]
  exact dfsLoop_dedup g _ _ [] [] [] [] (by simp) (DfsStackInv.init g _) (by simp) (by simp) rfl

end ErdosVerif.Model.Graph
