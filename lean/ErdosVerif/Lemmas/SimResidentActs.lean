import Lean
import Std.Do
import Std.Tactic.Do
import ErdosVerif.Lemmas.SimResidentInv
import ErdosVerif.Lemmas.SimEditPending
import ErdosVerif.Lemmas.SimCensusBase
/-!
The residency / exact-runtime invariant `AP RunOK` under the blocks of writes of `Lemmas/SimAct.lean`, as state-level
lemmas. They speak of `AP RunOK ex s` (`ex`: the events that exist outside the queue) and conclude the same for a
state `s'` that is left free: one hypothesis per field the invariant reads, the ones saying that a field did not change last and with default `rfl`, so that an
application names only what changed. They are applied with `exact` against a goal in which `s'` is known.

* Writes that leave the RUNNING tasks, the residency views and the clock alone: `AP.step` (the field-wise form of
  `AP.benign`), `AP.quietCall`, what the writes of the kept event ids do to `EF` (`EF_*`); a closed-loop follow-up graph
  (`AP.push`), a task graph written back after a cancellation or a completion (`AP.setGraphR`, `AP.cancelGraph`), the
  loader's graphs (`AP.load`), a pool with the same residents (`AP.poolSame`). `NoFin`: lists of events none of which is
  a TASK_FINISHED event. What the steps do to the events that exist is read off `Lemmas/SimEvents.lean`.
* TASK_FINISHED (`AP.removeFinish`): the task leaves its worker and finishes; the `.finish` entry of the history log is
  justified by the task's `.start` entry. `Task.finish` cannot refuse: a task the pool could remove is RUNNING
  (`running_of_removed`, `doFinish_running`).
* TASK_PLACEMENT (`AP.placeStart`, `AP.placeStartFin`): the task becomes resident on one worker and starts; a task with
  no work left gets its TASK_FINISHED event at once. Where the handler raises after the pool took the task and before
  the `.start` entry, only the weak invariant is left (`WInv.placed`).

`RA`: the invariant at a given clock as an assertion (the precondition of `handleEvent_rspec` in
`Lemmas/SimResidentRun.lean`); `KeepsR`: the specification of the functions that only return or raise.
-/
section
open Std.Do
set_option mvcgen.warning false

namespace ErdosVerif.Tactic
open Lean

/-- `rmvcgen [lemmas]`: `mvcgen [lemmas]` with the names of the specifications that `Lemmas/SimInv.lean`
proves for the same functions (for the ledger / clock / graph invariant `Inv`) erased, for a context in which
those are `spec` attributes. They are local to `SimInv`, so here nothing needs erasing and plain `mvcgen` is
used. -/
macro "rmvcgen" " [" ts:term,* "]" : tactic => do
  let names : Array Name := #[`row_spec, `logE_spec, `liftE_spec, `liftTape_spec, `getGraph_spec, `setGraph_spec, `getTask_spec, `uniqueName_spec, `raiseTask_spec, `taskCall_spec, `startTask_spec, `mkEvent_spec, `addEvent_spec, `reheapify_spec, `removeEvent_spec, `editEvent_spec, `findEvent_spec, `nextOfType_spec, `placedTasks_spec, `popEvent_spec, `getPool_spec, `setPool_spec, `logUtilization_spec, `schedulable_spec, `releasable_spec, `notifyGraphCompletion_spec, `placementSkip_spec, `placementEvents_spec, `nextSchedulerEvent_spec, `handleSchedulerStart_spec, `handleSchedulerFinish_spec, `handleTaskCancel_spec, `handleTaskRelease_spec, `handleUpdateWorkload_spec, `handleTaskGraphRelease_spec, `raiseOutcome_spec, `raisePlace_spec, `finishRemove_spec, `finishRows_spec, `finishNotify_spec, `handleTaskFinished_spec, `placementNotReady_spec, `placementRow_spec, `placementPlace_spec, `handleTaskPlacement_spec, `handleProfile_spec, `handleEvent_spec, `advanceClock_spec, `step_spec, `iter_spec, `init_spec]
  let ls : Array Syntax ← ts.getElems.mapM fun t => do
    let l ← `(Lean.Parser.Tactic.simpLemma| $t:term)
    pure l.raw
  let es : Array Syntax ← names.mapM fun n => do
    let e ← `(Lean.Parser.Tactic.simpErase| -$(mkIdent (`ErdosVerif.Model.Sim ++ n)))
    pure e.raw
  let sep : Syntax.TSepArray [`Lean.Parser.Tactic.simpErase, `Lean.Parser.Tactic.simpLemma] "," :=
    ⟨mkSepArray (ls ++ es) (mkAtom ",")⟩
  `(tactic| mvcgen [$sep,*])

end ErdosVerif.Tactic

namespace ErdosVerif.Model.Sim

abbrev RA (n : Int) (ex : List SEvent) : Assertion (.except SErr (.arg SimS .pure)) :=
  fun s => ⌜AP RunOK ex s ∧ s.now = n⌝

abbrev KeepsR {α} (n : Int) (ex : List SEvent) (x : SimM α) : Prop :=
  ⦃RA n ex⦄ x ⦃post⟨fun _ => RA n ex, fun _ s => ⌜WInv s⌝⟩⦄

theorem LogE.ne_finish (e : LogE) (h : isFinishLog e = false) : ∀ t τ, e ≠ LogE.finish t τ := by
  intro t τ he; subst he; simp [isFinishLog] at h

-- the state at the raise point is the one of the precondition
attribute [local grind →] AP.weak

theorem raiseTask_rspec (n : Int) (ex : List SEvent) (e : Option SErr) : KeepsR n ex (raiseTask e) := by
  mvcgen [raiseTask] with grind

theorem raiseOutcome_rspec (n : Int) (ex : List SEvent) (o : Outcome) : KeepsR n ex (raiseOutcome o) := by
  mvcgen [raiseOutcome] with grind

theorem raisePlace_rspec (n : Int) (ex : List SEvent) (r : Except PyErr Bool) :
    ⦃RA n ex⦄ raisePlace r ⦃post⟨fun b s => ⌜(AP RunOK ex s ∧ s.now = n) ∧ r = .ok b⌝, fun _ s => ⌜WInv s⌝⟩⦄ := by
  mvcgen [raisePlace] with grind

theorem AP.allPre {P : Int → List LogE → TaskId → TaskS → Prop} {ex : List SEvent} {s : SimS} (h : AP P ex s)
    (gi : Nat) (g : GraphS) (hg : s.graphs[gi]? = some g) : g.AllPre := by
  intro k x hx
  exact h.core.preOK ⟨gi, k⟩ x (taskAt_of s.graphs ⟨gi, k⟩ g x hg hx)

theorem AP.loaded {P : Int → List LogE → TaskId → TaskS → Prop} {ex : List SEvent} {s : SimS} (h : AP P ex s)
    {gi : Nat} {g : GraphS} (hg : s.graphs[gi]? = some g) : s.loaderReleased = true := by
  cases hl : s.loaderReleased with
  | true => rfl
  | false => have := (h.loader hl).1; rw [this] at hg; simp at hg

theorem AP.loaderOf {P : Int → List LogE → TaskId → TaskS → Prop} {ex : List SEvent} {s : SimS} (h : AP P ex s)
    {gi : Nat} {g : GraphS} (hg : s.graphs[gi]? = some g) (s' : SimS) (hlr : s'.loaderReleased = s.loaderReleased) :
    s'.loaderReleased = false → s'.graphs = #[] ∧ s'.metas = #[] := by
  intro hl; rw [hlr, h.loaded hg] at hl; cases hl

theorem log_push_ext (l : Array LogE) (e : LogE) (he : isFinishLog e = false) :
    ∃ es, (l.push e).toList = l.toList ++ es ∧ ∀ e' ∈ es, ∀ t τ, e' ≠ LogE.finish t τ :=
  ⟨[e], by simp, by intro e' he'; simp only [List.mem_singleton] at he'; subst he'; exact LogE.ne_finish _ he⟩

theorem log_same_ext (l : Array LogE) :
    ∃ es, l.toList = l.toList ++ es ∧ ∀ e' ∈ es, ∀ t τ, e' ≠ LogE.finish t τ :=
  ⟨[], by simp, by simp⟩

/-- `hef`: the kept event ids are dropped, or fresh: an id that is kept in the step that creates its event is none of a
TASK_FINISHED event. -/
theorem AP.step {ex ex' : List SEvent} {s s' : SimS} (h : AP RunOK ex s)
    (hld : s'.loaderReleased = false → s'.graphs = #[] ∧ s'.metas = #[])
    (hg : TRel (taskAt s.graphs) (taskAt s'.graphs) := by exact TRel.refl _)
    (hl : ∃ es, s'.log.toList = s.log.toList ++ es ∧ ∀ e ∈ es, ∀ t τ, e ≠ LogE.finish t τ := by exact log_same_ext _)
    (hq : ∀ e ∈ s'.queue.toList ++ ex', e.ev.etype = ET.taskFinished → e ∈ s.queue.toList ++ ex := by
      exact fun _ h _ => h)
    (hef : ∀ x, EF s'.future s'.nextSched x → EF s.future s.nextSched x ∨ (s.nextEid ≤ x ∧ x < s'.nextEid) := by
      exact fun _ h => .inl h)
    (hid : s.nextEid ≤ s'.nextEid := by exact Nat.le_refl _)
    (hp : s'.pools = s.pools := by rfl) (hn : s'.now = s.now := by rfl)
    (ha : s'.allGraphs = s.allGraphs := by rfl) (hj : s'.jobs = s.jobs := by rfl) :
    AP RunOK ex' s' :=
  AP.benign logMono_RunOK s s' h (by rw [hp]) (by rw [hp]) hg hn hl hq hef hid ha (by rw [hj]; exact h.tmplQ) hld

theorem AP.quietCall {ex : List SEvent} {s : SimS} {t : TaskId} {g : GraphS} {x : TaskS}
    (h : AP RunOK ex s) (hg : s.graphs[t.g]? = some g) (hx : g.task? t.t = some x)
    (c : TaskCall) (hc : c.isQuiet = true) {s' : SimS}
    (hgr : s'.graphs = s.graphs.setIfInBounds t.g (g.setTask t.t (x.call c).1) := by rfl)
    (hl : ∃ es, s'.log.toList = s.log.toList ++ es ∧ ∀ e ∈ es, ∀ t τ, e ≠ LogE.finish t τ := by exact log_same_ext _)
    (hq : s'.queue = s.queue := by rfl) (hfu : s'.future = s.future := by rfl)
    (hns : s'.nextSched = s.nextSched := by rfl) (hid : s'.nextEid = s.nextEid := by rfl)
    (hlr : s'.loaderReleased = s.loaderReleased := by rfl)
    (hp : s'.pools = s.pools := by rfl) (hn : s'.now = s.now := by rfl)
    (ha : s'.allGraphs = s.allGraphs := by rfl) (hj : s'.jobs = s.jobs := by rfl) :
    AP RunOK ex s' :=
  AP.step h (h.loaderOf hg s' hlr)
    (hgr ▸ TRel.setGraph _ _ g _ hg (RFrame.setTask g _ x _ hx (call_TR x c (h.allPre _ g hg _ x hx) hc)))
    hl (by rw [hq]; exact fun _ h _ => h) (by rw [hfu, hns]; exact fun _ h => .inl h) (by rw [hid]; exact Nat.le_refl _)
    hp hn ha hj

/-- The id of the event that is created in the same step is kept. -/
theorem ef_fresh {fut fut' : AList TaskId Nat} {ns ns' : Option Nat} {a : Nat}
    (h : ∀ x, EF fut' ns' x → EF fut ns x ∨ x = a) : ∀ x, EF fut' ns' x → EF fut ns x ∨ (a ≤ x ∧ x < a + 1) :=
  fun x hx => (h x hx).imp_right fun e => by subst e; exact ⟨Nat.le_refl _, Nat.lt_succ_self _⟩

theorem EF_erase (fut : AList TaskId Nat) (ns : Option Nat) (t : TaskId) :
    ∀ x, EF (fut.erase t) ns x → EF fut ns x := by
  intro x hx
  rcases hx with ⟨u, hu⟩ | hx
  · exact Or.inl ⟨u, AList.mem_erase _ _ _ hu⟩
  · exact Or.inr hx

theorem EF_set (fut : AList TaskId Nat) (ns : Option Nat) (t : TaskId) (x0 : Nat) :
    ∀ x, EF (fut.set t x0) ns x → EF fut ns x ∨ x = x0 := by
  intro x hx
  rcases hx with ⟨u, hu⟩ | hx
  · rcases AList.mem_set _ _ _ _ hu with h1 | h1
    · right; cases h1; rfl
    · exact Or.inl (Or.inl ⟨u, h1⟩)
  · exact Or.inl (Or.inr hx)

theorem EF_some (fut : AList TaskId Nat) (ns : Option Nat) (x0 : Nat) :
    ∀ x, EF fut (some x0) x → EF fut ns x ∨ x = x0 := by
  intro x hx
  rcases hx with hx | hx
  · exact Or.inl (Or.inl hx)
  · right; cases hx; rfl

end ErdosVerif.Model.Sim

end

namespace ErdosVerif.Model.Sim

theorem quiet_instantiate (g0 : GraphS) (nm : String) (f : Nat → TaskS → TaskS)
    (hf : ∀ i t, (f i t).state = t.state ∧ (f i t).pre = t.pre) (h : g0.Quiet) :
    ({ g0 with name := nm, tasks := g0.tasks.mapIdx f } : GraphS).Quiet := by
  refine ⟨by simpa using h.small, ?_⟩
  intro k t ht
  simp only [GraphS.task?, Array.getElem?_mapIdx] at ht
  cases hx : g0.tasks[k]? with
  | none => simp [hx] at ht
  | some x =>
    simp only [hx, Option.map_some, Option.some.injEq] at ht
    subst ht
    obtain ⟨h1, h2⟩ := hf k x
    obtain ⟨i1, i2⟩ := h.quiet k x (by simpa [GraphS.task?] using hx)
    exact ⟨by rw [h1]; exact i1, by simpa [TaskS.PreOK, h2] using i2⟩

/-- A closed-loop follow-up graph is appended; the job's counters change. -/
theorem AP.push {ex : List SEvent} {s s' : SimS} (h : AP RunOK ex s) {g : GraphS} (hq : g.Quiet)
    {ji : Nat} {j' : JobS} (hj' : j'.template.Quiet) {gi : Nat} {m : GraphMeta} (hm : s.metas[gi]? = some m)
    (hg : s'.graphs = s.graphs.push g := by rfl) (hj : s'.jobs = s.jobs.setIfInBounds ji j' := by rfl)
    (hp : s'.pools = s.pools := by rfl) (hn : s'.now = s.now := by rfl) (hl : s'.log = s.log := by rfl)
    (hqu : s'.queue = s.queue := by rfl) (hf : s'.future = s.future := by rfl)
    (hns : s'.nextSched = s.nextSched := by rfl) (hid : s'.nextEid = s.nextEid := by rfl)
    (ha : s'.allGraphs = s.allGraphs := by rfl) (hlr : s'.loaderReleased = s.loaderReleased := by rfl) :
    AP RunOK ex s' := by
  have hrel : s.loaderReleased = true := by
    cases hl : s.loaderReleased with
    | true => rfl
    | false => have := (h.loader hl).2; rw [this] at hm; simp at hm
  refine AP.benign logMono_RunOK s s' h (by rw [hp]) (by rw [hp]) (by rw [hg]; exact TRel.push _ g hq) hn
    ⟨[], by simp [hl], by simp⟩ (by rw [hqu]; exact fun _ h' _ => h') ?_ (by rw [hid]; exact Nat.le_refl _) ha ?_ ?_
  · intro x hx; rw [hf, hns] at hx; exact Or.inl hx
  · intro j hjm
    rw [hj] at hjm
    rcases Array.mem_or_eq_of_mem_setIfInBounds (Array.mem_toList_iff.mp hjm) with h1 | h1
    · exact h.tmplQ j (Array.mem_toList_iff.mpr h1)
    · subst h1; exact hj'
  · intro hl'; rw [hlr, hrel] at hl'; cases hl'

theorem AP.setGraphR {ex : List SEvent} {s s' : SimS} (h : AP RunOK ex s) {gi : Nat}
    {g g' : GraphS} (hg : s.graphs[gi]? = some g) (hf : RFrame g g')
    (hgr : s'.graphs = s.graphs.setIfInBounds gi g' := by rfl)
    (hef : ∀ x, EF s'.future s'.nextSched x → EF s.future s.nextSched x := by exact fun _ h => h)
    (hl : ∃ es, s'.log.toList = s.log.toList ++ es ∧ ∀ e ∈ es, ∀ t τ, e ≠ LogE.finish t τ := by exact log_same_ext _)
    (hq : s'.queue = s.queue := by rfl) (hid : s'.nextEid = s.nextEid := by rfl)
    (hlr : s'.loaderReleased = s.loaderReleased := by rfl)
    (hp : s'.pools = s.pools := by rfl) (hn : s'.now = s.now := by rfl)
    (ha : s'.allGraphs = s.allGraphs := by rfl) (hj : s'.jobs = s.jobs := by rfl) : AP RunOK ex s' :=
  AP.step h (h.loaderOf hg s' hlr) (hgr ▸ TRel.setGraph _ _ g _ hg hf) hl (by rw [hq]; exact fun _ h _ => h)
    (fun x hx => .inl (hef x hx)) (by rw [hid]; exact Nat.le_refl _) hp hn ha hj

theorem AP.cancelGraph {ex : List SEvent} {s s' : SimS} (h : AP RunOK ex s) {gi : Nat}
    {g : GraphS} (hg : s.graphs[gi]? = some g) (k : Nat) (time : Int)
    (hgr : s'.graphs = s.graphs.setIfInBounds gi (g.cancel k time).g := by rfl)
    (hef : ∀ x, EF s'.future s'.nextSched x → EF s.future s.nextSched x := by exact fun _ h => h)
    (hq : s'.queue = s.queue := by rfl) (hid : s'.nextEid = s.nextEid := by rfl)
    (hlr : s'.loaderReleased = s.loaderReleased := by rfl) (hl : s'.log = s.log := by rfl)
    (hp : s'.pools = s.pools := by rfl) (hn : s'.now = s.now := by rfl)
    (ha : s'.allGraphs = s.allGraphs := by rfl) (hj : s'.jobs = s.jobs := by rfl) : AP RunOK ex s' :=
  AP.setGraphR h hg (GraphS.rframe_cancel g k time (h.allPre gi g hg)) hgr hef ⟨[], by simp [hl], by simp⟩ hq hid hlr
    hp hn ha hj

/-- The first UPDATE_WORKLOAD adopts the loader's graphs into the (still empty) workload. -/
theorem AP.load {ex : List SEvent} {s s' : SimS} (h : AP RunOK ex s)
    (hnl : ¬ s.loaderReleased = true)
    (hg : s'.graphs = s.allGraphs := by rfl) (hlr : s'.loaderReleased = true := by rfl)
    (hl : s'.log = s.log := by rfl) (hq : s'.queue = s.queue := by rfl) (hfu : s'.future = s.future := by rfl)
    (hns : s'.nextSched = s.nextSched := by rfl) (hid : s'.nextEid = s.nextEid := by rfl)
    (hp : s'.pools = s.pools := by rfl) (hn : s'.now = s.now := by rfl)
    (ha : s'.allGraphs = s.allGraphs := by rfl) (hj : s'.jobs = s.jobs := by rfl) : AP RunOK ex s' := by
  have hemp := (h.loader (by simpa using hnl)).1
  refine AP.step h (fun hl' => by rw [hlr] at hl'; cases hl') ?_ ⟨[], by simp [hl], by simp⟩
    (by rw [hq]; exact fun _ h' _ => h') (by rw [hfu, hns]; exact fun _ h' => .inl h') (by rw [hid]; exact Nat.le_refl _)
    hp hn ha hj
  rw [hg, hemp]
  exact TRel.load _ h.allQ

/-- Writing back a pool with the same residency views (profiles loaded / evicted / stepped,
a ledger read, a refused placement or removal). -/
theorem AP.poolSame {ex : List SEvent} {s s' : SimS} (h : AP RunOK ex s) {pi : Nat} {p p' : Pool}
    (hpi : s.pools[pi]? = some p) (hv : p'.view = p.view ∧ p'.placed = p.placed)
    (hp : s'.pools = s.pools.setIfInBounds pi p' := by rfl) (hg : s'.graphs = s.graphs := by rfl)
    (hn : s'.now = s.now := by rfl) (hl : s'.log = s.log := by rfl) (hq : s'.queue = s.queue := by rfl)
    (hfu : s'.future = s.future := by rfl) (hns : s'.nextSched = s.nextSched := by rfl)
    (hid : s'.nextEid = s.nextEid := by rfl) (ha : s'.allGraphs = s.allGraphs := by rfl)
    (hj : s'.jobs = s.jobs := by rfl) (hlr : s'.loaderReleased = s.loaderReleased := by rfl)
    (hm : s'.metas = s.metas := by rfl) : AP RunOK ex s' := by
  obtain ⟨e1, e2⟩ := views_set_same s.pools pi p p' hpi hv.1 hv.2
  exact AP.frame logMono_RunOK s s' h (by rw [hq]; exact fun _ h' => h') (by rw [hp, e1]) (by rw [hp, e2]) hg hn hl hfu hns hid
    ha hj hlr hm

/-- Holds of the events a handler collects in a local list. -/
abbrev NoFin (evs : List SEvent) : Prop := ∀ e ∈ evs, e.ev.etype ≠ ET.taskFinished

theorem NoFin.nil : NoFin [] := by intro e he; cases he

theorem NoFin.append {a b : List SEvent} (h1 : NoFin a) (h2 : NoFin b) : NoFin (a ++ b) := by
  intro e he
  rcases List.mem_append.mp he with h | h
  · exact h1 e h
  · exact h2 e h

theorem NoFin.editPending {evs : List SEvent} (h : NoFin evs) (c : Option Nat) (p : PlacementS) :
    NoFin (editPending c p evs) :=
  editPending_forall (P := fun e => e.ev.etype ≠ ET.taskFinished) (fun _ _ _ h' => h') c p evs h

theorem doFinish_running (x : TaskS) (hs : x.state = .running) :
    (x.call (.finish none)).2 = none ∧ (x.call (.finish none)).1.isComplete = true := by
  simp only [TaskS.call, TaskS.doFinish, hs]
  constructor
  · simp
  · simp only [beq_self_eq_true, Bool.true_or, Bool.not_true, Bool.false_eq_true, if_false]
    split <;> simp [TaskS.isComplete]

theorem taskAt_setTask (gs : Array GraphS) (t : TaskId) (g : GraphS) (x y : TaskS)
    (hg : gs[t.g]? = some g) (hx : g.task? t.t = some x) :
    taskAt (gs.setIfInBounds t.g (g.setTask t.t y)) t = some y ∧
    ∀ u, u ≠ t → taskAt (gs.setIfInBounds t.g (g.setTask t.t y)) u = taskAt gs u := by
  have hlt : t.g < gs.size := (Array.getElem?_eq_some_iff.mp hg).1
  have hlt2 := task?_lt g t.t x hx
  constructor
  · rw [taskAt_set]; simp [hlt, GraphS.task?_setTask, hlt2]
  · intro u hu
    rw [taskAt_set]
    by_cases hug : u.g = t.g
    · simp only [hug, hlt, and_self, if_true]
      have hut : u.t ≠ t.t := by
        intro e; apply hu
        cases u; cases t; simp_all
      rw [GraphS.task?_setTask]
      simp only [hut, false_and, if_false]
      unfold taskAt; rw [hug, hg]; rfl
    · simp [hug]

theorem running_of_removed {P : Int → List LogE → TaskId → TaskS → Prop} {ex : List SEvent} {s : SimS} {t : TaskId}
    (h : AP P ex s) {g : GraphS} {x : TaskS} (hg : s.graphs[t.g]? = some g) (hx : g.task? t.t = some x)
    {pid : Nat} {pool : Pool} (hpool : s.pools[pid]? = some pool) (hok : (pool.removeTask (gid t)).2 = .ok) :
    x.state = .running := by
  have hT : taskAt s.graphs t = some x := taskAt_of _ _ g x hg hx
  rcases Pool.removeTask_view pool (gid t) with ⟨_, i, ks, _, hvi, hmem, _⟩ | ⟨hne, _⟩
  case inr => exact absurd hok hne
  have hvs : (views s.pools)[pid]? = some pool.view := by rw [views_getElem?, hpool]; rfl
  obtain ⟨x0, hx0, hrun⟩ := h.core.resRun pid i _ ⟨pool.view, ks, hvs, hvi, hmem⟩
  rw [ungid_gid t (h.core.small t x hT), hT] at hx0
  cases hx0
  exact hrun

/-- **TASK_FINISHED**: the pool removed the task, `Task.finish` was called, the two log
entries were appended. `e0` is the event being handled; it may go (`hsub`). -/
theorem AP.removeFinish {ex ex' : List SEvent} {s s' : SimS} (t : TaskId) (time : Int) {e0 : SEvent}
    (he0 : e0 ∈ ex) (hty : e0.ev.etype = ET.taskFinished) (htid : e0.tid = some t) (htime : e0.ev.time = time)
    (h : AP RunOK ex s) {g : GraphS} {x : TaskS} (hg : s.graphs[t.g]? = some g) (hx : g.task? t.t = some x)
    {pid : Nat} {pool : Pool} (hpool : s.pools[pid]? = some pool) (hok : (pool.removeTask (gid t)).2 = .ok)
    (hp : s'.pools = s.pools.setIfInBounds pid (pool.removeTask (gid t)).1 := by rfl)
    (hgr : s'.graphs = s.graphs.setIfInBounds t.g (g.setTask t.t (x.call (.finish none)).1) := by rfl)
    (hl : s'.log = (s.log.push (.remove t pid time)).push (.finish t time) := by rfl)
    (hsub : ∀ e ∈ s'.queue.toList ++ ex', e ∈ s.queue.toList ++ ex := by exact fun _ h => h)
    (hn : s'.now = s.now := by rfl) (hfu : s'.future = s.future := by rfl)
    (hns : s'.nextSched = s.nextSched := by rfl) (hid : s'.nextEid = s.nextEid := by rfl)
    (ha : s'.allGraphs = s.allGraphs := by rfl) (hj : s'.jobs = s.jobs := by rfl)
    (hlr : s'.loaderReleased = s.loaderReleased := by rfl) :
    AP RunOK ex' s' := by
  have hT : taskAt s.graphs t = some x := taskAt_of _ _ g x hg hx
  have hsm := h.core.small t x hT
  rcases Pool.removeTask_view pool (gid t) with ⟨_, i, ks, hget, hvi, hmem, hview, hplaced⟩ | ⟨hne, _⟩
  case inr => exact absurd hok hne
  have hvs : (views s.pools)[pid]? = some pool.view := by rw [views_getElem?, hpool]; rfl
  have hpm : (pmaps s.pools)[pid]? = some pool.placed := by rw [pmaps_getElem?, hpool]; rfl
  have hrun := running_of_removed h hg hx hpool hok
  obtain ⟨hfin1, hfin2⟩ := doFinish_running x hrun
  obtain ⟨hT't, hT'o⟩ := taskAt_setTask s.graphs t g x (x.call (.finish none)).1 hg hx
  have hpre' := call_preOK x (.finish none) (h.core.preOK t x hT)
  have hcore := h.core.remove_finish (T' := taskAt s'.graphs) t (x.call (.finish none)).1 pid i pool.view ks pool.placed
    hsm hvs hvi hmem hpm (by rw [hgr]; exact hT't) (by rw [hgr]; exact hT'o) hfin2 hpre'
  -- the `.start` entry that justifies the `.finish` entry
  obtain ⟨r, hr, _, hls, _, r0, pid0, hstart, hsum⟩ := h.core.run t x hT hrun
  obtain ⟨y, hy, _, hdue⟩ := h.core.fin e0 (List.mem_append_right _ he0) hty t htid
  rw [hT] at hy; cases hy
  have htime' : time = x.start + r0 := by
    have h1 := hdue hrun r hr
    rw [htime] at h1
    omega
  have hlog : s'.log.toList = (s.log.toList ++ [LogE.remove t pid time]) ++ [LogE.finish t time] := by
    rw [hl]; simp
  refine ⟨?_, ?_, ?_, ?_, ?_, ?_⟩
  · rw [hp, views_set, pmaps_set, hview, hplaced, hn]
    refine (hcore.mono_P ?_).q_sub fun e he _ => hsub e he
    intro u y _ _ hp'
    refine logMono_RunOK _ _ _ u y ?_ hp'
    intro e he; rw [hlog]; simp [he]
  · rw [hlog]
    apply LogOK.push
    · apply LogOK.push _ _ h.log
      intro t' τ he; cases he
    · intro t' τ he
      cases he
      exact ⟨x.start, r0, pid0, by simp [hstart], htime'⟩
  · rw [hfu, hns, hid]
    exact h.eids.benign (fun e he _ => hsub e he) (fun _ hx => .inl hx) (Nat.le_refl _)
  · rw [ha]; exact h.allQ
  · rw [hj]; exact h.tmplQ
  · exact h.loaderOf hg s' hlr

theorem doStart_ok (x : TaskS) (time fuzzed : Int) (h : (x.doStart time fuzzed).2 = none) :
    x.state = .scheduled ∧ 0 ≤ fuzzed ∧ (x.doStart time fuzzed).1.state = .running ∧
    (x.doStart time fuzzed).1.start = time ∧ (x.doStart time fuzzed).1.lastStep = time ∧
    (x.doStart time fuzzed).1.remaining = some fuzzed ∧ (x.doStart time fuzzed).1.pre = x.pre := by
  rcases TaskS.doStart_cases x time fuzzed with ⟨_, e⟩ | ⟨hs, ⟨_, e⟩ | ⟨_, _, e⟩ | ⟨_, hf, e⟩⟩
  · exact absurd h e
  all_goals rw [e] at h ⊢
  · cases h
  · cases h
  · exact ⟨hs, hf, rfl, rfl, rfl, rfl, rfl⟩

theorem ready_not_running (g : GraphS) (k : Nat) (x : TaskS) (h : g.isReadyToRun k = true) (hx : g.task? k = some x) :
    x.state ≠ .running ∧ x.isComplete = false := by
  simp only [GraphS.isReadyToRun, hx, Bool.and_eq_true, Bool.or_eq_true, beq_iff_eq] at h
  rcases h.2 with h2 | h2 <;> simp [h2, TaskS.isComplete]

/-- **TASK_PLACEMENT, the task starts**: the pool placed the task, `Task.start` succeeded,
the `.place` and `.start` entries were appended. -/
theorem AP.placeStart {ex : List SEvent} {s s' : SimS} {t : TaskId} {time fuzzed : Int} (htime : time = s.now)
    (h : AP RunOK ex s) {g : GraphS} {x : TaskS} (hg : s.graphs[t.g]? = some g) (hx : g.task? t.t = some x)
    {pid : Nat} {pool : Pool} (hpool : s.pools[pid]? = some pool)
    {strats : List Strategy} {st : Option Strategy} {wid : Option Nat}
    (hok : (pool.placeTask (gid t) strats st wid).2 = .ok true)
    (hstart : (x.doStart time fuzzed).2 = none)
    (hp : s'.pools = s.pools.setIfInBounds pid (pool.placeTask (gid t) strats st wid).1 := by rfl)
    (hgr : s'.graphs = s.graphs.setIfInBounds t.g (g.setTask t.t (x.doStart time fuzzed).1) := by rfl)
    (hl : s'.log = (s.log.push (.place t pid time)).push (.start t time fuzzed pid) := by rfl)
    (hn : s'.now = s.now := by rfl) (hq : s'.queue = s.queue := by rfl) (hfu : s'.future = s.future := by rfl)
    (hns : s'.nextSched = s.nextSched := by rfl) (hid : s'.nextEid = s.nextEid := by rfl)
    (ha : s'.allGraphs = s.allGraphs := by rfl) (hj : s'.jobs = s.jobs := by rfl)
    (hlr : s'.loaderReleased = s.loaderReleased := by rfl) : AP RunOK ex s' := by
  have hT : taskAt s.graphs t = some x := taskAt_of _ _ g x hg hx
  obtain ⟨hs, hf0, k1, k2, k3, k4, k5⟩ := doStart_ok x time fuzzed hstart
  rcases Pool.placeTask_view pool (gid t) strats st wid with ⟨_, i, ks, hvi, hview, hplaced⟩ | ⟨hne, _⟩
  case inr => exact absurd hok hne
  have hvs : (views s.pools)[pid]? = some pool.view := by rw [views_getElem?, hpool]; rfl
  have hpm : (pmaps s.pools)[pid]? = some pool.placed := by rw [pmaps_getElem?, hpool]; rfl
  obtain ⟨hT't, hT'o⟩ := taskAt_setTask s.graphs t g x (x.doStart time fuzzed).1 hg hx
  have hlog : s'.log.toList = (s.log.toList ++ [LogE.place t pid time]) ++ [LogE.start t time fuzzed pid] := by
    rw [hl]; simp
  have hpre : (x.doStart time fuzzed).1.PreOK := by
    have := h.core.preOK t x hT
    simpa [TaskS.PreOK, k5] using this
  -- first extend the log (the RUNNING tasks' facts only read it through membership), then place and start
  have hcore0 : Core (views s.pools) (pmaps s.pools) (taskAt s.graphs) (RunOK s.now s'.log.toList) (s.queue.toList ++ ex) :=
    h.core.mono_P (fun u y _ _ hp' => logMono_RunOK _ _ _ u y (fun e he => by rw [hlog]; simp [he]) hp')
  have hP : RunOK s.now s'.log.toList t (x.doStart time fuzzed).1 := by
    refine ⟨fuzzed, k4, hf0, k3.trans htime, by rw [k2, htime]; exact Int.le_refl _, fuzzed, pid, ?_, by rw [k2, htime]⟩
    rw [k2, hlog]; simp
  have hcore := hcore0.place_start (T' := taskAt s'.graphs) t x (x.doStart time fuzzed).1 pid i pool.view ks pool.placed
    hT (by simp [hs]) (by simp [TaskS.isComplete, hs]) hvs hvi hpm
    (by rw [hgr]; exact hT't) (by rw [hgr]; exact hT'o) k1 hpre hP
  refine ⟨?_, ?_, ?_, ?_, ?_, ?_⟩
  · rw [hp, views_set, pmaps_set, hview, hplaced, hn, hq]; exact hcore
  · rw [hlog]
    apply LogOK.push
    · apply LogOK.push _ _ h.log
      intro t' τ he; cases he
    · intro t' τ he; cases he
  · rw [hq, hfu, hns, hid]; exact h.eids
  · rw [ha]; exact h.allQ
  · rw [hj]; exact h.tmplQ
  · exact h.loaderOf hg s' hlr

/-- What holds when the handler raises after the pool placed the task (no strategy in the
placement, no draw left, `Task.start` refused): single residency, RUNNING ⇒ resident, the log. -/
theorem WInv.placed {ex : List SEvent} (s s' : SimS) (t : TaskId) (h : AP RunOK ex s)
    (g : GraphS) (x : TaskS) (hg : s.graphs[t.g]? = some g) (hx : g.task? t.t = some x) (hnr : x.state ≠ .running)
    (pid : Nat) (pool : Pool) (hpool : s.pools[pid]? = some pool)
    (strats : List Strategy) (st : Option Strategy) (wid : Option Nat)
    (hok : (pool.placeTask (gid t) strats st wid).2 = .ok true)
    (hp : s'.pools = s.pools.setIfInBounds pid (pool.placeTask (gid t) strats st wid).1)
    (hoth : ∀ u, u ≠ t → taskAt s'.graphs u = taskAt s.graphs u)
    (hl : ∃ es, s'.log.toList = s.log.toList ++ es ∧ ∀ e ∈ es, ∀ t τ, e ≠ LogE.finish t τ) : WInv s' := by
  have hT : taskAt s.graphs t = some x := taskAt_of _ _ g x hg hx
  rcases Pool.placeTask_view pool (gid t) strats st wid with ⟨_, i, ks, hvi, hview, hplaced⟩ | ⟨hne, _⟩
  case inr => exact absurd hok hne
  have hvs : (views s.pools)[pid]? = some pool.view := by rw [views_getElem?, hpool]; rfl
  obtain ⟨w1, w2, w3⟩ := h.core.place_weak (T' := taskAt s'.graphs) t x pid i pool.view ks hT hnr hvs hvi hoth
  obtain ⟨es, hes, hnf⟩ := hl
  refine ⟨?_, ?_, ?_, ?_⟩
  · rw [hp, views_set, hview]; exact w1
  · rw [hp, views_set, hview]; exact w2
  · rw [hp, views_set, hview]; exact w3
  · rw [hes]; exact LogOK.append _ _ h.log hnf

/-- `WInv.placed` at the raise points of `placementPlace` after the pool took the task and before the `.start` entry:
the task was ready; since then at most its own record changed, and one `.place` entry was logged. -/
theorem WInv.placedReady {ex : List SEvent} {s s' : SimS} {t : TaskId} (h : AP RunOK ex s) {g : GraphS} {x : TaskS}
    (hg : s.graphs[t.g]? = some g) (hx : g.task? t.t = some x) (hready : g.isReadyToRun t.t = true)
    {pid : Nat} {pool : Pool} (hpool : s.pools[pid]? = some pool)
    {strats : List Strategy} {st : Option Strategy} {wid : Option Nat}
    (hok : (pool.placeTask (gid t) strats st wid).2 = .ok true)
    (hoth : ∀ u, u ≠ t → taskAt s'.graphs u = taskAt s.graphs u := by exact fun _ _ => rfl)
    (hl : ∃ es, s'.log.toList = s.log.toList ++ es ∧ ∀ e ∈ es, ∀ t τ, e ≠ LogE.finish t τ := by
      exact log_push_ext _ _ rfl)
    (hp : s'.pools = s.pools.setIfInBounds pid (pool.placeTask (gid t) strats st wid).1 := by rfl) : WInv s' :=
  WInv.placed s s' t h g x hg hx (ready_not_running g t.t x hready hx).1 pid pool hpool strats st wid hok hp hoth hl

/-- The task started with no work left: its TASK_FINISHED event `e` is created in the same step (`hmem`: it
joins the events outside the queue, or the queue). -/
theorem AP.placeStartFin {ex ex' : List SEvent} {s s' : SimS} {t : TaskId} {time fuzzed : Int}
    (htime : time = s.now) (h : AP RunOK ex s) {g : GraphS} {x : TaskS} (hg : s.graphs[t.g]? = some g)
    (hx : g.task? t.t = some x) {pid : Nat} {pool : Pool} (hpool : s.pools[pid]? = some pool)
    {strats : List Strategy} {st : Option Strategy} {wid : Option Nat}
    (hok : (pool.placeTask (gid t) strats st wid).2 = .ok true) (hstart : (x.doStart time fuzzed).2 = none)
    {a : Int} (hrt : (x.doStart time fuzzed).1.remainingTime = .ok a) (ha0 : (a == 0) = true) {e : SEvent}
    (hmem : ∀ e' ∈ s'.queue.toList ++ ex', e' ∈ s.queue.toList ++ ex ∨ e' = e)
    (htid : e.tid = some t := by rfl) (hetime : e.ev.time = time := by rfl) (heid : e.ev.eid = s.nextEid := by rfl)
    (hp : s'.pools = s.pools.setIfInBounds pid (pool.placeTask (gid t) strats st wid).1 := by rfl)
    (hgr : s'.graphs = s.graphs.setIfInBounds t.g (g.setTask t.t (x.doStart time fuzzed).1) := by rfl)
    (hl : s'.log = (s.log.push (.place t pid time)).push (.start t time fuzzed pid) := by rfl)
    (hn : s'.now = s.now := by rfl) (hfu : s'.future = s.future := by rfl)
    (hns : s'.nextSched = s.nextSched := by rfl) (hid : s'.nextEid = s.nextEid + 1 := by rfl)
    (ha : s'.allGraphs = s.allGraphs := by rfl) (hj : s'.jobs = s.jobs := by rfl)
    (hlr : s'.loaderReleased = s.loaderReleased := by rfl) (hm : s'.metas = s.metas := by rfl) :
    AP RunOK ex' s' := by
  -- the state after the `.start` entry was logged
  let s1 : SimS := { s with pools := s.pools.setIfInBounds pid (pool.placeTask (gid t) strats st wid).1,
                            graphs := s.graphs.setIfInBounds t.g (g.setTask t.t (x.doStart time fuzzed).1),
                            log := (s.log.push (.place t pid time)).push (.start t time fuzzed pid) }
  have h1 : AP RunOK ex s1 := AP.placeStart htime h hg hx hpool hok hstart
  obtain ⟨_, _, k1, _, k3, k4, _⟩ := doStart_ok x time fuzzed hstart
  have hT := (taskAt_setTask s.graphs t g x (x.doStart time fuzzed).1 hg hx).1
  simp only [TaskS.remainingTime, k1, k4] at hrt
  cases hrt
  refine h1.finEvent (s := s1) hT k1 (fun r hr => ?_) htid heid hmem hid hp hgr hn hl hfu hns ha hj hlr hm
  rw [k4] at hr
  cases hr
  rw [hetime, k3, eq_of_beq ha0]
  exact (Int.add_zero _).symm

end ErdosVerif.Model.Sim
