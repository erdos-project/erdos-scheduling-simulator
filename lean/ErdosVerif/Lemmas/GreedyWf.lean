import ErdosVerif.Lemmas.GreedyRun
import ErdosVerif.Lemmas.MinLoop
/-!
Shape of the decisions of the greedy policies (well-formedness, admission test) and the
witness of finding D13.  Core Lean only.
-/
namespace ErdosVerif.Model.Greedy

/-- A well-formed answer for the offered task `o` on a cluster of `n` pools:
a cancellation, a "not placed" answer, or a placement that names an existing pool, one of
the task's own strategies, the invocation time, and no worker. -/
def Wf (cfg : Cfg) (n : Nat) (o : Offered) (d : PlacementS) : Prop :=
  d.task = o.id ∧ d.worker = none ∧
  ((d.kind = .cancel ∧ d.pool = none ∧ d.strat = none ∧ d.time = none) ∨
   (d.kind = .place ∧ d.pool = none ∧ d.strat = none ∧ d.time = none) ∨
   (d.kind = .place ∧ ∃ i s, d.pool = some i ∧ i < n ∧ d.strat = some s ∧ s ∈ o.task.strategies ∧
      d.time = some cfg.now))

theorem step_wf (cfg : Cfg) (V : List Pool) (o : Offered) (d : PlacementS) (V' : List Pool)
    (h : step cfg V o = .ok (d, V')) : Wf cfg V.length o d := by
  rcases step_cases cfg V o d V' h with ⟨_, rfl, rfl⟩ | ⟨_, _, rfl, rfl⟩ | ⟨s, i, p, p', b, _, hc, hp, _, rfl, rfl⟩
  · exact ⟨rfl, rfl, .inl ⟨rfl, rfl, rfl, rfl⟩⟩
  · exact ⟨rfl, rfl, .inr (.inl ⟨rfl, rfl, rfl, rfl⟩)⟩
  · obtain ⟨a, b', _, hab, _⟩ := choose_some V _ s i hc
    have hi : i < V.length := (List.getElem?_eq_some_iff.mp hp).1
    exact ⟨rfl, rfl, .inr (.inr ⟨rfl, i, s, rfl, hi, rfl, by simp [hab], rfl⟩)⟩

theorem run_wf (cfg : Cfg) (V : List Pool) (os : List Offered) (ds : List PlacementS)
    (Vf : List Pool) (h : run cfg V os = .ok (ds, Vf)) :
    ∀ o d, (o, d) ∈ os.zip ds → Wf cfg V.length o d := by
  intro o d hm
  obtain ⟨Vb, Va, hl, hs⟩ := run_zip cfg V os ds Vf h o d hm
  exact hl ▸ step_wf cfg Vb o d Va hs

/-- `get_fastest_strategy()` is a strategy of the task with the least runtime. -/
theorem fastest_min (l : List Strategy) (f : Strategy) (h : TaskS.fastest? l = some f) :
    f ∈ l ∧ ∀ x ∈ l, f.runtime ≤ x.runtime := by
  cases l with
  | nil => simp [TaskS.fastest?] at h
  | cons s r =>
    simp only [TaskS.fastest?, Option.some.injEq] at h
    subst h
    exact Heap.foldl_min_key (·.runtime) r s

theorem step_hopeless (cfg : Cfg) (V : List Pool) (o : Offered) (d : PlacementS) (V' : List Pool)
    (h : step cfg V o = .ok (d, V')) :
    (hopeless cfg o = .ok true ∧ d.kind = .cancel ∧ d.pool = none ∧ d.strat = none) ∨
    (hopeless cfg o = .ok false ∧ d.kind = .place) := by
  rcases step_cases cfg V o d V' h with ⟨hh, rfl, _⟩ | ⟨hh, _, rfl, _⟩ | ⟨s, i, p, p', b, hh, _, _, _, rfl, _⟩
  · exact .inl ⟨hh, rfl, rfl, rfl⟩
  · exact .inr ⟨hh, rfl⟩
  · exact .inr ⟨hh, rfl⟩

namespace Witness

def cpuReq : Vec := [(⟨"CPU", none⟩, 1)]
def gpuReq : Vec := [(⟨"GPU", none⟩, 1)]
def sAgpu : Strategy := ⟨0, false, 1, 2, gpuReq⟩
def sAcpu : Strategy := ⟨1, false, 1, 2, cpuReq⟩
def sB : Strategy := ⟨2, false, 1, 2, cpuReq⟩
def sC : Strategy := ⟨3, false, 1, 2, gpuReq⟩

def mkTask (strats : List Strategy) (deadline : Int) : TaskS :=
  { name := "", conditional := false, terminal := false, prob := 1000, strategies := strats,
    profile := 0, state := .released, release := 0, deadline := deadline }

/-- A (GPU or CPU), B (CPU), C (GPU), deadlines 5 < 6 < 7, all released at 0, same runtimes:
the same order under EDF, FIFO (stable) and LSF. -/
def offer : List Offered :=
  [⟨⟨0, 0⟩, "G0", mkTask [sAgpu, sAcpu] 5⟩, ⟨⟨1, 0⟩, "G1", mkTask [sB] 6⟩, ⟨⟨2, 0⟩, "G2", mkTask [sC] 7⟩]

/-- One pool: worker 0 has one CPU, worker 1 has one GPU; nothing is running. -/
def live : List Pool :=
  [⟨[Worker.ofVec [(⟨"CPU", some 0⟩, 1)], Worker.ofVec [(⟨"GPU", some 1⟩, 1)]], []⟩]

def cfg (p : Policy) : Cfg := ⟨p, false, 0⟩

def summary (r : Result) : List (TaskId × Option Nat × Option Nat) :=
  r.placements.map (fun d => (d.task, d.pool, d.strat.map (·.sid)))

end Witness

theorem ok_of_match {ε α} (x : Except ε α) (f : α → Bool)
    (h : (match x with | .ok r => f r | .error _ => false) = true) : ∃ r, x = .ok r ∧ f r = true := by
  cases x with
  | ok r => exact ⟨r, rfl, h⟩
  | error e => simp at h

end ErdosVerif.Model.Greedy
