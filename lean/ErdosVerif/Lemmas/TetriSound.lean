/-
Soundness of both TetriSched formulations w.r.t. the independent specification:
`sat σ (gen I) → ValidPlan I (planOf I σ)`.  The heart is the capacity clause: the left-hand
side of the row of `(slot, worker, resource)` evaluates to the load of the decoded plan, and a
row that is not emitted guards a slot whose load is zero (or the RUNNING tasks' own load).
-/
import ErdosVerif.Lemmas.TetriGurobi
namespace ErdosVerif.Tetri
open ErdosVerif.Mip ErdosVerif.TetriSpec

variable {I : Inst} {σ : Var → Int}

theorem load_zero_of_qty_zero {plan : Plan}
    (hcomp : ∀ t ∈ I.act, ∀ c, plan.get t = some c → compatible (I.worker c.1) ((I.task t).strat c.2.2) = true)
    {w : Nat} (k : Nat) {r : String} (hq : qty (I.worker w).res r = 0) : load I plan w k r = 0 := by
  apply nsum_eq_zero
  intro a ha
  obtain ⟨t, ht, rfl⟩ := List.mem_map.mp ha
  unfold demandAt
  cases hp : plan.get t with
  | none => rfl
  | some c =>
    simp only
    split
    · next hc => exact req_zero_of_compatible (hc.1 ▸ hcomp t ht c hp) hq
    · rfl

theorem pick_compatible (hwf : I.wf = true) {t : Nat} (ht : t ∈ I.act)
    {c : Cell} (hp : pick I σ t = some c) :
    compatible (I.worker c.1) ((I.task t).strat c.2.2) = true := by
  unfold pick at hp
  split at hp
  · next hr => exact Option.some.inj hp ▸ (wf_running hwf ht hr).2.2
  · exact (hasVar_spec (chosen_spec hp).2.1).2.1

theorem demandAt_pick (σ : Var → Int) {t : Nat} (ht : t ∈ I.act) (w k : Nat) (r : String) :
    demandAt I (planOf I σ) w k r t =
      match pick I σ t with
      | some c => if c.1 = w ∧ I.covers t c.2.1 c.2.2 k = true then I.req t c.2.2 r else 0
      | none => 0 := by
  unfold demandAt
  rw [planOf_get_act σ ht]
  rfl

theorem demand_nonRunning_zero {t : Nat} (ht : t ∈ I.nonRunning)
    {w k : Nat} {r : String} (hv : I.resHasVar w k r = false) :
    demandAt I (planOf I σ) w k r t = 0 := by
  have hr := (mem_nonRunning.mp ht).2.2
  rw [demandAt_pick σ (act_of_nonRunning ht)]
  simp only [pick, hr, Bool.false_eq_true, if_false]
  cases hc : I.chosen σ t with
  | none => rfl
  | some c =>
    simp only
    split
    · next hcw =>
      -- the chosen cell would be a variable term of the row
      obtain ⟨hk, hvar, _⟩ := chosen_spec hc
      have h1 := List.any_eq_false.mp hv t ht
      simp only [Inst.hasVar, hr, Bool.not_false, Bool.true_and] at hvar
      simp at h1
      exact h1 c.1 c.2.1 c.2.2 hk hcw.1 hcw.2 hvar
    · rfl

theorem load_eq_running {w k : Nat} {r : String}
    (hv : I.resHasVar w k r = false) : load I (planOf I σ) w k r = I.runningLoad w k r := by
  unfold load Inst.runningLoad
  rw [nsum_map_filter]
  congr 1
  apply List.map_congr_left
  intro t ht
  cases hr : I.running t with
  | false => simp [demand_nonRunning_zero (nonRunning_of_act ht hr) hv]
  | true => simp [demandAt_pick σ ht, pick, hr, runningCell]

theorem capacity_at_slot (h : sat σ (gen I)) (hwf : I.wf = true)
    (hm : I.noModel = false) {w : Nat} (hw : w < I.nW) {k : Nat} (hk : k < I.nSlots) (r : String) :
    load I (planOf I σ) w k r ≤ qty (I.worker w).res r := by
  have hzero : qty (I.worker w).res r = 0 → load I (planOf I σ) w k r ≤ qty (I.worker w).res r := by
    intro hq
    rw [load_zero_of_qty_zero (fun t ht c hp => pick_compatible hwf ht (planOf_get_act σ ht ▸ hp)) k hq]
    exact Nat.zero_le _
  by_cases hty : r ∈ (I.worker w).types
  case neg => exact hzero (qty_zero_of_not_types hty)
  by_cases hrow : I.resRow w k r = true
  · -- the row is emitted and its left-hand side is the load
    have := (cRes_holds I σ).mp (rows h).res k hk w hw r hty hrow
    rw [resE_ind (ind_of_sat h hwf hm)] at this
    exact_mod_cast this
  · by_cases hq : qty (I.worker w).res r = 0
    · exact hzero hq
    · -- no variable term: only the RUNNING tasks load the slot, and they fit (`wfRunningFit`)
      have hq' : (qty (I.worker w).res r != 0) = true := by simpa using hq
      simp only [Inst.resRow, hq', Bool.true_and, Bool.or_eq_true, not_or, Bool.not_eq_true] at hrow
      rw [load_eq_running hrow.1]
      exact wf_fit hwf hk hw hty

/-- **Soundness.** The plan decoded from any feasible point of `gen I` (either formulation) is a
valid plan of the independent specification. -/
theorem tetri_sound (h : sat σ (gen I)) (hwf : I.wf = true)
    (hm : I.noModel = false) : ValidPlan I (planOf I σ) where
  len := planOf_length I σ
  inactive := by
    intro t ht ha
    rw [planOf_get σ ht]; simp [ha]
  running := by
    intro t ht ha hr
    rw [planOf_get σ ht]; simp [ha, pick, hr]
  wf := by
    intro t c ht hr hp
    have hc := (planOf_get_some ht hp).2
    simp only [pick, hr, Bool.false_eq_true, if_false] at hc
    obtain ⟨hk, hv, _⟩ := chosen_spec hc
    simp only [Inst.hasVar, hr, Bool.not_false, Bool.true_and] at hv
    exact ⟨(mem_keys.mp hk).1, (mem_keys.mp hk).2.1, (mem_keys.mp hk).2.2, hv⟩
  required := by
    intro t ht ha hmu
    rw [planOf_get_act σ (mem_act.mpr ⟨ht, ha⟩)]
    exact must_picked h hwf hm (mem_act.mpr ⟨ht, ha⟩) hmu
  prec := by
    intro hG c cc hc hr hp
    obtain ⟨hca, hpc⟩ := planOf_get_some hc hp
    have hcn := nonRunning_of_act hca hr
    have hpar := parents_placed h hwf hm hG hcn (by simp [hpc])
    refine ⟨fun hne => (hpar hne).1, fun p hpp => ?_⟩
    have hpa : p ∈ I.act := (List.mem_filter.mp hpp).1
    obtain ⟨cp, hcp⟩ := Option.isSome_iff_exists.mp ((hpar (List.ne_nil_of_mem hpp)).2 p hpp)
    refine ⟨cp, by rw [planOf_get_act σ hpa, hcp], ?_⟩
    have hrow := start_after_row h hG hcn hpp
    rwa [startE_eval_pick h hwf hm hG hca hpc, startE_eval_pick h hwf hm hG hpa hcp] at hrow
  capacity := fun w hw k hk r => capacity_at_slot h hwf hm hw hk r

end ErdosVerif.Tetri
