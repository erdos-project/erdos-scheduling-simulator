import ErdosVerif.Lemmas.SimResidentPool
/-!
The residency / exact-runtime invariant over the views of the simulator state, and how
it moves under the three kinds of change that concern a RUNNING task: placement + start,
removal + finish, one `Task.step`.
-/
namespace ErdosVerif.Model.Sim

/-- The resident list of worker `i` of pool `pi`. -/
def Wk (vs : List (List (List Nat))) (pi i : Nat) : Option (List Nat) := (vs[pi]?).bind (·[i]?)

theorem At_iff (vs : List (List (List Nat))) (pi i n : Nat) : At vs pi i n ↔ ∃ ks, Wk vs pi i = some ks ∧ n ∈ ks := by
  unfold At Wk
  constructor
  · rintro ⟨v, ks, h1, h2, h3⟩; exact ⟨ks, by simp [h1, h2], h3⟩
  · rintro ⟨ks, h1, h3⟩
    cases hv : vs[pi]? with
    | none => simp [hv] at h1
    | some v => exact ⟨v, ks, rfl, by simpa [hv] using h1, h3⟩

theorem Wk_set (vs : List (List (List Nat))) (pi i : Nat) (v : List (List Nat)) (ks ks' : List Nat)
    (hv : vs[pi]? = some v) (hk : v[i]? = some ks) (pj j : Nat) :
    Wk (vs.set pi (v.set i ks')) pj j = if pj = pi ∧ j = i then some ks' else Wk vs pj j := by
  have hpi : pi < vs.length := (List.getElem?_eq_some_iff.mp hv).1
  have hi : i < v.length := (List.getElem?_eq_some_iff.mp hk).1
  unfold Wk
  by_cases hp : pj = pi
  · subst hp
    obtain ⟨_, hve⟩ := List.getElem?_eq_some_iff.mp hv
    by_cases hj : j = i
    · subst hj; simp [hpi, hi]
    · have hj' : ¬ i = j := fun e => hj e.symm
      simp [hpi, hj, hj', hve]
  · have hp' : ¬ pi = pj := fun e => hp e.symm
    simp [hp, hp']

theorem At_here {vs : List (List (List Nat))} {pi i : Nat} {ks : List Nat} (h : Wk vs pi i = some ks) (n : Nat) :
    At vs pi i n ↔ n ∈ ks := by
  rw [At_iff, h]; simp

theorem At_set (vs : List (List (List Nat))) (pi i : Nat) (v : List (List Nat)) (ks ks' : List Nat)
    (hv : vs[pi]? = some v) (hk : v[i]? = some ks) (pj j m : Nat) :
    At (vs.set pi (v.set i ks')) pj j m ↔ if pj = pi ∧ j = i then m ∈ ks' else At vs pj j m := by
  rw [At_iff, Wk_set vs pi i v ks ks' hv hk]
  split <;> simp [At_iff]

theorem upd_cases {T T' : TaskId → Option TaskS} {t : TaskId} {x' : TaskS} (hT' : T' t = some x')
    (hoth : ∀ u, u ≠ t → T' u = T u) (u : TaskId) (y : TaskS) (hu : T' u = some y) :
    (u = t ∧ y = x') ∨ (u ≠ t ∧ T u = some y) := by
  by_cases hut : u = t
  · subst hut; rw [hT'] at hu; cases hu; exact Or.inl ⟨rfl, rfl⟩
  · rw [hoth u hut] at hu; exact Or.inr ⟨hut, hu⟩

/-- `P` is what is known of every RUNNING task (exact runtime bookkeeping), `q` the queued events. -/
structure Core (vs : List (List (List Nat))) (pm : List (AList Nat Nat)) (T : TaskId → Option TaskS)
    (P : TaskId → TaskS → Prop) (q : List SEvent) : Prop where
  /-- node indices fit the task-id encoding used as key in the worker pools -/
  small : ∀ t x, T t = some x → t.t < 65536
  preOK : ∀ t x, T t = some x → x.PreOK
  wnodup : ∀ pi i ks, Wk vs pi i = some ks → ks.Nodup
  /-- **single residency**: a task id is resident on at most one worker of one pool -/
  single : ∀ pi i pj j n, At vs pi i n → At vs pj j n → pi = pj ∧ i = j
  /-- the pool-level map knows every resident task -/
  bwd : ∀ pi i n, At vs pi i n → ∃ m, pm[pi]? = some m ∧ m.get? n = some i
  resRun : ∀ pi i n, At vs pi i n → ∃ x, T (ungid n) = some x ∧ x.state = .running
  runRes : ∀ t x, T t = some x → x.state = .running → ∃ pi i, At vs pi i (gid t)
  run : ∀ t x, T t = some x → x.state = .running → P t x
  /-- a queued TASK_FINISHED event belongs to a task that has started, and while the task
  is RUNNING the event is due exactly when the task's remaining time runs out -/
  fin : ∀ e ∈ q, e.ev.etype = ET.taskFinished → ∀ t, e.tid = some t →
    ∃ x, T t = some x ∧ (x.state = .running ∨ x.isComplete = true) ∧
      (x.state = .running → ∀ r, x.remaining = some r → e.ev.time = x.lastStep + r)

namespace Core
variable {vs : List (List (List Nat))} {pm : List (AList Nat Nat)} {T : TaskId → Option TaskS}
  {P : TaskId → TaskS → Prop} {q : List SEvent}

theorem mono_P {P' : TaskId → TaskS → Prop} (h : Core vs pm T P q)
    (hP : ∀ t x, T t = some x → x.state = .running → P t x → P' t x) : Core vs pm T P' q :=
  { h with run := fun t x ht hs => hP t x ht hs (h.run t x ht hs) }

theorem q_sub {q' : List SEvent} (h : Core vs pm T P q)
    (hq : ∀ e ∈ q', e.ev.etype = ET.taskFinished → e ∈ q) : Core vs pm T P q' :=
  { h with fin := fun e he hf => h.fin e (hq e he hf) hf }

theorem trel {T' : TaskId → Option TaskS} (h : Core vs pm T P q) (hr : TRel T T') : Core vs pm T' P q := by
  have back : ∀ t x', T' t = some x' → x'.state = .running → T t = some x' := fun _ _ => hr.running_back
  have fwd : ∀ t x, T t = some x → x.state = .running → T' t = some x := by
    intro t x ht hs
    obtain ⟨y, hy, r⟩ := hr.old t x ht
    rcases r with r | r
    · rw [← r]; exact hy
    · exact absurd hs r.1
  refine ⟨?_, ?_, h.wnodup, h.single, h.bwd, ?_, ?_, ?_, ?_⟩
  · intro t x' ht
    rcases hr.new t x' ht with ⟨x, hx⟩ | ⟨_, _, hs⟩
    · exact h.small t x hx
    · exact hs
  · exact hr.preOK h.preOK
  · intro pi i n hat
    obtain ⟨x, hx, hs⟩ := h.resRun pi i n hat
    exact ⟨x, fwd _ x hx hs, hs⟩
  · intro t x' ht hs
    exact h.runRes t x' (back t x' ht hs) hs
  · intro t x' ht hs
    exact h.run t x' (back t x' ht hs) hs
  · intro e he hf t htid
    obtain ⟨x, hx, h1, h2⟩ := h.fin e he hf t htid
    obtain ⟨y, hy, r⟩ := hr.old t x hx
    rcases r with r | r
    · rw [r] at hy; exact ⟨x, hy, h1, h2⟩
    · refine ⟨y, hy, Or.inr ?_, fun hs => absurd hs r.2.1⟩
      rcases h1 with h1 | h1
      · exact absurd h1 r.1
      · exact r.2.2.2 h1

theorem q_add {q' : List SEvent} (e0 : SEvent) (h : Core vs pm T P q)
    (hq : ∀ e ∈ q', e ∈ q ∨ e = e0)
    (he0 : e0.ev.etype = ET.taskFinished → ∀ t, e0.tid = some t →
      ∃ x, T t = some x ∧ (x.state = .running ∨ x.isComplete = true) ∧
        (x.state = .running → ∀ r, x.remaining = some r → e0.ev.time = x.lastStep + r)) :
    Core vs pm T P q' := by
  refine { h with fin := ?_ }
  intro e he hf
  rcases hq e he with h1 | h1
  · exact h.fin e h1 hf
  · subst h1; exact he0 hf

theorem table_upd {T' : TaskId → Option TaskS} (h : Core vs pm T P q) {t : TaskId} {x' : TaskS} (hT' : T' t = some x')
    (hoth : ∀ u, u ≠ t → T' u = T u) (hsm : t.t < 65536) (hpre : x'.PreOK) :
    (∀ u y, T' u = some y → u.t < 65536) ∧ (∀ u y, T' u = some y → y.PreOK) := by
  constructor <;> intro u y hu <;> rcases upd_cases hT' hoth u y hu with ⟨rfl, rfl⟩ | ⟨_, h2⟩
  · exact hsm
  · exact h.small u y h2
  · exact hpre
  · exact h.preOK u y h2

theorem place_At (h : Core vs pm T P q)
    (t : TaskId) (x : TaskS) (pi i : Nat) (v : List (List Nat)) (ks : List Nat)
    (ht : T t = some x) (hx : x.state ≠ .running)
    (hv : vs[pi]? = some v) (hk : v[i]? = some ks) :
    (∀ pj j, ¬ At vs pj j (gid t)) ∧ gid t ∉ ks ∧ addKey ks (gid t) = ks ++ [gid t] ∧
    ∀ pj j n, At (vs.set pi (v.set i (addKey ks (gid t)))) pj j n ↔ ((pj = pi ∧ j = i ∧ n = gid t) ∨ At vs pj j n) := by
  have hsm := h.small t x ht
  have hfresh : ∀ pj j, ¬ At vs pj j (gid t) := by
    intro pj j hat
    obtain ⟨y, hy, hs⟩ := h.resRun pj j _ hat
    rw [ungid_gid t hsm, ht] at hy
    cases hy
    exact hx hs
  have hwk : Wk vs pi i = some ks := by simp [Wk, hv, hk]
  have hnk : gid t ∉ ks := fun hmem => hfresh pi i ((At_here hwk _).mpr hmem)
  have hadd : addKey ks (gid t) = ks ++ [gid t] := by simp [addKey, hnk]
  refine ⟨hfresh, hnk, hadd, ?_⟩
  intro pj j n
  rw [hadd, At_set vs pi i v ks _ hv hk]
  split
  · rename_i hpj
    obtain ⟨rfl, rfl⟩ := hpj
    simp [At_here hwk, or_comm]
  · rename_i hpj
    exact ⟨Or.inr, fun h' => h'.resolve_left fun ⟨a, b, _⟩ => hpj ⟨a, b⟩⟩

/-- What survives a placement whose `Task.start` did not happen (or failed): single
residency, and every RUNNING task is resident. -/
theorem place_weak {T' : TaskId → Option TaskS} (h : Core vs pm T P q)
    (t : TaskId) (x : TaskS) (pi i : Nat) (v : List (List Nat)) (ks : List Nat)
    (ht : T t = some x) (hx : x.state ≠ .running)
    (hv : vs[pi]? = some v) (hk : v[i]? = some ks) (hoth : ∀ u, u ≠ t → T' u = T u) :
    (∀ pj j ks', Wk (vs.set pi (v.set i (addKey ks (gid t)))) pj j = some ks' → ks'.Nodup) ∧
    (∀ a b c d n, At (vs.set pi (v.set i (addKey ks (gid t)))) a b n →
        At (vs.set pi (v.set i (addKey ks (gid t)))) c d n → a = c ∧ b = d) ∧
    (∀ u y, T' u = some y → y.state = .running → ∃ pj j, At (vs.set pi (v.set i (addKey ks (gid t)))) pj j (gid u)) := by
  obtain ⟨hfresh, hnk, hadd, hAt⟩ := h.place_At t x pi i v ks ht hx hv hk
  have hwk : Wk vs pi i = some ks := by simp [Wk, hv, hk]
  refine ⟨?_, ?_, ?_⟩
  · intro pj j ks' hw
    rw [Wk_set vs pi i v ks _ hv hk] at hw
    split at hw
    · cases hw
      rw [hadd]; exact nodup_concat (h.wnodup pi i ks hwk) hnk
    · exact h.wnodup pj j ks' hw
  · intro a b c d n h1 h2
    rw [hAt] at h1 h2
    rcases h1 with ⟨e1, e2, e3⟩ | h1 <;> rcases h2 with ⟨f1, f2, f3⟩ | h2
    · exact ⟨e1.trans f1.symm, e2.trans f2.symm⟩
    · subst e3; exact absurd h2 (hfresh _ _)
    · subst f3; exact absurd h1 (hfresh _ _)
    · exact h.single a b c d n h1 h2
  · intro u y hu hs
    by_cases hut : u = t
    · subst hut; exact ⟨pi, i, (hAt ..).mpr (Or.inl ⟨rfl, rfl, rfl⟩)⟩
    · rw [hoth u hut] at hu
      obtain ⟨pj, j, hat⟩ := h.runRes u y hu hs
      exact ⟨pj, j, (hAt ..).mpr (Or.inr hat)⟩

theorem place_start {T' : TaskId → Option TaskS} (h : Core vs pm T P q)
    (t : TaskId) (x x' : TaskS) (pi i : Nat) (v : List (List Nat)) (ks : List Nat) (m : AList Nat Nat)
    (ht : T t = some x) (hx : x.state ≠ .running) (hxc : x.isComplete = false)
    (hv : vs[pi]? = some v) (hk : v[i]? = some ks) (hm : pm[pi]? = some m)
    (hT' : T' t = some x') (hoth : ∀ u, u ≠ t → T' u = T u)
    (hx' : x'.state = .running) (hpre : x'.PreOK) (hP : P t x') :
    Core (vs.set pi (v.set i (addKey ks (gid t)))) (pm.set pi (m.set (gid t) i)) T' P q := by
  have hsm := h.small t x ht
  obtain ⟨hfresh, hnk, hadd, hAt⟩ := h.place_At t x pi i v ks ht hx hv hk
  obtain ⟨hw1, hw2, hw3⟩ := h.place_weak (T' := T') t x pi i v ks ht hx hv hk hoth
  have hwk : Wk vs pi i = some ks := by simp [Wk, hv, hk]
  have hTt := upd_cases hT' hoth
  refine ⟨(h.table_upd hT' hoth hsm hpre).1, (h.table_upd hT' hoth hsm hpre).2, hw1, hw2, ?_, ?_, hw3, ?_, ?_⟩
  · intro pj j n hat
    rw [hAt] at hat
    rcases hat with ⟨e1, e2, e3⟩ | hat
    · subst e1; subst e2; subst e3
      have hlt : pj < pm.length := (List.getElem?_eq_some_iff.mp hm).1
      exact ⟨m.set (gid t) j, by simp [hlt], by rw [AList.get?_set]; simp⟩
    · obtain ⟨m1, hm1, hg⟩ := h.bwd pj j n hat
      have hne : gid t ≠ n := fun e => hfresh pj j (e ▸ hat)
      by_cases hpj : pj = pi
      · subst hpj
        rw [hm] at hm1; cases hm1
        have hlt : pj < pm.length := (List.getElem?_eq_some_iff.mp hm).1
        exact ⟨m.set (gid t) i, by simp [hlt], by rw [AList.get?_set]; simp [hne, hg]⟩
      · have hpj' : ¬ pi = pj := fun e => hpj e.symm
        exact ⟨m1, by simp [hpj', hm1], hg⟩
  · intro pj j n hat
    rw [hAt] at hat
    rcases hat with ⟨_, _, e3⟩ | hat
    · subst e3
      rw [ungid_gid t hsm]
      exact ⟨x', hT', hx'⟩
    · obtain ⟨y, hy, hs⟩ := h.resRun pj j n hat
      have hne : ungid n ≠ t := by
        intro e
        rw [e, ht] at hy; cases hy
        exact hx hs
      exact ⟨y, by rw [hoth _ hne]; exact hy, hs⟩
  · intro u y hu hs
    rcases hTt u y hu with ⟨rfl, rfl⟩ | ⟨_, h2⟩
    · exact hP
    · exact h.run u y h2 hs
  · intro e he hf u htid
    obtain ⟨y, hy, h1, h2⟩ := h.fin e he hf u htid
    have hne : u ≠ t := by
      intro e'
      rw [e', ht] at hy; cases hy
      rcases h1 with h1 | h1
      · exact hx h1
      · rw [hxc] at h1; cases h1
    exact ⟨y, by rw [hoth u hne]; exact hy, h1, h2⟩

theorem remove_finish {T' : TaskId → Option TaskS} (h : Core vs pm T P q)
    (t : TaskId) (x' : TaskS) (pi i : Nat) (v : List (List Nat)) (ks : List Nat) (m : AList Nat Nat)
    (hsm : t.t < 65536)
    (hv : vs[pi]? = some v) (hk : v[i]? = some ks) (hmem : gid t ∈ ks) (hm : pm[pi]? = some m)
    (hT' : T' t = some x') (hoth : ∀ u, u ≠ t → T' u = T u)
    (hx' : x'.isComplete = true) (hpre : x'.PreOK) :
    Core (vs.set pi (v.set i (ks.erase (gid t)))) (pm.set pi (m.erase (gid t))) T' P q := by
  have hwk : Wk vs pi i = some ks := by simp [Wk, hv, hk]
  have hnd := h.wnodup pi i ks hwk
  have hat0 : At vs pi i (gid t) := (At_here hwk _).mpr hmem
  have hx'nr : x'.state ≠ .running := by
    intro hs; simp [TaskS.isComplete, hs] at hx'
  have hAt : ∀ pj j n, At (vs.set pi (v.set i (ks.erase (gid t)))) pj j n ↔ (n ≠ gid t ∧ At vs pj j n) := by
    intro pj j n
    rw [At_set vs pi i v ks _ hv hk]
    split
    · rename_i hpj
      obtain ⟨rfl, rfl⟩ := hpj
      rw [At_here hwk, List.Nodup.mem_erase_iff hnd]
    · rename_i hpj
      exact ⟨fun c => ⟨fun e => hpj (h.single _ _ _ _ _ (e ▸ c) hat0), c⟩, And.right⟩
  have hTt := upd_cases hT' hoth
  refine ⟨(h.table_upd hT' hoth hsm hpre).1, (h.table_upd hT' hoth hsm hpre).2, ?_, ?_, ?_, ?_, ?_, ?_, ?_⟩
  · intro pj j ks' hw
    rw [Wk_set vs pi i v ks _ hv hk] at hw
    split at hw
    · cases hw; exact hnd.erase _
    · exact h.wnodup pj j ks' hw
  · intro a b c d n h1 h2
    exact h.single a b c d n ((hAt ..).mp h1).2 ((hAt ..).mp h2).2
  · intro pj j n hat
    obtain ⟨hne, hat⟩ := (hAt ..).mp hat
    obtain ⟨m1, hm1, hg⟩ := h.bwd pj j n hat
    by_cases hpj : pj = pi
    · subst hpj
      rw [hm] at hm1; cases hm1
      have hlt : pj < pm.length := (List.getElem?_eq_some_iff.mp hm).1
      exact ⟨m.erase (gid t), by simp [hlt], by rw [AList.get?_erase_ne _ _ _ (fun e => hne e.symm)]; exact hg⟩
    · have hpj' : ¬ pi = pj := fun e => hpj e.symm
      exact ⟨m1, by simp [hpj', hm1], hg⟩
  · intro pj j n hat
    obtain ⟨hne, hat⟩ := (hAt ..).mp hat
    obtain ⟨y, hy, hs⟩ := h.resRun pj j n hat
    have hne' : ungid n ≠ t := by
      intro e; apply hne; rw [← gid_ungid n, e]
    exact ⟨y, by rw [hoth _ hne']; exact hy, hs⟩
  · intro u y hu hs
    rcases hTt u y hu with ⟨_, rfl⟩ | ⟨hut, h2⟩
    · exact absurd hs hx'nr
    · obtain ⟨pj, j, hat⟩ := h.runRes u y h2 hs
      refine ⟨pj, j, (hAt ..).mpr ⟨?_, hat⟩⟩
      intro e
      exact hut (gid_inj u t (h.small u y h2) hsm e)
  · intro u y hu hs
    rcases hTt u y hu with ⟨_, rfl⟩ | ⟨_, h2⟩
    · exact absurd hs hx'nr
    · exact h.run u y h2 hs
  · intro e he hf u htid
    obtain ⟨y, hy, h1, h2⟩ := h.fin e he hf u htid
    by_cases hut : u = t
    · subst hut
      exact ⟨x', hT', Or.inr hx', fun hs => absurd hs hx'nr⟩
    · exact ⟨y, by rw [hoth u hut]; exact hy, h1, h2⟩

theorem update_running {T' : TaskId → Option TaskS} (h : Core vs pm T P q)
    (t : TaskId) (x x' : TaskS) (r r' : Int)
    (ht : T t = some x) (hxs : x.state = .running)
    (hT' : T' t = some x') (hoth : ∀ u, u ≠ t → T' u = T u)
    (hx' : x'.state = .running) (hpre : x'.PreOK) (hP : P t x')
    (hr : x.remaining = some r) (hr' : x'.remaining = some r') (heq : x'.lastStep + r' = x.lastStep + r) :
    Core vs pm T' P q := by
  have hTt := upd_cases hT' hoth
  refine ⟨(h.table_upd hT' hoth (h.small _ x ht) hpre).1, (h.table_upd hT' hoth (h.small _ x ht) hpre).2,
    h.wnodup, h.single, h.bwd, ?_, ?_, ?_, ?_⟩
  · intro pj j n hat
    obtain ⟨y, hy, hs⟩ := h.resRun pj j n hat
    by_cases hut : ungid n = t
    · rw [hut]; exact ⟨x', hT', hx'⟩
    · exact ⟨y, by rw [hoth _ hut]; exact hy, hs⟩
  · intro u y hu hs
    rcases hTt u y hu with ⟨rfl, _⟩ | ⟨_, h2⟩
    · exact h.runRes _ x ht hxs
    · exact h.runRes u y h2 hs
  · intro u y hu hs
    rcases hTt u y hu with ⟨rfl, rfl⟩ | ⟨_, h2⟩
    · exact hP
    · exact h.run u y h2 hs
  · intro e he hf u htid
    obtain ⟨y, hy, h1, h2⟩ := h.fin e he hf u htid
    by_cases hut : u = t
    · subst hut
      rw [ht] at hy; cases hy
      refine ⟨x', hT', Or.inl hx', fun _ r'' hr'' => ?_⟩
      rw [hr'] at hr''; cases hr''
      rw [h2 hxs r hr, heq]
    · exact ⟨y, by rw [hoth u hut]; exact hy, h1, h2⟩

end Core

end ErdosVerif.Model.Sim
