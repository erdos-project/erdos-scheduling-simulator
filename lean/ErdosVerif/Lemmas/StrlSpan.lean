/-
C20, spans: the placements of a satisfied node lie within its reported start / end, and what
the first child of a satisfied `LessThan` reports ends before what the second reports starts.
-/
import ErdosVerif.Lemmas.StrlStruct
namespace ErdosVerif.Strl

/-- The start / end rows the per-child loop of a `Min` emits: two per child with utility. -/
theorem minFold_cons (name : String) (ms me : VarId) (children : List (String × PR)) : ∀ acc : MinAcc,
    (children.foldl (fun a x => minStep name ms me a x.1 x.2) acc).cons = acc.cons ++
      children.flatMap fun x => if x.2.util then
        [⟨name ++ "_min_start_time_constr_child_" ++ x.1, .ge, 0 + (tvTerm 1 x.2.start).2,
            (tvTerm 1 x.2.start).1 ++ [(-1, ms)]⟩,
          ⟨name ++ "_min_end_time_constr_child_" ++ x.1, .le, 0 + (tvTerm 1 x.2.stop).2,
            (tvTerm 1 x.2.stop).1 ++ [(-1, me)]⟩] else [] := by
  induction children with
  | nil => intro acc; simp
  | cons x xs ih =>
    intro acc
    rw [List.foldl_cons, ih, List.flatMap_cons, ← List.append_assoc]
    congr 1
    unfold minStep
    cases x.2.util <;> simp

/-- The start / end rows of a `Min`: its start is no later than, and its end no earlier than,
the start and end of every child that provides utility. -/
theorem finishMin_times (σ : Assign) (path : Path) (name : String) (children : List (String × PR))
    (hc : ∀ c ∈ (finishMin path name children).2.2, Constr.holds σ c = true) :
    ∀ x ∈ children, x.2.util = true →
      σ ⟨path, .minStart⟩ ≤ resolveTV σ x.2.start ∧ resolveTV σ x.2.stop ≤ σ ⟨path, .minEnd⟩ := by
  intro x hx hu
  have hsub : ∀ c ∈ (minAcc path name children).cons, c ∈ (finishMin path name children).2.2 := by
    intro c h
    unfold finishMin
    simp only []
    split
    · exact h
    · exact List.mem_append_left _ h
  have hmem : ∀ c ∈ (if x.2.util then _ else []), c ∈ (minAcc path name children).cons := fun c h => by
    rw [minAcc, minFold_cons]
    exact List.mem_append_right _ (List.mem_flatMap.mpr ⟨x, hx, h⟩)
  simp only [hu, if_true, List.forall_mem_cons] at hmem
  have r1 := hc _ (hsub _ hmem.1)
  have r2 := hc _ (hsub _ hmem.2.1)
  simp only [Constr.holds, decide_eq_true_eq, evalTerms_append] at r1 r2
  simp only [evalTerms, List.map_cons, List.map_nil, List.sum_cons, List.sum_nil] at r1 r2
  have e1 := tvTerm_eval σ 1 x.2.start
  have e2 := tvTerm_eval σ 1 x.2.stop
  simp only [evalTerms] at e1 e2
  constructor <;> omega

theorem within_of_children (ctx : Ctx) (σ : Assign) (path : Path) (e : Expr) (he : isLeafChoose e = false)
    (lo hi : Int) (ih : Children (Span ctx σ) path 0 e.children)
    (h : ∀ x ∈ compileList ctx path 0 e.children, x.2.pr.util = true ∧ indVal σ x.2.pr = 1 ∧
      lo ≤ resolveTV σ x.2.pr.start ∧ resolveTV σ x.2.pr.stop ≤ hi) :
    ∀ pl ∈ (populateNode ctx σ path e).placements, lo ≤ pl.start ∧ pl.stop ≤ hi := by
  intro pl hpl
  obtain ⟨s, hs, hps⟩ := List.mem_flatMap.mp ((placements_sublist ctx σ path e he).subset hpl)
  obtain ⟨x, hx, hsp⟩ := children_both ctx σ path (R := fun o s => o.pr.util = true → indVal σ o.pr = 1 →
    resolveTV σ o.pr.start ≤ resolveTV σ o.pr.stop ∧
    ∀ pl ∈ s.placements, resolveTV σ o.pr.start ≤ pl.start ∧ pl.stop ≤ resolveTV σ o.pr.stop) _ 0 ih s hs
  obtain ⟨hu, h1, hlo, hhi⟩ := h x hx
  have := (hsp hu h1).2 pl hps
  omega

theorem choose_span {ctx : Ctx} {σ : Assign} {path : Path} {name strategy : String}
    {parts : List Nat} {n start dur : Nat} {u : Int} :
    Span ctx σ path (.choose name strategy parts n start dur u) := by
  intro hu _
  simp only [compileNode, choose_placements] at hu ⊢
  rcases compileChoose_cases ctx path name strategy parts n start dur u with h | ⟨_, h⟩
  · simp [h, PR.none] at hu
  · simp only [h, resolveTV]
    refine ⟨by omega, fun pl hpl => ?_⟩
    split at hpl
    · obtain rfl := List.mem_singleton.mp hpl
      exact ⟨Int.le_refl _, Int.le_refl _⟩
    · cases hpl

/-- Span soundness of every node of a tree that is built and parsed without an exception. -/
theorem span_of_sound (ctx : Ctx) (σ : Assign) : ∀ (e : Expr) (path : Path),
    (buildErr e = none ∧ wfNode ctx path e = none) ∧ Sound ctx σ path e → Span ctx σ path e := by
  refine Expr.induction ((wf_hereditary ctx).and (sound_hereditary ctx σ)) fun path e ⟨⟨_, hw⟩, hs⟩ ih => ?_
  have hle := (children_compileList ctx path (R := fun o => o.pr.util = true → indVal σ o.pr = 1 →
    resolveTV σ o.pr.start ≤ resolveTV σ o.pr.stop) _ 0).mp (ih.imp fun _ _ _ h hu h1 => (h hu h1).1)
  cases e with
  | choose name strategy parts n start dur u => exact choose_span
  | alloc name allocs start dur =>
    intro _ _
    refine ⟨by simp only [compileNode, compileAlloc, resolveTV]; omega, fun pl hpl => ?_⟩
    cases (List.sublist_nil.mp (placements_sublist ctx σ path (.alloc name allocs start dur) rfl)) ▸ hpl
  | obj => cases hw
  | min name cs =>
    intro hu h1
    have hsat := children_sat hs rfl hu h1
    obtain ⟨_, hst, hen, _⟩ := min_rows (cs := cs) (children_indOK hs) hs.2.1 hs.2.2 hu
    have htimes : ∀ x ∈ compileList ctx path 0 cs, x.2.pr.util = true →
        σ ⟨path, .minStart⟩ ≤ resolveTV σ x.2.pr.start ∧ resolveTV σ x.2.pr.stop ≤ σ ⟨path, .minEnd⟩ :=
      List.forall_mem_map.mp (finishMin_times σ path name _ fun c h =>
        hs.2.2 c (by simp only [compileNode]; exact List.mem_append_right _ h))
    rw [hst, hen]
    simp only [resolveTV]
    refine ⟨?_, within_of_children ctx σ path _ rfl _ _ ih fun x hx =>
      ⟨(hsat x hx).1, (hsat x hx).2, htimes x hx (hsat x hx).1⟩⟩
    -- a `Min` that parses has a child, whose span lies in between
    cases cs with
    | nil => simp [wfNode] at hw
    | cons c cs =>
      have hx : (c.name, compileNode ctx (0 :: path) c) ∈ compileList ctx path 0 (c :: cs) := by
        simp [compileList]
      have := htimes _ hx (hsat _ hx).1
      have := hle _ hx (hsat _ hx).1 (hsat _ hx).2
      omega
  | max name cs =>
    intro _ h1
    obtain ⟨_, hst, hen, hi⟩ := max_pr ctx path name cs
    rw [hst, hen]
    simp only [indVal, hi, resolveTV] at h1 ⊢
    exact max_span (buildErr_max hs.1.1).2 hs.2.1 hs.2.2 h1
  | lt name a b =>
    intro hu h1
    obtain ⟨hua, hub⟩ := finishLt_util (by simpa only [compileNode] using hu)
    obtain ⟨_, hst, hen, hord, _⟩ := lt_rows hs.1.2 hs.2.1 hs.2.2 hua hub
    have hsat := children_sat hs rfl hu h1
    simp only [Expr.children, compileList, List.forall_mem_cons, Nat.zero_add] at hsat
    obtain ⟨⟨_, ha1⟩, ⟨_, hb1⟩, _⟩ := hsat
    simp only [Expr.children, compileList, List.forall_mem_cons, Nat.zero_add] at hle
    have := hle.1 hua ha1
    have := hle.2.1 hub hb1
    rw [hst, hen]
    refine ⟨by omega, within_of_children ctx σ path _ rfl _ _ ih ?_⟩
    simp only [Expr.children, compileList, List.forall_mem_cons, Nat.zero_add]
    exact ⟨⟨hua, ha1, by omega, by omega⟩, ⟨hub, hb1, by omega, by omega⟩, by simp⟩
  | scale name f d c =>
    intro hu h1
    have hsat := children_sat hs rfl hu h1
    have hio := children_indOK hs
    simp only [Expr.children, compileList, List.forall_mem_cons] at hsat hio
    obtain ⟨⟨hcu, hc1⟩, _⟩ := hsat
    obtain ⟨_, hst, hen, _⟩ := finishScale_rows σ hio.1 (by simpa only [compileNode] using hu)
    simp only [Expr.children, compileList, List.forall_mem_cons] at hle
    have := hle.1 hcu hc1
    simp only [compileNode] at hst hen ⊢
    rw [hst, hen]
    refine ⟨this, within_of_children ctx σ path (.scale name f d c) rfl _ _ ih ?_⟩
    simp only [Expr.children, compileList, List.forall_mem_cons]
    exact ⟨⟨hcu, hc1, Int.le_refl _, Int.le_refl _⟩, by simp⟩

theorem node_spanClause (ctx : Ctx) (σ : Assign) (e : Expr) (path : Path)
    (h : (buildErr e = none ∧ wfNode ctx path e = none) ∧ Sound ctx σ path e) : spanClause ctx σ path e := by
  refine ⟨span_of_sound ctx σ e path h, ?_⟩
  cases e with
  | lt name a b =>
    -- both children are satisfied: what they report lies within their spans, which are ordered
    intro hu h1 qa hqa qb hqb
    obtain ⟨hua, hub⟩ := finishLt_util (by simpa only [compileNode] using hu)
    obtain ⟨_, _, _, hord, _⟩ := lt_rows h.2.1.2 h.2.2.1 h.2.2.2 hua hub
    have hsat := children_sat h.2 rfl hu h1
    simp only [Expr.children, compileList, List.forall_mem_cons, Nat.zero_add] at hsat
    obtain ⟨sa, (sb : Span ctx σ (1 :: path) b), _⟩ :=
      ((wf_hereditary ctx).and (sound_hereditary ctx σ)).children (span_of_sound ctx σ) h
    have := (sa hua hsat.1.2).2 qa hqa
    have := (sb hub hsat.2.1.2).2 qb hqb
    omega
  | _ => trivial

theorem node_span (ctx : Ctx) (σ : Assign) :
    ∀ (e : Expr) (path : Path), buildErr e = none → wfNode ctx path e = none →
      noStaticLt ctx path e = true →
      (∀ v ∈ (compileNode ctx path e).vars, Var.holds σ v = true) →
      (∀ c ∈ (compileNode ctx path e).cons, Constr.holds σ c = true) →
      forallNodes (spanClause ctx σ) path e :=
  fun e path hb hw hn hv hc =>
    forallNodes_of_hereditary ((wf_hereditary ctx).and (sound_hereditary ctx σ))
      (fun p c => node_spanClause ctx σ c p) e path ⟨⟨hb, hw⟩, ⟨hb, hn⟩, hv, hc⟩

end ErdosVerif.Strl
