import ErdosVerif.Lemmas.SimWalk
import Std.Data.String.ToNat
/-!
Run-level census of the simulator model: `Census` holds wherever a handler or the loop of `simulate()` can be,
`CensusW` wherever the run can stop (`Census.closed`), hence `simulate_census` by `Lemmas/SimWalk.lean`.

No step of `Lemmas/SimAct.lean` ends where the census is broken between two writes, so each is kept by one lemma
about states: the counter and the row of a TASK_CANCEL event (`census_cancel`; a raise between the two leaves
`CensusW`, `censusW_bump`); the `.finish` entry, `finishedTasks + 1` and the rows and increments of `finishOut`
(`Census.finish`); the SIMULATOR_END row, written from the counters of the state before it (`census_end`). Every
other step writes a row no counter tracks, history entries other than `.finish` (`Census.logs`), or nothing the
census reads.
-/
set_option mvcgen.warning false

namespace ErdosVerif.Model.Sim

theorem Census.logs {s s' : SimS} (h : Census s) (es : List LogE) (hes : ∀ e ∈ es, isFinishLog e = false)
    (hl : s'.log = es.foldl Array.push s.log := by rfl) (hr : s'.rows = s.rows := by rfl)
    (h1 : s'.finishedTasks = s.finishedTasks := by rfl) (h2 : s'.cancelledTasks = s.cancelledTasks := by rfl)
    (h3 : s'.missedTaskDeadlines = s.missedTaskDeadlines := by rfl)
    (h4 : s'.finishedGraphs = s.finishedGraphs := by rfl)
    (h5 : s'.missedGraphDeadlines = s.missedGraphDeadlines := by rfl) : Census s' := by
  induction es generalizing s with
  | nil => exact h.congr hr hl h1 h2 h3 h4 h5
  | cons e es ih =>
    exact ih (Census.log s e h (hes e (List.mem_cons_self ..))) (fun x hx => hes x (List.mem_cons_of_mem _ hx))
      hl hr h1 h2 h3 h4 h5

theorem istr_eq_zero (n : Int) : istr n = "0" ↔ n = 0 := by
  unfold istr
  constructor
  · intro h
    cases n with
    | ofNat m =>
      have : toString (Int.ofNat m) = Nat.repr m := rfl
      rw [this] at h
      have := Nat.repr_injective (show Nat.repr m = Nat.repr 0 from h)
      simp [this]
    | negSucc m =>
      exfalso
      have : toString (Int.negSucc m) = "-" ++ Nat.repr (m + 1) := rfl
      rw [this] at h
      have h' := congrArg String.toList h
      simp at h'
  · rintro rfl; rfl

theorem istr_ne_zero (n : Int) : (istr n != "0") = !decide (n = 0) := by
  by_cases hn : n = 0 <;> simp [hn, istr_eq_zero]

theorem countP_ite {α} (p : α → Bool) (c : Prop) [Decidable c] (l : List α) :
    (if c then l else []).countP p = if c then l.countP p else 0 := by
  split <;> rfl

theorem endRows_append (rows pend : List Row) (h : EndRowsOK rows) (hp : ∀ r ∈ pend, rowKind r ≠ "SIMULATOR_END") :
    EndRowsOK (rows ++ pend) := by
  induction pend generalizing rows with
  | nil => simpa using h
  | cons r pend ih =>
    have := ih (rows ++ [r]) (endRows_push rows r h (endRowOK_of_not_end _ _ (hp r (List.mem_cons_self ..))))
      (fun x hx => hp x (List.mem_cons_of_mem _ hx))
    simpa using this

theorem Census.finish {s s1 : SimS} {x : TaskS} {gr : GraphS} {t : TaskId} {time : Int} {e : LogE} (h : Census s)
    (hl : s1.log = (s.log.push e).push (.finish t time) := by rfl) (he : isFinishLog e = false := by rfl)
    (hr : s1.rows = s.rows := by rfl) (h1 : s1.finishedTasks = s.finishedTasks + 1 := by rfl)
    (h2 : s1.cancelledTasks = s.cancelledTasks := by rfl)
    (h3 : s1.missedTaskDeadlines = s.missedTaskDeadlines := by rfl)
    (h4 : s1.finishedGraphs = s.finishedGraphs := by rfl)
    (h5 : s1.missedGraphDeadlines = s.missedGraphDeadlines := by rfl) : Census (finishRowsOf s1 x gr t time) := by
  obtain ⟨a, b, c, d, e', f, g, i⟩ := h
  have hrows (l : List Row) : (l.foldl Array.push s1.rows).toList = s.rows.toList ++ l := by simp [hr]
  refine ⟨?_, ?finLog, ?_, ?_, ?_, ?_, ?_, ?ends⟩
  case finLog =>
    show s1.finishedTasks = s1.log.toList.countP isFinishLog
    have hf : isFinishLog (.finish t time) = true := rfl
    rw [h1, hl, b]
    simp [List.countP_append, he, hf]
  case ends =>
    show EndRowsOK (List.foldl Array.push s1.rows _).toList
    rw [hrows]
    refine endRows_append _ _ i fun r hr => ?_
    simp [finishOut] at hr
    rcases hr with rfl | ⟨-, rfl⟩ | ⟨-, rfl⟩ | ⟨-, rfl⟩ <;> simp [rowKind]
  -- each count over the (at most four) new rows is an `if` on the condition under which its row is written
  all_goals
    simp only [hrows, h1, h2, h3, h4, h5]
    generalize s.rows.toList = R at *
    simp [finishOut, countRows, countP_ite, List.countP_append, List.countP_cons, rowKind, lateGraphRow,
      istr_ne_zero] at *
    grind

theorem census_cancel {s : SimS} (h : Census s) (r : Row) (hr : rowKind r = "TASK_CANCEL") :
    Census { s with cancelledTasks := s.cancelledTasks + 1, rows := s.rows.push r } :=
  Census.push s r 1 h (by rw [hr]; decide) (by rw [hr]; decide) (by rw [hr]; decide) (by rw [hr]; decide)
    (by simp [countRows_single, hr]) (endRowOK_of_not_end _ _ (by rw [hr]; decide))

theorem censusW_bump (s : SimS) (h : Census s) : CensusW { s with cancelledTasks := s.cancelledTasks + 1 } := by
  obtain ⟨a, b, c, d, e, f, g, i⟩ := h
  exact ⟨a, b, .inr (by simp [c]), d, e, f, g, i⟩

theorem census_end (s : SimS) (time cg : String) (h : Census s) :
    Census { s with rows := s.rows.push [time, "SIMULATOR_END", nstr s.finishedTasks, nstr s.cancelledTasks,
      nstr s.missedTaskDeadlines, nstr s.finishedGraphs, cg, nstr s.missedGraphDeadlines] } := by
  refine Census.push s _ 0 h (by simp [rowKind]) (by simp [rowKind]) (by simp [rowKind]) (by simp [rowKind])
    (by simp [countRows_single, rowKind]) (fun _ => ⟨time, cg, ?_⟩)
  rw [← h.fin, ← h.can, ← h.mis, ← h.gra, ← h.misG]

theorem Census.closed : ClosedTick (fun _ s => Census s) CensusW where
  weak h := h.weak
  abort a h := by
    cases a with
    | cancelGraph | cancelPlaced | notifyGraph => exact h.congr.weak
    | payCancel => exact (h.logs [.cancel _ _] (by simp [isFinishLog])).weak
    | countCancel => exact censusW_bump _ h
    | placedNoStrategy | placedNoDraw | placedNoStart => exact (h.logs [.place _ _ _] (by simp [isFinishLog])).weak
    | placedStarted => exact (h.logs [.place _ _ _, .start _ _ _ _] (by simp [isFinishLog])).weak
    | removedNoFinish => exact (h.logs [.remove _ _ _] (by simp [isFinishLog])).weak
  act a h := by
    cases a with
    | done | perm | repend => exact h
    | call | mk | mkCached | retry | mkSched | add | edit | unqueue | uncache | draw | followUp | follow | load | pool
    | cancelGraph | cancelPlaced | notifyGraph | schedStart | schedRun | schedDone => exact h.congr
    | row r hr => exact Census.row _ r h hr
    | pop => exact Census.log _ _ h rfl
    | log e he => exact Census.log _ e h (isFinishLog_of_routine he)
    | simEnd _ _ _ time cg => exact (census_end _ time cg h).congr
    | place | placeNow => exact h.logs [.place _ _ _, .start _ _ _ _] (by simp [isFinishLog])
    | payCancel => exact h.logs [.cancel _ _] (by simp [isFinishLog])
    | finish => exact h.finish
    | countCancel _ r _ _ hr => exact census_cancel h r hr
  tick a h := by
    cases a with
    | stepTask | mkDue | take => exact h.congr
    | clock => exact h.logs [.clock _] (by simp [isFinishLog])

/-- From an initial state whose counters agree with its (usually
empty) history, for every world, scheduler (decision tape), draw tape and number of loop
iterations:
* when `simulate` returns normally (the SIMULATOR_END event was handled) the final state
  satisfies `Census` and its last row is the SIMULATOR_END row carrying the counters;
* when it stops with an exception (including the model's fuel bound) the final state
  satisfies `CensusW`. -/
theorem simulate_census (s0 : SimS) (fuel : Nat) (h : Census s0) :
    CensusW (simulate s0 fuel).2 ∧
    ((simulate s0 fuel).1 = none → Census (simulate s0 fuel).2 ∧ EndLast (simulate s0 fuel).2) :=
  (simulate_closed Census.closed s0 fuel h).symm

theorem census_initial (s0 : SimS) (hr : s0.rows = #[]) (hl : s0.log = #[]) (h1 : s0.finishedTasks = 0)
    (h2 : s0.cancelledTasks = 0) (h3 : s0.missedTaskDeadlines = 0) (h4 : s0.finishedGraphs = 0)
    (h5 : s0.missedGraphDeadlines = 0) : Census s0 := by
  refine ⟨?_, ?_, ?_, ?_, ?_, ?_, ?_, ?_⟩ <;> simp [hr, hl, h1, h2, h3, h4, h5, countRows, endRows_nil]

theorem setTask_c (t : TaskId) (x : TaskS) : KeepsC (setTask t x) := by
  mvcgen [setTask, getGraph, setGraph]
  exact ‹Census _›.congr

end ErdosVerif.Model.Sim
