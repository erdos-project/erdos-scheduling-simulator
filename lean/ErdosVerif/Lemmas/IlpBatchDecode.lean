/-
Facts about `decodeB`: the merge loop of `schedule()` that turns the Placements of the
BatchTasks into one decision per member task (`mergeOne`, `task_placement_map`).
-/
import ErdosVerif.Lemmas.IlpBatchSat
import ErdosVerif.Lemmas.MergeLoop
namespace ErdosVerif.IlpBatch
open ErdosVerif.Ilp ErdosVerif.MergeLoop

/-- `mergeOne` rewrites every entry of the task, the merge loop its first: the same on the lists
without repeated tasks that the loop produces. -/
theorem mergeOne_eq {acc : List BDecision} (d : BDecision) (hn : (acc.map BDecision.task).Nodup) :
    mergeOne acc d = upsertBy BDecision.task (fun e => e.placed.isSome) acc d := by
  induction acc with
  | nil => rfl
  | cons a as ih =>
    obtain ⟨ha, hn⟩ := List.nodup_cons.mp hn
    by_cases he : a.task = d.task
    · have hid : as.map (fun x => if x.task = d.task then d else x) = as :=
        (List.map_congr_left fun x hx => by
          have : x.task ≠ d.task := fun e => ha (he ▸ e ▸ List.mem_map_of_mem hx)
          simp [this]).trans (List.map_id _)
      cases hp : a.placed.isSome <;> simp [mergeOne, upsertBy, he, hp, hid]
    · have hb : (a.task == d.task) = false := by simpa using he
      rw [show upsertBy BDecision.task (fun e => e.placed.isSome) (a :: as) d =
        a :: upsertBy BDecision.task (fun e => e.placed.isSome) as d by simp [upsertBy, he], ← ih hn]
      unfold mergeOne
      rw [List.find?_cons, hb]
      cases as.find? (fun e => e.task == d.task) with
      | none => rfl
      | some e => cases hp : e.placed.isSome <;> simp [he, hp]

/-- The Placements of all BatchTasks, before the merge. -/
def BInst.rawPlacements (I : BInst) (σ : Var → Int) : List BDecision :=
  I.nonRunning.flatMap (I.placementsOf σ)

theorem decodeB_eq (I : BInst) (σ : Var → Int) :
    decodeB I σ = mergeBy BDecision.task (fun e => e.placed.isSome) (I.rawPlacements σ) := by
  suffices ∀ (L acc : List BDecision), (acc.map BDecision.task).Nodup →
      L.foldl mergeOne acc = L.foldl (upsertBy BDecision.task fun e => e.placed.isSome) acc from
    this _ [] (by simp)
  intro L
  induction L with
  | nil => intros; rfl
  | cons x xs ih =>
    intro acc hn
    simp only [List.foldl_cons, mergeOne_eq x hn]
    exact ih _ (upsertBy_nodup x hn)

theorem mem_rawPlacements {I : BInst} {σ : Var → Int} {e : BDecision} :
    e ∈ I.rawPlacements σ ↔ ∃ b ∈ I.nonRunning, ∃ m ∈ I.members b,
      e = ⟨m, (I.chosen σ b).map (fun w => (b, w, σ (.start b)))⟩ := by
  simp only [BInst.rawPlacements, List.mem_flatMap, BInst.placementsOf, List.mem_map]
  constructor
  · rintro ⟨b, hb, m, hm, rfl⟩; exact ⟨b, hb, m, hm, rfl⟩
  · rintro ⟨b, hb, m, hm, rfl⟩; exact ⟨b, hb, m, hm, rfl⟩

theorem decision_from_batch {I : BInst} {σ : Var → Int} {d : BDecision} (h : d ∈ decodeB I σ) :
    ∃ b ∈ I.nonRunning, d.task ∈ I.members b ∧
      d.placed = (I.chosen σ b).map (fun w => (b, w, σ (.start b))) := by
  rw [decodeB_eq] at h
  obtain ⟨b, hb, m, hm, rfl⟩ := mem_rawPlacements.mp (mem_mergeBy h)
  exact ⟨b, hb, hm, rfl⟩

theorem placed_decision_spec {I : BInst} {σ : Var → Int} {d : BDecision} (h : d ∈ decodeB I σ)
    {b w : Nat} {time : Int} (hp : d.placed = some (b, w, time)) :
    b ∈ I.nonRunning ∧ d.task ∈ I.members b ∧ I.chosen σ b = some w ∧ time = σ (.start b) := by
  obtain ⟨b', hb', hm, hpl⟩ := decision_from_batch h
  rw [hp] at hpl
  cases hc : I.chosen σ b' with
  | none => rw [hc] at hpl; cases hpl
  | some w' =>
    rw [hc] at hpl
    simp only [Option.map_some, Option.some.injEq, Prod.mk.injEq] at hpl
    obtain ⟨rfl, rfl, rfl⟩ := hpl
    exact ⟨hb', hm, hc, rfl⟩

theorem same_batch_agree {I : BInst} {σ : Var → Int} {d1 d2 : BDecision} (h1 : d1 ∈ decodeB I σ)
    (h2 : d2 ∈ decodeB I σ) {b w1 w2 : Nat} {t1 t2 : Int} (hp1 : d1.placed = some (b, w1, t1))
    (hp2 : d2.placed = some (b, w2, t2)) : w1 = w2 ∧ t1 = t2 := by
  have s1 := placed_decision_spec h1 hp1
  have s2 := placed_decision_spec h2 hp2
  rw [s1.2.2.1] at s2
  exact ⟨by simpa using s2.2.2.1, by rw [s1.2.2.2, s2.2.2.2]⟩

end ErdosVerif.IlpBatch
