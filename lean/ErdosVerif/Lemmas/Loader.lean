/-
Helper lemmas for C19: `instantiate` / `generateOne` (structure-preserving
fresh copy of a job graph) and what `loadJobs` copies from the description.
-/
import ErdosVerif.Model.Loader

namespace ErdosVerif.Loader

theorem instantiate_ids (jg : JobGraph) (nm : String) (ts rel dl : Int) (fid : Nat) :
    (instantiate jg nm ts rel dl fid).tasks.map (·.id) = List.range' fid jg.jobs.length := by
  simp [instantiate, List.range'_eq_map_range]

theorem instantiate_deadline (jg : JobGraph) (nm : String) (ts rel dl : Int) (fid : Nat) :
    ∀ t ∈ (instantiate jg nm ts rel dl fid).tasks, t.deadline = dl := by
  intro t ht
  simp only [instantiate, List.mem_map] at ht
  obtain ⟨i, _, rfl⟩ := ht
  rfl

/-- What a successful `_generate_task_graph` returns. -/
theorem generateOne_spec (insts : List ProfileInst) (f : Flags) (jg : JobGraph) (idx rel : Int)
    (gs gs' : GenState) (tg : TaskGraph)
    (h : generateOne insts f jg idx rel gs = .ok (gs', tg)) :
    ∃ T, completionTime insts jg = .ok T ∧
      tg = instantiate jg s!"{jg.name}@{idx}" idx rel
            (Release.deadline rel T jg.variance.1 jg.variance.2 f.minDeadline f.maxDeadline
              ((gs.tape.drop 1).headD 0)) gs.nextId ∧
      gs'.nextId = gs.nextId + jg.jobs.length ∧ gs'.tape = gs.tape.drop 2 := by
  unfold generateOne at h
  cases hT : completionTime insts jg with
  | error e => simp [hT, bind, Except.bind] at h
  | ok T =>
    simp only [hT, bind, Except.bind] at h
    split at h
    · simp at h
    · simp only [pure, Except.pure, Except.ok.injEq, Prod.mk.injEq] at h
      obtain ⟨h1, h2⟩ := h
      refine ⟨T, rfl, h2.symm, ?_, ?_⟩ <;> simp [← h1]

/-- Pass 1 of `load_job_graph` appends one job per node, in order. Every field but the profile
index is a function `ψ` of the node alone, so any such field `φ` of the jobs can be read off the
nodes. -/
theorem loadJobs_map {β : Type} (φ : Job → β) (ψ : NodeD → β) (origNames : List String)
    (pmap : List Nat) (nodes : List NodeD) (slo : Int) (st st' : LState) (acc jobs : List Job)
    (hφ : ∀ nd p, φ { name := nd.name, profile := p, slo := jobSlo slo nd, cond := nd.cond,
                      term := nd.term, prob := nd.prob.getD 1000 } = ψ nd)
    (h : loadJobs origNames pmap nodes slo st acc = .ok (st', jobs)) :
    jobs.map φ = acc.map φ ++ nodes.map ψ := by
  induction nodes generalizing st acc with
  | nil =>
    simp only [loadJobs, Except.ok.injEq, Prod.mk.injEq] at h
    obtain ⟨_, rfl⟩ := h
    simp
  | cons nd nds ih =>
    unfold loadJobs at h
    cases hr : resolveProfile origNames pmap nd st with
    | error e => simp [hr] at h
    | ok v =>
      obtain ⟨st1, pidx⟩ := v
      simp only [hr] at h
      rw [ih st1 _ h]
      simp [hφ]

/-- The loop of `generate_task_graphs`: one task graph per release, in order,
each a fresh copy released at its release time. -/
theorem generateList_spec (insts : List ProfileInst) (f : Flags) (jg : JobGraph)
    (rel : List Int) (i : Nat) (gs gs' : GenState) (tgs : List TaskGraph)
    (h : generateList insts f jg i rel gs = .ok (gs', tgs)) :
    tgs.length = rel.length ∧
    ∀ k, k < rel.length → ∃ dl fid,
      tgs[k]? = some (instantiate jg s!"{jg.name}@{((i + k : Nat) : Int)}" ((i + k : Nat) : Int) (rel.getD k 0) dl fid) := by
  induction rel generalizing i gs gs' tgs with
  | nil =>
    simp only [generateList, Except.ok.injEq, Prod.mk.injEq] at h
    obtain ⟨_, rfl⟩ := h
    simp
  | cons r rs ih =>
    unfold generateList at h
    simp only [Int.ofNat_eq_natCast] at h
    cases h1 : generateOne insts f jg (i : Int) r gs with
    | error e => simp [h1] at h
    | ok v =>
      obtain ⟨g1, tg⟩ := v
      simp only [h1] at h
      cases h2 : generateList insts f jg (i + 1) rs g1 with
      | error e => simp [h2] at h
      | ok w =>
        obtain ⟨g2, rest⟩ := w
        simp only [h2, Except.ok.injEq, Prod.mk.injEq] at h
        obtain ⟨_, rfl⟩ := h
        obtain ⟨hl, hk⟩ := ih (i + 1) g1 g2 rest h2
        obtain ⟨T, _, e, _, _⟩ := generateOne_spec insts f jg (i : Int) r gs g1 tg h1
        refine ⟨by simp [hl], ?_⟩
        intro k hklt
        cases k with
        | zero => subst e; exact ⟨_, _, rfl⟩
        | succ k =>
          obtain ⟨dl, fid, hh⟩ := hk k (by simp at hklt; omega)
          refine ⟨dl, fid, ?_⟩
          have : i + 1 + k = i + (k + 1) := by omega
          simpa [this] using hh

end ErdosVerif.Loader
