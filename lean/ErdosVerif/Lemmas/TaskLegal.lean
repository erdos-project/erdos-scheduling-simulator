import ErdosVerif.Model.Task
import ErdosVerif.Gen.Tables
/-!
The task life cycle as a relation, and the proof that every `Task` API call is
either refused (state unchanged) or takes a legal step.
-/
namespace ErdosVerif.Model

/-- The legal life-cycle steps of property C06 (plus the preemption / eviction
steps the class also implements). -/
def Legal : TState → TState → Bool
  | .virtual, .released => true
  | .released, .scheduled => true
  | .virtual, .scheduled => true            -- scheduled ahead of its release
  | .scheduled, .running => true
  | .running, .completed => true
  | .scheduled, .virtual => true            -- plan skipped / retracted: back to the earlier state
  | .scheduled, .released => true
  | .virtual, .cancelled => true
  | .released, .cancelled => true
  | .scheduled, .cancelled => true
  | .running, .preempted => true
  | .preempted, .scheduled => true
  | .running, .evicted => true
  | .preempted, .evicted => true
  | .preempted, .completed => true
  | _, _ => false

/-- `_pre_scheduling_state` is only ever VIRTUAL or RELEASED. -/
def TaskS.PreOK (t : TaskS) : Prop := t.pre = .virtual ∨ t.pre = .released

def StepOK (a b : TState) : Prop := a = b ∨ Legal a b = true

theorem updateRemaining_fields (t : TaskS) (r : Int) :
    (t.updateRemaining r).1.state = t.state ∧ (t.updateRemaining r).1.release = t.release ∧
    (t.updateRemaining r).1.start = t.start ∧ (t.updateRemaining r).1.terminal = t.terminal ∧
    (t.updateRemaining r).1.pre = t.pre := by
  unfold TaskS.updateRemaining; split
  · exact ⟨rfl, rfl, rfl, rfl, rfl⟩
  · split <;> exact ⟨rfl, rfl, rfl, rfl, rfl⟩

theorem TaskS.doStep_cases (t : TaskS) (now dt : Int) :
    ((t.state ≠ .running ∨ now + dt < t.start ∨ t.remaining = none ∨ t.remaining = some 0) ∧
      t.doStep now dt = (t, false)) ∨
    ∃ r, t.state = .running ∧ t.start ≤ now + dt ∧ t.remaining = some r ∧ r ≠ 0 ∧
      ((r - (now + dt - t.lastStep) ≤ 0 ∧
          t.doStep now dt = ({ t with lastStep := now + r, remaining := some 0 }, true)) ∨
       (¬ r - (now + dt - t.lastStep) ≤ 0 ∧ t.doStep now dt =
          ({ t with lastStep := now + dt, remaining := some (r - (now + dt - t.lastStep)) }, false))) := by
  unfold TaskS.doStep
  split
  · rename_i h
    refine .inl ⟨?_, rfl⟩
    simp only [Bool.or_eq_true, bne_iff_ne, decide_eq_true_eq] at h
    exact h.imp id fun h => .inl h
  · rename_i h
    simp only [Bool.or_eq_true, bne_iff_ne, decide_eq_true_eq, not_or, Decidable.not_not, Int.not_lt] at h
    split
    · exact .inl ⟨.inr (.inr (.inl ‹_›)), rfl⟩
    · rename_i r hr
      split
      · rename_i hz; exact .inl ⟨.inr (.inr (.inr (by rw [hr, eq_of_beq hz]))), rfl⟩
      · rename_i hz
        refine .inr ⟨r, h.1, by omega, hr, fun e => hz (by rw [e]; rfl), ?_⟩
        dsimp only
        split
        · exact .inl ⟨‹_›, rfl⟩
        · exact .inr ⟨‹_›, rfl⟩

theorem TaskS.doStep_running (t : TaskS) (now dt r : Int) (hs : t.state = .running) (hst : t.start ≤ now + dt)
    (hr : t.remaining = some r) :
    t.doStep now dt =
      if r = 0 then (t, false)
      else if r - (now + dt - t.lastStep) ≤ 0 then ({ t with lastStep := now + r, remaining := some 0 }, true)
      else ({ t with lastStep := now + dt, remaining := some (r - (now + dt - t.lastStep)) }, false) := by
  have h1 : ¬ (t.start > now + dt) := by omega
  simp [TaskS.doStep, hs, hr, h1]

/-- `Task.start`, by outcome: refused (not SCHEDULED, or no remaining time to fuzz); the start time assigned and the
assertion `start ≥ release` failed; RUNNING with `update_remaining_time` refusing a negative draw; RUNNING. -/
theorem TaskS.doStart_cases (t : TaskS) (time fuzzed : Int) :
    ((t.doStart time fuzzed).1 = t ∧ (t.doStart time fuzzed).2 ≠ none) ∨
    (t.state = .scheduled ∧
      ((time < t.release ∧ t.doStart time fuzzed = ({ t with start := time }, some .assertionError)) ∨
       (t.release ≤ time ∧ fuzzed < 0 ∧ t.doStart time fuzzed =
          ({ t with start := time, lastStep := time, state := .running }, some .valueError)) ∨
       (t.release ≤ time ∧ 0 ≤ fuzzed ∧ t.doStart time fuzzed =
          ({ t with start := time, lastStep := time, state := .running, remaining := some fuzzed }, none)))) := by
  unfold TaskS.doStart
  split
  · exact .inl ⟨rfl, nofun⟩
  · next hst =>
    have hs : t.state = .scheduled := by simpa using hst
    split
    · exact .inl ⟨rfl, nofun⟩
    · dsimp only
      split
      · exact .inr ⟨hs, .inl ⟨‹_›, rfl⟩⟩
      · next hge =>
        refine .inr ⟨hs, .inr ?_⟩
        simp only [TaskS.updateRemaining, TaskS.isComplete]
        by_cases hf : fuzzed < 0
        · exact .inl ⟨Int.not_lt.mp hge, hf, by simp [hf]⟩
        · exact .inr ⟨Int.not_lt.mp hge, Int.not_lt.mp hf, by simp [hf]⟩

theorem TaskS.doSchedule_ok {t t' : TaskS} {time : Int} {p : PlacementS} :
    t.doSchedule time p = (t', none) ↔
      ∃ s, p.strat = some s ∧ 0 ≤ s.runtime ∧
        (t.state = .virtual ∨ t.state = .released ∨ t.state = .preempted ∨ t.state = .scheduled) ∧
        { t with state := .scheduled, schedTime := some time, placement := some p, pool := p.pool,
                 remaining := some s.runtime } = t' := by
  unfold TaskS.doSchedule TaskS.updateRemaining
  cases hs : t.state <;> rcases hp : p.strat with _ | s <;> simp [TaskS.isComplete]
  all_goals by_cases hr : s.runtime < 0 <;> simp [hr] <;> omega

theorem val_lt_released (s : TState) (h : s.val < TState.released.val) : s = .virtual := by
  cases s <;> simp [TState.val] at h ⊢

/-- The states a call can move a task into (`step` and `update_remaining_time` move it nowhere;
`unschedule` restores the pre-scheduling state). -/
def TaskCall.target : TaskCall → TState → Bool
  | .release _, s => s == .released
  | .schedule .., s => s == .scheduled
  | .unschedule, s => s == .virtual || s == .released
  | .start .., s => s == .running
  | .finish _, s => s == .completed || s == .evicted
  | .cancel _, s => s == .cancelled
  | .preempt, s => s == .preempted
  | _, _ => false

/-- Life cycle: a call keeps `_pre_scheduling_state ∈ {VIRTUAL, RELEASED}`
and is refused (state unchanged) or takes a legal step into one of its own target states.
Frame: it never changes the terminal flag; a benign call leaves the start time alone; only
`release` assigns the release time, and leaves the task RELEASED, SCHEDULED or PREEMPTED. -/
theorem call_spec (t : TaskS) (c : TaskCall) :
    (t.PreOK → (t.call c).1.PreOK ∧
      (t.state = (t.call c).1.state ∨
        (Legal t.state (t.call c).1.state = true ∧ c.target (t.call c).1.state = true))) ∧
    (t.call c).1.terminal = t.terminal ∧ (c.isBenign = true → (t.call c).1.start = t.start) ∧
    ((t.call c).1.release = t.release ∨ (t.call c).1.state = .released ∨
      (t.call c).1.state = .scheduled ∨ (t.call c).1.state = .preempted) := by
  -- a refused call returns the task as it was
  have refused : ∀ c : TaskCall,
      (t.PreOK → t.PreOK ∧ (t.state = t.state ∨ (Legal t.state t.state = true ∧ c.target t.state = true))) ∧
      t.terminal = t.terminal ∧ (c.isBenign = true → t.start = t.start) ∧
      (t.release = t.release ∨ t.state = .released ∨ t.state = .scheduled ∨ t.state = .preempted) :=
    fun _ => ⟨fun h => ⟨h, .inl rfl⟩, rfl, fun _ => rfl, .inl rfl⟩
  cases c with
  | release time =>
    simp only [TaskS.call, TaskS.doRelease]
    split
    · exact refused _
    · split
      · exact refused _
      · next hst =>
        -- a VIRTUAL task becomes RELEASED (recorded as the pre-scheduling state), the others stay
        have hrel : t.state.val < TState.released.val → Legal t.state .released = true :=
          fun hlt => by rw [val_lt_released _ hlt]; rfl
        have hs : ¬ t.state.val < TState.released.val →
            t.state = .scheduled ∨ t.state = .preempted := fun hge => by
          cases hs : t.state <;> simp [hs, TState.val] at hst hge ⊢
        cases time <;> simp only [] <;> split
        · next hlt => exact ⟨fun _ => ⟨.inr rfl, .inr ⟨hrel hlt, rfl⟩⟩, rfl, fun _ => rfl, .inr (.inl rfl)⟩
        · exact refused _
        · next hlt => exact ⟨fun _ => ⟨.inr rfl, .inr ⟨hrel hlt, rfl⟩⟩, rfl, fun _ => rfl, .inr (.inl rfl)⟩
        · next hge => exact ⟨fun h => ⟨h, .inl rfl⟩, rfl, fun _ => rfl, .inr (.inr (hs hge))⟩
  | schedule time p =>
    simp only [TaskS.call, TaskS.doSchedule]
    split
    · exact refused _
    · next hst =>
      have hstep : t.state = .scheduled ∨
          (Legal t.state .scheduled = true ∧ (TaskCall.schedule time p).target .scheduled = true) := by
        cases hs : t.state <;> simp [hs] at hst <;> first | exact .inl rfl | exact .inr ⟨rfl, rfl⟩
      cases p.strat with
      | none => exact ⟨fun h => ⟨h, hstep⟩, rfl, fun _ => rfl, .inl rfl⟩
      | some s =>
        obtain ⟨f1, f2, f3, f4, f5⟩ := updateRemaining_fields
          { t with state := .scheduled, schedTime := some time, placement := some p, pool := p.pool }
          s.runtime
        simp only [TaskS.PreOK, f1, f5]
        exact ⟨fun h => ⟨h, hstep⟩, f4, fun _ => f3, .inl f2⟩
  | unschedule =>
    simp only [TaskS.call, TaskS.doUnschedule]
    split
    · exact refused _
    · next hst =>
      have hs : t.state = .scheduled := by simpa using hst
      refine ⟨fun h => ⟨h, .inr ?_⟩, rfl, fun _ => rfl, .inl rfl⟩
      simp only [hs]
      rcases h with h | h <;> rw [h] <;> exact ⟨rfl, rfl⟩
  | start time fuzzed =>
    have hb : (TaskCall.start time fuzzed).isBenign = true → ∀ x : Int, x = t.start :=
      fun hb => by simp [TaskCall.isBenign] at hb
    simp only [TaskS.call]
    rcases TaskS.doStart_cases t time fuzzed with ⟨e, _⟩ | ⟨hs, ⟨_, e⟩ | ⟨_, _, e⟩ | ⟨_, _, e⟩⟩
    · rw [e]; exact refused _
    · rw [e]; exact ⟨fun h => ⟨h, .inl rfl⟩, rfl, fun h => hb h _, .inl rfl⟩
    all_goals rw [e, hs]; exact ⟨fun h => ⟨h, .inr ⟨rfl, rfl⟩⟩, rfl, fun h => hb h _, .inl rfl⟩
  | step now dt =>
    rcases TaskS.doStep_cases t now dt with ⟨_, e⟩ | ⟨r, _, _, _, _, ⟨_, e⟩ | ⟨_, e⟩⟩ <;>
      (simp only [TaskS.call]; rw [e]; exact ⟨fun h => ⟨h, .inl rfl⟩, rfl, fun _ => rfl, .inl rfl⟩)
  | finish time =>
    simp only [TaskS.call, TaskS.doFinish]
    split
    · exact refused _
    · next hst =>
      refine ⟨fun h => ⟨h, .inr ?_⟩, rfl, fun _ => rfl, .inl rfl⟩
      simp only []
      cases hs : t.state <;> simp [hs] at hst <;> split <;> exact ⟨rfl, rfl⟩
  | cancel time =>
    simp only [TaskS.call, TaskS.doCancel]
    split
    · exact refused _
    · next hst =>
      refine ⟨fun h => ⟨h, .inr ?_⟩, rfl, fun _ => rfl, .inl rfl⟩
      simp only []
      cases hs : t.state <;> simp [hs] at hst <;> exact ⟨rfl, rfl⟩
  | preempt =>
    simp only [TaskS.call, TaskS.doPreempt]
    split
    · exact refused _
    · next hst =>
      have hs : t.state = .running := by simpa using hst
      exact ⟨fun h => ⟨h, .inr (by rw [hs]; exact ⟨rfl, rfl⟩)⟩, rfl, fun _ => rfl, .inl rfl⟩
  | updateRemaining r =>
    obtain ⟨f1, f2, f3, f4, f5⟩ := updateRemaining_fields t r
    exact ⟨fun h => ⟨by simpa [TaskS.call, TaskS.PreOK, f5] using h, .inl (by simp [TaskS.call, f1])⟩,
      f4, fun _ => f3, .inl f2⟩

theorem call_ok (t : TaskS) (c : TaskCall) (h : t.PreOK) :
    (t.call c).1.PreOK ∧
    (t.state = (t.call c).1.state ∨
      (Legal t.state (t.call c).1.state = true ∧ c.target (t.call c).1.state = true)) :=
  (call_spec t c).1 h

theorem call_frame (t : TaskS) (c : TaskCall) :
    (t.call c).1.terminal = t.terminal ∧ (c.isBenign = true → (t.call c).1.start = t.start) ∧
    ((t.call c).1.release = t.release ∨ (t.call c).1.state = .released ∨
      (t.call c).1.state = .scheduled ∨ (t.call c).1.state = .preempted) :=
  (call_spec t c).2

theorem call_preOK (t : TaskS) (c : TaskCall) (h : t.PreOK) : (t.call c).1.PreOK :=
  (call_ok t c h).1

theorem TaskCall.target_benign {c : TaskCall} {s : TState} (hc : c.isBenign = true)
    (h : c.target s = true) : s ≠ .running ∧ s ≠ .preempted := by
  cases c <;> cases s <;> simp [TaskCall.target, TaskCall.isBenign] at hc h ⊢

theorem call_legal (t : TaskS) (c : TaskCall) (h : t.PreOK) : StepOK t.state (t.call c).1.state :=
  (call_ok t c h).2.imp_right And.left

theorem legal_final {s s' : TState} (h : s = .evicted ∨ s = .completed ∨ s = .cancelled) :
    Legal s s' = false := by
  rcases h with rfl | rfl | rfl <;> cases s' <;> rfl

theorem legal_finished {s s' : TState} (h : Legal s s' = true)
    (hs' : s' = .evicted ∨ s' = .completed) : s = .running ∨ s = .preempted := by
  rcases hs' with rfl | rfl <;> cases s <;> first | exact .inl rfl | exact .inr rfl | cases h

theorem final_states (t : TaskS) (c : TaskCall) (h : t.PreOK)
    (hf : t.state = .completed ∨ t.state = .cancelled) : (t.call c).1.state = t.state := by
  rcases call_legal t c h with e | e
  · exact e.symm
  · rw [legal_final (.inr hf)] at e
    cases e

theorem cancelled_only_before_running (t : TaskS) (c : TaskCall) (h : t.PreOK)
    (hc : (t.call c).1.state = .cancelled) (hne : t.state ≠ .cancelled) :
    t.state = .virtual ∨ t.state = .released ∨ t.state = .scheduled := by
  rcases call_legal t c h with e | e
  · exact absurd (e.trans hc) hne
  · rw [hc] at e
    cases hs : t.state <;> simp [hs, Legal] at e ⊢

/-- The model's state numbering and releasable set are the ones in the source
(`TaskState`, `RELEASABLE_TASK_STATES`, regenerated from /repo on every run). -/
theorem state_table_matches :
    Gen.taskStateTable = [TState.virtual, .released, .scheduled, .running, .preempted, .evicted,
      .completed, .cancelled].map (fun s => (s.name, s.val)) ∧
    Gen.releasableTaskStates = [TState.virtual.name, TState.scheduled.name, TState.preempted.name] :=
  ⟨rfl, rfl⟩

end ErdosVerif.Model
