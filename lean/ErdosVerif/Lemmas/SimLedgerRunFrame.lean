import ErdosVerif.Lemmas.SimWalk
/-!
What the simulator model does to the worker pools: a step of a handler or of the loop (`Act`, `Abort`,
`Tick` of `SimAct`) leaves `s.pools` alone or writes back one pool that it read, after an operation on it
(`PoolsStep`, `Act.pools`, `Abort.pools`, `Tick.pools`). An assertion that says the same of every pool is
therefore kept by the steps as soon as the pool operations keep it of one pool (`forall_mem_set` of `SimAct`).

`PF Q x`: `x` keeps a predicate `Q` of the pool array, when it returns and where it raises.
-/
open Std.Do
set_option mvcgen.warning false

namespace ErdosVerif.Model.Sim

/-- What one step of a handler or of the loop does to the worker pools: nothing, or it writes back one pool that it
read, after an operation on it; for a placement that succeeded, with what was read to decide on it. -/
inductive PoolsStep (s : SimS) : Array Pool → Prop
  | same : PoolsStep s s.pools
  | op (pid : Nat) (p p' : Pool) (hp : s.pools[pid]? = some p) (o : PoolOp p p') :
      PoolsStep s (s.pools.setIfInBounds pid p')
  | place (pid : Nat) (pool : Pool) (t : TaskId) (gr : GraphS) (x : TaskS) (st : Option Strategy) (w : Option Nat)
      (hP : Placed s t pid pool gr x st w) :
      PoolsStep s (s.pools.setIfInBounds pid (pool.placeTask (gid t) x.strategies st w).1)
  | remove (pid : Nat) (pool : Pool) (k : Nat) (hp : s.pools[pid]? = some pool) (hrem : (pool.removeTask k).2 = .ok) :
      PoolsStep s (s.pools.setIfInBounds pid (pool.removeTask k).1)

theorem Act.pools {γ γ' : Ghost} {s s' : SimS} (a : Act γ s γ' s') : PoolsStep s s'.pools := by
  cases a with
  | pool pid p p' hp o => exact .op pid p p' hp o
  | place t _ _ _ pid pool gr x st w _ hP | placeNow t _ _ _ pid pool gr x st w _ _ hP => exact .place pid pool t gr x st w hP
  | finish _ t _ pid pool _ _ _ _ _ _ _ _ _ _ hrem hp => exact .remove pid pool (gid t) hp hrem
  | _ => exact .same

theorem Abort.pools {γ : Ghost} {s s' : SimS} (a : Abort γ s s') : PoolsStep s s'.pools := by
  cases a with
  | placedNoStrategy t _ pid pool gr x st w hP | placedNoDraw t _ _ pid pool gr x st w hP
  | placedNoStart t _ _ _ pid pool gr x st w _ hP | placedStarted t _ _ _ pid pool gr x st w hP =>
    exact .place pid pool t gr x st w hP
  | removedNoFinish _ t _ pid pool _ _ _ _ _ _ _ _ _ _ hrem hp => exact .remove pid pool (gid t) hp hrem
  | _ => exact .same

theorem Tick.pools {γ γ' : Ghost} {s s' : SimS} (a : Tick γ s γ' s') : s'.pools = s.pools := by
  cases a <;> rfl

abbrev PFA (Q : Array Pool → Prop) : Assertion (.except SErr (.arg SimS .pure)) := fun s => ⌜Q s.pools⌝

abbrev PF {α} (Q : Array Pool → Prop) (x : SimM α) : Prop := ⦃PFA Q⦄ x ⦃post⟨fun _ => PFA Q, fun _ => PFA Q⟩⦄

abbrev loopPF {β} (Q : Array Pool → Prop) : PostCond β (.except SErr (.arg SimS .pure)) :=
  post⟨fun _ s => ⌜Q s.pools⌝, fun _ s => ⌜Q s.pools⌝⟩

section
variable (Q : Array Pool → Prop)

theorem popEvent_pf : PF Q popEvent := by
  mvcgen [popEvent]
theorem raiseOutcome_pf (o : Outcome) : PF Q (raiseOutcome o) := by
  unfold raiseOutcome
  cases o with
  | ok => mvcgen
  | raised e => cases e <;> mvcgen
theorem advanceClock_pf (dt : Int) : PF Q (advanceClock dt) := by
  mvcgen [advanceClock]

end
end ErdosVerif.Model.Sim
