/-
C20, capacity: the placements read back by `populate` never use more of a partition at a
time `t` than what was registered in the capacity constraint of the slot that holds `t`.
-/
import ErdosVerif.Lemmas.StrlTree
namespace ErdosVerif.Strl

/-- Contribution of one registration to the slot `(pid, k)`. -/
def regTerm (σ : Assign) (pid k : Nat) (r : Reg) : Int :=
  if r.pid = pid ∧ r.time = k then resolveTV σ r.usage else 0

def regSum (σ : Assign) (pid k : Nat) (regs : List Reg) : Int := sumBy (regTerm σ pid k) regs

theorem regSum_append (σ : Assign) (pid k : Nat) (a b : List Reg) :
    regSum σ pid k (a ++ b) = regSum σ pid k a + regSum σ pid k b := sumBy_append _ _ _

theorem regSum_flatMap {α : Type} (σ : Assign) (pid k : Nat) (g : α → List Reg) (l : List α) :
    regSum σ pid k (l.flatMap g) = sumBy (fun a => regSum σ pid k (g a)) l := sumBy_flatMap _ _ _

@[simp] theorem regSum_nil (σ : Assign) (pid k : Nat) : regSum σ pid k [] = 0 := rfl

def PlNonneg (pl : Placement) : Prop := ∀ a ∈ pl.allocs, 0 ≤ a.2.2

theorem usageAt_nonneg (pl : Placement) (h : PlNonneg pl) (pid : Nat) (t : Int) :
    0 ≤ pl.usageAt pid t := by
  unfold Placement.usageAt
  split
  · exact sumBy_nonneg _ _ fun a ha => by have := h a ha; split <;> omega
  · omega

@[simp] theorem usageAt_nil (pid : Nat) (t : Int) : usageAt [] pid t = 0 := rfl

/-- Merging only drops placements: a sublist of what the children report holds no more than the
children together. -/
theorem usage_le_of_sublist {pls : List Placement} {sols : List Sol}
    (hsub : pls.Sublist (sols.flatMap (·.placements))) (pid : Nat) (t : Int)
    (hs : ∀ s ∈ sols, ∀ q ∈ s.placements, PlNonneg q) :
    (∀ q ∈ pls, PlNonneg q) ∧ usageAt pls pid t ≤ sumBy (fun s => usageAt s.placements pid t) sols := by
  have hall : ∀ q ∈ sols.flatMap (·.placements), PlNonneg q := fun q hq =>
    have ⟨s, hs', hq'⟩ := List.mem_flatMap.mp hq
    hs s hs' q hq'
  refine ⟨fun q hq => hall q (hsub.subset hq), ?_⟩
  have := sumBy_sublist_le (fun pl => pl.usageAt pid t) hsub fun q hq => usageAt_nonneg q (hall q hq) pid t
  rwa [sumBy_flatMap] at this

theorem regTerm_nonneg (σ : Assign) (pid k : Nat) (r : Reg) (h : 0 ≤ resolveTV σ r.usage) :
    0 ≤ regTerm σ pid k r := by
  unfold regTerm; split <;> omega

/-- The registrations of one leaf on one partition: while the leaf runs, the slot that holds
`t` carries its usage. -/
theorem regsFor_term (ctx : Ctx) (σ : Assign) (pid t r : Nat) (hg : 0 < ctx.gran)
    (q : Partition) (start dur : Nat) (usage : TV)
    (hs : start % ctx.gran = r) (hu : 0 ≤ resolveTV σ usage) :
    0 ≤ regSum σ pid (slotKey ctx.gran r t) (regsFor ctx q start dur usage) ∧
    (q.id = pid → start ≤ t ∧ t < start + dur →
      resolveTV σ usage ≤ regSum σ pid (slotKey ctx.gran r t) (regsFor ctx q start dur usage)) := by
  unfold regsFor regSum
  rw [sumBy_map]
  have hnn : ∀ s ∈ slotTimes ctx.gran start dur,
      0 ≤ regTerm σ pid (slotKey ctx.gran r t) ⟨q.id, q.name, q.qty, s, usage⟩ :=
    fun s _ => regTerm_nonneg σ pid _ _ hu
  refine ⟨sumBy_nonneg _ _ hnn, fun hid hw => ?_⟩
  have := sumBy_mem_le _ _ hnn _ (slotKey_mem ctx.gran start dur t r hg hs hw.1 hw.2)
  simpa only [regTerm, hid, true_and, if_true] using this

/-- The entries `(partition id, quantity)` of a leaf that runs during a window `w`, against what
they register: summed up, the usage of `pid` is within the registrations. -/
theorem entries_le {α : Type} (id : α → Nat) (val regs : α → Int) (l : List α) (pid : Nat)
    (w : Prop) [Decidable w] (h : ∀ a ∈ l, 0 ≤ regs a ∧ (id a = pid → w → val a ≤ regs a)) :
    (if w then sumBy (fun a => if id a = pid then val a else 0) l else 0) ≤ sumBy regs l := by
  split
  · rename_i hw
    exact sumBy_le_sumBy _ _ _ fun a ha => by
      split
      · exact (h a ha).2 ‹_› hw
      · exact (h a ha).1
  · exact sumBy_nonneg _ _ fun a ha => (h a ha).1

/-- Reading the allocation variables back drops the zero entries, which count for nothing. -/
theorem sumBy_filterMap_alloc (σ : Assign) (path : Path) (start : Nat) (g : Nat → Int → Int)
    (hg : ∀ i, g i 0 = 0) (sched : List Partition) :
    sumBy (fun a : Nat × Int × Int => g a.1 a.2.2)
      (sched.filterMap (fun q =>
        let x := σ ⟨path, .using q.id⟩
        if x == 0 then none else some (q.id, (start : Int), x)))
    = sumBy (fun q : Partition => g q.id (σ ⟨path, .using q.id⟩)) sched := by
  induction sched with
  | nil => simp
  | cons q l ih =>
    simp only [List.filterMap_cons, sumBy_cons]
    by_cases hx : σ ⟨path, .using q.id⟩ = 0
    · simp only [hx, beq_self_eq_true, if_true, ih, hg, Int.zero_add]
    · have hb : (σ ⟨path, .using q.id⟩ == 0) = false := by simpa using hx
      simp only [hb, Bool.false_eq_true, if_false, sumBy_cons, ih]

/-- The capacity invariant of a subtree: what it reports holds non-negative quantities, and
together with its Allocation leaves no more of `pid` at `t` than it registered for the slot
of `t`. -/
def CapInv (ctx : Ctx) (σ : Assign) (pid t r : Nat) (path : Path) (e : Expr) : Prop :=
  (∀ q ∈ (populateNode ctx σ path e).placements, PlNonneg q) ∧
  usageAt (populateNode ctx σ path e).placements pid t + allocUsageAt pid t e
    ≤ regSum σ pid (slotKey ctx.gran r t) (compileNode ctx path e).regs

theorem choose_inv {ctx : Ctx} {σ : Assign} {pid t r : Nat} (hg : 0 < ctx.gran)
    {path : Path} {name strategy : String} {parts : List Nat} {n start dur : Nat} {u : Int}
    (hs : start % ctx.gran = r)
    (hv : ∀ v ∈ (compileChoose ctx path name strategy parts n start dur u).vars, Var.holds σ v = true) :
    CapInv ctx σ pid t r path (.choose name strategy parts n start dur u) := by
  simp only [CapInv, compileNode, allocUsageAt, Int.add_zero]
  rw [choose_placements]
  rcases compileChoose_cases ctx path name strategy parts n start dur u with h | ⟨_, h⟩
  · simp [h, PR.none]
  obtain ⟨_, _, hq, _⟩ := choose_rows (by rw [h]) hv
  have hreg := fun q hq' =>
    regsFor_term ctx σ pid t r hg q start dur (.var ⟨path, .using q.id⟩) hs (hq q hq').1
  have key := entries_le (fun q : Partition => q.id) (fun q => σ ⟨path, .using q.id⟩) _ (schedulable ctx parts) pid
    ((start : Int) ≤ t ∧ (t : Int) < start + dur) fun q hq' =>
      ⟨(hreg q hq').1, fun hid hw => (hreg q hq').2 hid (by omega)⟩
  simp only [h, regSum_flatMap]
  split
  · refine ⟨fun q hq' a ha => ?_, ?_⟩
    · obtain rfl := List.mem_singleton.mp hq'
      obtain ⟨q, hq', hqa⟩ := List.mem_filterMap.mp ha
      have := (hq q hq').1
      split at hqa
      · cases hqa
      · cases hqa; exact this
    · simpa only [usageAt, Placement.usageAt, sumBy_cons, sumBy_nil, Int.add_zero,
        sumBy_filterMap_alloc σ path start (fun i x => if i = pid then x else 0) (by simp)] using key
  · exact ⟨by simp, sumBy_nonneg _ _ fun q hq' => (hreg q hq').1⟩

theorem find_id (ctx : Ctx) (pid : Nat) (p : Partition) (h : ctx.find pid = some p) : p.id = pid := by
  unfold Ctx.find at h
  simpa using List.find?_some h

theorem alloc_inv {ctx : Ctx} {σ : Assign} {pid t r : Nat} (hg : 0 < ctx.gran)
    {path : Path} {name : String} {allocs : List (Nat × Nat)} {start dur : Nat}
    (hs : start % ctx.gran = r) {p : Partition} (hp : ctx.find pid = some p) :
    CapInv ctx σ pid t r path (.alloc name allocs start dur) := by
  have hpl := List.sublist_nil.mp (placements_sublist ctx σ path (.alloc name allocs start dur) rfl)
  simp only [CapInv, hpl, allocUsageAt, compileNode, compileAlloc, regSum_flatMap, usageAt_nil, Int.zero_add]
  refine ⟨by simp, entries_le (fun a : Nat × Nat => a.1) (fun a => (a.2 : Int)) _ allocs pid _ fun a _ => ?_⟩
  split
  · rename_i q hq
    have := regsFor_term ctx σ pid t r hg q start dur (.const a.2) hs (by simp [resolveTV])
    exact ⟨this.1, fun hid hw => this.2 (by rw [find_id ctx a.1 q hq, hid]) (by omega)⟩
  · -- a partition the context does not know is not `pid`
    exact ⟨by simp, fun hid => by simp_all⟩

theorem allocUsageAt_children (pid : Nat) (t : Int) (e : Expr) (h : e.isLeaf = false) :
    allocUsageAt pid t e = allocUsageAtL pid t e.children := by
  cases e with
  | choose | alloc => cases h
  | _ => simp [allocUsageAt, allocUsageAtL, Expr.children]

theorem list_inv (ctx : Ctx) (σ : Assign) (pid t r : Nat) (path : Path) : ∀ (cs : List Expr) (i : Nat),
    Children (CapInv ctx σ pid t r) path i cs →
    (∀ s ∈ populateList ctx σ path i cs, ∀ q ∈ s.placements, PlNonneg q) ∧
    sumBy (fun s => usageAt s.placements pid t) (populateList ctx σ path i cs) + allocUsageAtL pid t cs
      ≤ regSum σ pid (slotKey ctx.gran r t) ((compileList ctx path i cs).flatMap (·.2.regs))
  | [], _, _ => by simp [populateList, compileList, allocUsageAtL]
  | e :: es, i, h => by
    obtain ⟨h1, h2⟩ := h.1
    obtain ⟨l1, l2⟩ := list_inv ctx σ pid t r path es (i + 1) h.2
    simp only [populateList, compileList, List.flatMap_cons, allocUsageAtL, sumBy_cons, regSum_append,
      List.forall_mem_cons]
    exact ⟨⟨h1, l1⟩, by omega⟩

theorem node_inv (ctx : Ctx) (σ : Assign) (pid t r : Nat) (p : Partition) (hg : 0 < ctx.gran)
    (hp : ctx.find pid = some p) :
    ∀ (e : Expr) (path : Path), alignedTo ctx.gran r e = true →
      (∀ v ∈ (compileNode ctx path e).vars, Var.holds σ v = true) →
      (∀ q ∈ (populateNode ctx σ path e).placements, PlNonneg q) ∧
      usageAt (populateNode ctx σ path e).placements pid t + allocUsageAt pid t e
        ≤ regSum σ pid (slotKey ctx.gran r t) (compileNode ctx path e).regs := by
  intro e path ha hv
  refine Expr.induction (Q := CapInv ctx σ pid t r)
    ((alignedTo_hereditary ctx.gran r).and (varsHold_hereditary ctx σ)) ?_ e path ⟨ha, hv⟩
  intro path e ⟨ha, hv⟩ ih
  cases e with
  | choose name strategy parts n start dur u =>
    exact choose_inv hg (by simpa [alignedTo] using ha) hv
  | alloc name allocs start dur =>
    exact alloc_inv hg (by simpa [alignedTo] using ha) hp
  | _ =>
    -- the node reports a sublist of what the subtrees below it report
    obtain ⟨l1, l2⟩ := list_inv ctx σ pid t r path _ 0 ih
    obtain ⟨m1, m2⟩ := usage_le_of_sublist (placements_sublist ctx σ path _ rfl) pid t l1
    unfold CapInv
    rw [compileNode_regs ctx path _ rfl, allocUsageAt_children pid t _ rfl]
    exact ⟨m1, by omega⟩

/-- Every registration carries the quantity of the partition the context knows under its id. -/
def RegOK (ctx : Ctx) (r : Reg) : Prop := ∃ p, ctx.find r.pid = some p ∧ r.qty = p.qty

theorem regsFor_ok (ctx : Ctx) (q : Partition) (hq : ctx.find q.id = some q) (start dur : Nat) (u : TV) :
    ∀ r ∈ regsFor ctx q start dur u, RegOK ctx r := by
  intro r hr
  obtain ⟨s, _, rfl⟩ := List.mem_map.mp hr
  exact ⟨q, hq, rfl⟩

theorem schedulable_mem (ctx : Ctx) (parts : List Nat) (q : Partition) (hq : q ∈ schedulable ctx parts) :
    ctx.find q.id = some q ∧ q.id ∈ parts ∧ q.id ∈ ctx.avail := by
  obtain ⟨pid, hpid, h⟩ := List.mem_filterMap.mp hq
  split at h
  · rename_i hav
    rw [find_id ctx pid q h]
    exact ⟨h, hpid, by simpa using hav⟩
  · cases h

theorem node_regs_ok (ctx : Ctx) : ∀ (e : Expr) (path : Path), ∀ r ∈ (compileNode ctx path e).regs, RegOK ctx r := by
  intro e path
  refine Expr.induction (H := fun _ _ => True) (Q := fun path e => ∀ r ∈ (compileNode ctx path e).regs, RegOK ctx r)
    (fun _ _ _ => Children.of_forall fun _ _ _ => trivial)
    ?_ e path trivial
  intro path e _ ih r hr
  cases e with
  | choose name strategy parts n start dur u =>
    simp only [compileNode] at hr
    rcases compileChoose_cases ctx path name strategy parts n start dur u with h | ⟨_, h⟩
    · simp [h] at hr
    · rw [h] at hr
      obtain ⟨q, hq, hrq⟩ := List.mem_flatMap.mp hr
      exact regsFor_ok ctx q (schedulable_mem ctx parts q hq).1 start dur _ r hrq
  | alloc name allocs start dur =>
    obtain ⟨a, _, hra⟩ := List.mem_flatMap.mp (by simpa only [compileNode, compileAlloc] using hr)
    split at hra
    · rename_i q hf
      exact regsFor_ok ctx q (by rw [find_id ctx a.1 q hf]; exact hf) start dur _ r hra
    · cases hra
  | _ =>
    rw [compileNode_regs ctx path _ rfl] at hr
    obtain ⟨x, hx, hrx⟩ := List.mem_flatMap.mp hr
    exact (children_compileList ctx path (R := fun o => ∀ r ∈ o.regs, RegOK ctx r) _ 0).mp ih x hx r hrx

theorem regSum_filter (σ : Assign) (pid k : Nat) (regs : List Reg) :
    regSum σ pid k regs =
      sumBy (fun r => resolveTV σ r.usage) (regs.filter (fun r => r.key == (pid, k))) := by
  unfold regSum
  induction regs with
  | nil => simp
  | cons r l ih =>
    simp only [sumBy_cons, List.filter_cons, ih]
    by_cases h : r.pid = pid ∧ r.time = k
    · have : (r.key == (pid, k)) = true := by simp [Reg.key, h.1, h.2]
      simp [regTerm, h, this]
    · have : (r.key == (pid, k)) = false := by
        simp only [Reg.key, beq_eq_false_iff_ne, ne_eq, Prod.mk.injEq]; exact h
      simp [regTerm, h, this]

theorem capTerms_eval (σ : Assign) (rs : List Reg) :
    sumBy (fun r => resolveTV σ r.usage) rs =
      evalTerms σ (rs.filterMap Reg.varTerm) + (rs.map Reg.constUse).sum := by
  induction rs with
  | nil => simp [evalTerms]
  | cons r l ih =>
    rw [sumBy_cons, ih]
    cases hu : r.usage <;>
      simp only [resolveTV, List.filterMap_cons, Reg.varTerm, Reg.constUse, hu, List.map_cons, List.sum_cons,
        evalTerms] <;> omega

theorem cap_bound (ctx : Ctx) (σ : Assign) (regs : List Reg) (pid k : Nat) (p : Partition)
    (hp : ctx.find pid = some p) (hok : ∀ r ∈ regs, RegOK ctx r)
    (hc : ∀ c ∈ capConstrs regs, Constr.holds σ c = true) :
    regSum σ pid k regs ≤ p.qty := by
  rw [regSum_filter]
  cases hrs : regs.filter (fun r => r.key == (pid, k)) with
  | nil => simp
  | cons r0 rest =>
    have hmem : r0 ∈ regs.filter (fun r => r.key == (pid, k)) := by rw [hrs]; simp
    have ⟨hr0, hk0⟩ := List.mem_filter.mp hmem
    have hkey : r0.key = (pid, k) := by simpa using hk0
    have hin : (pid, k) ∈ capKeys regs :=
      List.mem_eraseDups.mpr (List.mem_map.mpr ⟨r0, hr0, hkey⟩)
    -- the slot has a registration, so it has a capacity row: the variable usages on the left, the
    -- quantity of the first registration (that of `p`, by `RegOK`) minus the constant usages on the right
    have hh := hc (capConstr regs (pid, k)) (List.mem_map.mpr ⟨(pid, k), hin, rfl⟩)
    unfold capConstr Constr.holds at hh
    simp only [hrs, List.head?_cons, decide_eq_true_eq] at hh
    obtain ⟨p', hf, hq⟩ := hok r0 hr0
    have hpid : r0.pid = pid := by simpa [Reg.key] using congrArg Prod.fst hkey
    rw [hpid, hp] at hf
    cases hf
    rw [← hrs] at hh ⊢
    rw [capTerms_eval]
    rw [hq] at hh
    omega

theorem compile_obj (ctx : Ctx) (name : String) (cs : List Expr) :
    compile ctx (.obj name cs) =
      { vars := (compileList ctx [] 0 cs).flatMap (·.2.vars),
        cons := (compileList ctx [] 0 cs).flatMap (·.2.cons) ++ capConstrs ((compileList ctx [] 0 cs).flatMap (·.2.regs)),
        obj := ((compileList ctx [] 0 cs).filter (fun x => x.2.pr.util)).flatMap (·.2.pr.utility),
        objUb := ((compileList ctx [] 0 cs).filter (fun x => x.2.pr.util)).foldl (fun b x => addUb b x.2.pr.ub) (some 0) } := rfl

theorem feasible_obj {ctx : Ctx} {σ : Assign} {name : String} {cs : List Expr}
    (h : (compile ctx (.obj name cs)).feasible σ = true) :
    VarsHold ctx σ [] (.obj name cs) ∧ ConsHold ctx σ [] (.obj name cs) ∧
    ∀ c ∈ capConstrs (compileNode ctx [] (.obj name cs)).regs, Constr.holds σ c = true := by
  rw [compile_obj] at h
  simp only [MipModel.feasible, Bool.and_eq_true, List.all_eq_true, List.mem_append] at h
  simp only [VarsHold, ConsHold, compileNode]
  exact ⟨h.1, fun c hc => h.2 c (Or.inl hc), fun c hc => h.2 c (Or.inr hc)⟩

theorem populate_obj_placements (ctx : Ctx) (σ : Assign) (name : String) (cs : List Expr) :
    (populate ctx σ (.obj name cs)).placements = mergeChildren (populateList ctx σ [] 0 cs) := by
  unfold populate
  simp only []
  split <;> rfl

end ErdosVerif.Strl
