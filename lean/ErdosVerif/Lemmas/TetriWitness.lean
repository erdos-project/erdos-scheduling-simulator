/-
The witness of completeness: for a valid plan, `sigmaOf I plan` indicates the plan (`Ind`) and
satisfies every row of `gen I` (either formulation); the rows are checked in the semantic form
of `cPlace_holds`, `cRes_holds`, `cSlotsG_holds` and `cDeps_holds`.
-/
import ErdosVerif.Lemmas.TetriComplete
namespace ErdosVerif.Tetri
open ErdosVerif.Mip ErdosVerif.TetriSpec

variable {I : Inst} {plan : Plan}

theorem plan_nonRunning_hasVar (hv : ValidPlan I plan) {t : Nat} (ht : t ∈ I.nonRunning) {c : Cell}
    (hp : plan.get t = some c) : c ∈ I.keys t ∧ I.hasVar t c.1 c.2.1 c.2.2 = true := by
  obtain ⟨h1, h2, h3, h4⟩ := hv.wf t c (mem_nonRunning.mp ht).1 (mem_nonRunning.mp ht).2.2 hp
  exact ⟨mem_keys.mpr ⟨h1, h2, h3⟩, by simp [Inst.hasVar, (mem_nonRunning.mp ht).2.2, h4]⟩

theorem ind_sigmaOf (hv : ValidPlan I plan) (hwf : I.wf = true) (hm : I.noModel = false) :
    Ind I (sigmaOf I plan) plan := by
  intro t ht
  cases hr : I.running t with
  | true =>
    have hp := hv.running t (mem_act.mp ht).1 (mem_act.mp ht).2 hr
    refine ⟨fun q _ => ?_, fun c hc => ?_⟩
    · rw [cellVal_running _ hr, hp]; simp [eq_comm]
    · rw [hp] at hc
      exact Option.some.inj hc ▸ running_key hwf ht hr hm
  | false =>
    have htn := nonRunning_of_act ht hr
    refine ⟨fun q _ => ?_, fun c hc => (plan_nonRunning_hasVar hv htn hc).1⟩
    rw [cellVal_nonRunning _ hr]
    cases hvq : I.hasVar t q.1 q.2.1 q.2.2 with
    | true => simp [sigmaOf]
    | false =>
      have : plan.get t ≠ some q := fun hp => by simp [(plan_nonRunning_hasVar hv htn hp).2] at hvq
      simp [this]

theorem isPlacedE_sigmaOf (hv : ValidPlan I plan) {t : Nat} (ht : t ∈ I.act) :
    (I.isPlacedE t).eval (sigmaOf I plan) = if (plan.get t).isSome then 1 else 0 := by
  cases hr : I.running t with
  | true => simp [Inst.isPlacedE, hr, hv.running t (mem_act.mp ht).1 (mem_act.mp ht).2 hr]
  | false =>
    cases hmu : I.must t with
    | true => simp [Inst.isPlacedE, hmu, hv.required t (mem_act.mp ht).1 (mem_act.mp ht).2 hmu]
    | false => simp [Inst.isPlacedE, hr, hmu, sigmaOf]

theorem startE_sigmaOf (hv : ValidPlan I plan) {t : Nat} (ht : t ∈ I.act) :
    (I.startE t).eval (sigmaOf I plan) =
      match plan.get t with
      | some c => I.slot c.2.1
      | none => I.slot I.nSlots + (lp I I.nT t : Nat) := by
  cases hr : I.running t with
  | true => simp [Inst.startE, hr, hv.running t (mem_act.mp ht).1 (mem_act.mp ht).2 hr, runningCell, Inst.slot]
  | false =>
    simp only [Inst.startE, hr, Bool.false_eq_true, if_false, LinExpr.eval_ofVar, sigmaOf]
    cases plan.get t <;> rfl

theorem slots_hold (hv : ValidPlan I plan) (hwf : I.wf = true) (hm : I.noModel = false)
    {t : Nat} (ht : t ∈ I.nonRunning) : ∀ c ∈ I.cSlotsG t, c.holds (sigmaOf I plan) := by
  rw [cSlotsG_holds]
  have hS := sumCellsAt_ind (ind_sigmaOf hv hwf hm) (act_of_nonRunning ht)
  cases hp : plan.get t with
  | none => simp [hS, sigmaOf, hp]
  | some c =>
    simp only [hS, sigmaOf, hp]
    refine ⟨fun k _ => ?_, fun k _ hk0 => ?_, ?_⟩
    · split <;> simp
    · by_cases hck : c.2.1 = k
      · have : ¬ k = k - 1 := by omega
        simp [hck, hk0, this]
      · simp [hck]
    · split <;> simp [*]

theorem place_hold (hv : ValidPlan I plan) (hwf : I.wf = true) (hm : I.noModel = false)
    {t : Nat} (ht : t ∈ I.nonRunning) : ∀ c ∈ I.cPlace t, c.holds (sigmaOf I plan) := by
  have hta := act_of_nonRunning ht
  rw [cPlace_holds, sumCells_ind (ind_sigmaOf hv hwf hm) hta]
  split
  · next hmu => simp [hv.required t (mem_act.mp hta).1 (mem_act.mp hta).2 hmu]
  · simp only [sigmaOf]
    split <;> simp

theorem res_hold (hv : ValidPlan I plan) (hwf : I.wf = true) (hm : I.noModel = false) :
    ∀ c ∈ I.cRes, c.holds (sigmaOf I plan) := by
  rw [cRes_holds]
  intro k hk w hw r _ _
  rw [resE_ind (ind_sigmaOf hv hwf hm)]
  exact_mod_cast hv.capacity w hw k hk r

theorem ite01 (p : Prop) [Decidable p] : (if p then (1 : Int) else 0) = 0 ∨ (if p then (1 : Int) else 0) = 1 := by
  split <;> simp

theorem isum_ind_le {α : Type} (l : List α) (P : α → Prop) [DecidablePred P] :
    isum (l.map (fun a => if P a then (1 : Int) else 0)) ≤ l.length ∧
    ((∀ a ∈ l, P a) → isum (l.map (fun a => if P a then (1 : Int) else 0)) = l.length) ∧
    ((∃ a ∈ l, ¬ P a) → isum (l.map (fun a => if P a then (1 : Int) else 0)) ≤ (l.length : Int) - 1) := by
  have hle : ∀ a ∈ l, (if P a then (1 : Int) else 0) ≤ 1 := fun a _ => by split <;> omega
  have hlen := isum_le_length hle
  refine ⟨hlen, fun hall => ?_, ?_⟩
  · rw [isum_map_eq (g := fun _ => 1) fun a ha => if_pos (hall a ha), isum_map_one]
  · rintro ⟨a, ha, hna⟩
    by_cases he : ((l.length : Nat) : Int) ≤ isum (l.map (fun a => if P a then (1 : Int) else 0))
    · have := all_one_of_isum_eq_length hle he a ha
      simp [hna] at this
    · omega

theorem parentExpr_sigmaOf (hv : ValidPlan I plan) (c : Nat) :
    (I.parentExpr c).eval (sigmaOf I plan) =
      isum ((I.parentVars c).map (fun p => if (plan.get p).isSome = true then (1 : Int) else 0)) := by
  simp only [Inst.parentExpr, LinExpr.eval_sumL, List.map_map, Function.comp_def]
  exact isum_map_eq (fun p hp => isPlacedE_sigmaOf hv (List.mem_filter.mp hp).1)

theorem deps_hold (hv : ValidPlan I plan) (hG : I.cplex = false) (hwf : I.wf = true)
    (hm : I.noModel = false) (hac : wfAcyclic I = true) {t : Nat} (ht : t ∈ I.nonRunning) :
    ∀ c ∈ I.cDeps t, c.holds (sigmaOf I plan) := by
  rw [cDeps_holds]
  intro hne
  have hta := act_of_nonRunning ht
  have htn := mem_nonRunning.mp ht
  have hwp := wf_parents hwf hta
  have hcount := isum_ind_le (I.parentVars t) (fun p => (plan.get p).isSome = true)
  -- `all_parents_placed` is 1 exactly when every parent with variables is placed and they are all
  have hA : sigmaOf I plan (.allParents t) =
      if (∀ p ∈ I.parentVars t, (plan.get p).isSome = true) ∧ (I.parentVars t).length = I.nParents t
      then 1 else 0 := by
    simp only [sigmaOf, Bool.and_eq_true, List.all_eq_true, beq_iff_eq]
  -- a placed task has all of them placed (`ValidPlan.prec`)
  have hplaced : ∀ ct, plan.get t = some ct →
      (∀ p ∈ I.parentVars t, (plan.get p).isSome = true) ∧ (I.parentVars t).length = I.nParents t :=
    fun ct hpt => by
      obtain ⟨hlen, hpar⟩ := hv.prec hG t ct htn.1 htn.2.2 hpt
      exact ⟨fun p hp => by obtain ⟨cp, hcp, _⟩ := hpar p hp; simp [hcp], hlen hne⟩
  rw [hA, parentExpr_sigmaOf hv, isPlacedE_sigmaOf hv hta]
  refine ⟨fun p hp => ?_, fun h0 => ?_, fun h1 => ?_, fun h0 => ?_⟩
  · -- precedence row: between placed tasks by `ValidPlan.prec`; an unplaced task starts at
    -- `slot nSlots + lp`, beyond every slot and after the starts of its parents (`wfAcyclic`)
    have hpa : p ∈ I.act := (List.mem_filter.mp hp).1
    have hacp := List.all_eq_true.mp (List.all_eq_true.mp hac t hta) p hp
    simp only [decide_eq_true_eq] at hacp
    have hlp : ((lp I I.nT p + I.parentDur p + 1 : Nat) : Int) ≤ (lp I I.nT t : Nat) := by exact_mod_cast hacp
    push_cast at hlp
    rw [startE_sigmaOf hv hta, startE_sigmaOf hv hpa]
    cases hpt : plan.get t with
    | some ct =>
      obtain ⟨cp, hcp, hle⟩ := (hv.prec hG t ct htn.1 htn.2.2 hpt).2 p hp
      simp only [hcp, startOf] at hle ⊢
      omega
    | none =>
      cases hpp : plan.get p with
      | none => simp only; omega
      | some cp =>
        have hkp : cp.2.1 < I.nSlots := (mem_keys.mp ((ind_sigmaOf hv hwf hm p hpa).2 cp hpp)).2.1
        have := slot_mono I (Nat.le_of_lt hkp)
        simp only
        omega
  · split at h0
    · simp at h0
    · next hcond =>
      by_cases hall : ∀ p ∈ I.parentVars t, (plan.get p).isSome = true
      · rw [hcount.2.1 hall]
        have : (I.parentVars t).length ≠ I.nParents t := fun he => hcond ⟨hall, he⟩
        omega
      · have := hcount.2.2 (by simpa using hall)
        omega
  · split at h1
    · next hcond => rw [hcount.2.1 hcond.1]; omega
    · simp at h1
  · split at h0
    · simp at h0
    · next hcond =>
      cases hpt : plan.get t with
      | none => simp
      | some ct => exact absurd (hplaced ct hpt) hcond

end ErdosVerif.Tetri
