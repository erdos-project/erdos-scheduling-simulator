/-
Facts that need no feasibility: the shape of `decode` (what `schedule()` returns) and what a
placed decision says about its cell; the arithmetic of slots, rewards and runtimes.
-/
import ErdosVerif.Lemmas.TetriSat
namespace ErdosVerif.Tetri
open ErdosVerif.Mip

theorem mem_cancelled {I : Inst} {t : Nat} :
    t ∈ I.cancelled ↔ t < I.nOffered ∧ I.active t = false := by
  simp [Inst.cancelled, List.mem_filter, List.mem_range]

theorem mem_offeredAct {I : Inst} {t : Nat} :
    t ∈ I.offeredAct ↔ t < I.nOffered ∧ I.active t = true := by
  simp [Inst.offeredAct, List.mem_filter, List.mem_range]

theorem mem_decode {I : Inst} {σ : Var → Int} {d : Decision} :
    d ∈ decode I σ ↔ (∃ t ∈ I.cancelled, d = ⟨t, .cancel⟩) ∨ (∃ t ∈ I.nonRunning, d = I.decodeTask σ t) := by
  simp only [decode, List.mem_append, List.mem_map, eq_comm]

@[simp] theorem decodeTask_task (I : Inst) (σ : Var → Int) (t : Nat) : (I.decodeTask σ t).task = t := by
  unfold Inst.decodeTask
  split <;> rfl

theorem decodeTask_ne_cancel (I : Inst) (σ : Var → Int) (t : Nat) : (I.decodeTask σ t).out ≠ .cancel := by
  unfold Inst.decodeTask
  split <;> simp

theorem decodeTask_placed {I : Inst} {σ : Var → Int} {t w s : Nat} {time : Int}
    (h : (I.decodeTask σ t).out = .placed w s time) :
    ∃ k, I.chosen σ t = some (w, k, s) ∧ time = I.slot k := by
  unfold Inst.decodeTask at h
  split at h
  · next w' k' s' hc =>
    simp only [Outcome.placed.injEq] at h
    obtain ⟨rfl, rfl, rfl⟩ := h
    exact ⟨k', hc, rfl⟩
  · simp at h

theorem decodeTask_unplaced {I : Inst} {σ : Var → Int} {t : Nat} (h : I.chosen σ t = none) :
    I.decodeTask σ t = ⟨t, .unplaced⟩ := by
  simp [Inst.decodeTask, h]

theorem slot_ge_now (I : Inst) (k : Nat) : I.now ≤ I.slot k := by
  simp only [Inst.slot]; omega

theorem slot_mono (I : Inst) {a b : Nat} (h : a ≤ b) : I.slot a ≤ I.slot b := by
  simp only [Inst.slot]
  have : a * I.disc ≤ b * I.disc := Nat.mul_le_mul_right _ h
  omega

theorem rew_bounds (I : Inst) {k : Nat} (hk : k < I.nSlots) :
    (I.den : Int) ≤ I.rew k ∧ I.rew k ≤ 2 * (I.den : Int) := by
  unfold Inst.rew Inst.den
  by_cases hs : I.span = 0
  · simp [hs]
  · simp only [hs, if_false]
    have h1 : k * I.disc ≤ I.span := Nat.mul_le_mul_right _ (by omega)
    omega

theorem minL_le {l : List Nat} {a : Nat} (h : a ∈ l) : minL l ≤ a := by
  induction l with
  | nil => simp at h
  | cons x xs ih =>
    cases xs with
    | nil =>
      have : a = x := by simpa using h
      simp [minL, this]
    | cons y ys =>
      simp only [List.mem_cons] at h
      simp only [minL]
      rcases h with rfl | h
      · omega
      · have := ih (by simpa using h)
        omega

theorem le_maxL {l : List Nat} {a : Nat} (h : a ∈ l) : a ≤ maxL l := by
  induction l with
  | nil => simp at h
  | cons x xs ih =>
    simp only [List.mem_cons] at h
    simp only [maxL]
    rcases h with rfl | h
    · omega
    · have := ih h
      omega

theorem strat_mem {I : Inst} {t s : Nat} (hs : s < (I.task t).nS) :
    ((I.task t).strat s).runtime ∈ (I.task t).strats.map (fun s => s.runtime) :=
  List.mem_map.mpr ⟨(I.task t).strat s, getD_mem hs _, rfl⟩

theorem fastest_le {I : Inst} {t s : Nat} (hs : s < (I.task t).nS) : I.fastest t ≤ I.runtime t s :=
  minL_le (strat_mem hs)

theorem le_slowest {I : Inst} {t s : Nat} (hs : s < (I.task t).nS) : I.runtime t s ≤ I.slowest t :=
  le_maxL (strat_mem hs)

theorem hasVar_spec {I : Inst} {t w k s : Nat} (h : I.hasVar t w k s = true) :
    I.running t = false ∧ compatible (I.worker w) ((I.task t).strat s) = true ∧
    (I.task t).release ≤ I.slot k ∧
    (I.enforceDeadlines = true → I.slot k + (I.runtime t s : Nat) ≤ (I.task t).deadline) := by
  simp only [Inst.hasVar, Bool.and_eq_true, Bool.not_eq_true'] at h
  exact ⟨h.1, (cellOk_iff ..).mp h.2⟩

end ErdosVerif.Tetri
