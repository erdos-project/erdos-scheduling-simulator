import ErdosVerif.Lemmas.Heap
/-!
Python's `min(…, key=k)` / `max(…, key=k)` loop over integer keys, as the instance of
`Heap.foldl_min_spec` at the comparison of keys (the planners' `fastest` strategies, the longest
path's `argmaxFirst`); comparison by a key and by a tuple as `Heap.SWO`s.
-/
namespace ErdosVerif.Model.Heap

theorem SWO.ofKey {α : Type} (k : α → Int) : SWO (fun x y => decide (k x < k y)) (fun _ => True) :=
  ⟨fun _ _ h => by simp only [decide_eq_true_eq, decide_eq_false_iff_not] at h ⊢; omega,
   fun _ _ _ h1 h2 => by simp only [decide_eq_false_iff_not] at h1 h2 ⊢; omega⟩

theorem foldl_min_key {α : Type} (k : α → Int) (ys : List α) (best : α) :
    ys.foldl (fun b y => if k y < k b then y else b) best ∈ best :: ys ∧
    ∀ z ∈ best :: ys, k (ys.foldl (fun b y => if k y < k b then y else b) best) ≤ k z := by
  simpa using foldl_min_spec (SWO.ofKey k) ys best _ trivial (fun _ _ => trivial) rfl

variable {α : Type}

theorem SWO.ofStringKey (s : α → String) : SWO (fun x y => decide (s x < s y)) (fun _ => True) :=
  ⟨fun _ _ h => by simp only [decide_eq_true_eq, decide_eq_false_iff_not] at h ⊢; exact String.lt_asymm h,
   fun _ _ _ h1 h2 => by
    simp only [decide_eq_false_iff_not, String.not_lt] at h1 h2 ⊢; exact String.le_trans h1 h2⟩

theorem lex_eq_false (k : α → Int) (lt₂ : α → α → Bool) (a b : α) :
    (if k a == k b then lt₂ a b else decide (k a < k b)) = false ↔
      k b < k a ∨ (k a = k b ∧ lt₂ a b = false) := by
  by_cases e : k a = k b <;> simp [e] <;> omega

/-- Comparing an integer key first and, among equal keys, by `lt₂` (Python's tuple comparison). -/
theorem SWO.lex (k : α → Int) {lt₂ : α → α → Bool} {P : α → Prop} (h : SWO lt₂ P) :
    SWO (fun a b => if k a == k b then lt₂ a b else decide (k a < k b)) P where
  asymm {x y} hx hy hxy := by
    rw [lex_eq_false]
    by_cases e : k x = k y
    · exact .inr ⟨e.symm, h.asymm hx hy (by simpa [e] using hxy)⟩
    · exact .inl (by simpa [e] using hxy)
  le_trans {x y z} hx hy hz h1 h2 := by
    rw [lex_eq_false] at h1 h2 ⊢
    rcases h1 with h1 | ⟨e1, h1⟩ <;> rcases h2 with h2 | ⟨e2, h2⟩
    · exact .inl (by omega)
    · exact .inl (by omega)
    · exact .inl (by omega)
    · exact .inr ⟨by omega, h.le_trans hx hy hz h1 h2⟩

end ErdosVerif.Model.Heap
