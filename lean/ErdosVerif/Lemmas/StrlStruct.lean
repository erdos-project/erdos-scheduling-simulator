/-
C20, structure: the clause `nodeClause` at every node of a tree.
-/
import ErdosVerif.Lemmas.StrlQuiet
namespace ErdosVerif.Strl

theorem sat_of_ne_nil {σ : Assign} {r : PR} {pls : List Placement} (hio : IndOK σ r) (hq : Quiet σ r pls)
    (hne : pls ≠ []) : r.util = true ∧ indVal σ r = 1 := by
  have : varInd σ r ≠ 0 := fun h => hne (hq h)
  rcases hio.cases with h | h
  · exact absurd h.1 this
  · exact ⟨h.1, by omega⟩

theorem quiet_clause {σ : Assign} {r : PR} {pls : List Placement} (hio : IndOK σ r) (hq : Quiet σ r pls) :
    (r.util = false ∨ indVal σ r = 0) → pls = [] := by
  intro h
  apply hq
  rcases hio.cases with h' | h'
  · exact h'.1
  · rcases h with h | h
    · simp [h] at h'
    · omega

theorem node_clause (ctx : Ctx) (σ : Assign) (e : Expr) (path : Path) (hs : Sound ctx σ path e) :
    nodeClause ctx σ path e := by
  obtain ⟨hio, hq⟩ := node_quiet ctx σ e path hs
  refine ⟨quiet_clause hio hq, ?_⟩
  cases e with
  | min name cs =>
    intro hne
    obtain ⟨hu, h1⟩ := sat_of_ne_nil hio hq hne
    exact children_sat hs rfl hu h1
  | max name cs => exact max_node_at_most_one (buildErr_max hs.1.1).2 hs.2.1 hs.2.2
  | lt name a b =>
    intro hua hub
    obtain ⟨hu, _, _, hord, _⟩ := lt_rows hs.1.2 hs.2.1 hs.2.2 hua hub
    refine ⟨hord, fun hne => ?_⟩
    have := children_sat hs rfl hu (sat_of_ne_nil hio hq hne).2
    simp only [Expr.children, compileList, List.forall_mem_cons, Nat.zero_add] at this
    exact ⟨this.1.2, this.2.1.2⟩
  | _ => trivial

theorem node_structure (ctx : Ctx) (σ : Assign) :
    ∀ (e : Expr) (path : Path), buildErr e = none → noStaticLt ctx path e = true →
      (∀ v ∈ (compileNode ctx path e).vars, Var.holds σ v = true) →
      (∀ c ∈ (compileNode ctx path e).cons, Constr.holds σ c = true) →
      forallNodes (nodeClause ctx σ) path e :=
  fun e path hb hn hv hc =>
    forallNodes_of_hereditary (sound_hereditary ctx σ) (fun p c => node_clause ctx σ c p) e path ⟨⟨hb, hn⟩, hv, hc⟩

end ErdosVerif.Strl
