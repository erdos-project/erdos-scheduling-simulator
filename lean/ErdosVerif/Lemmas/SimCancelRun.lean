import ErdosVerif.Lemmas.SimCancel
import ErdosVerif.Lemmas.SimWalk
import ErdosVerif.Lemmas.SimEvents
/-!
The cancelled-task counter against the `.cancel` history entries, over every run.

`CI γ s` is `CC.Inv` where a handler is: the events that exist outside the queue are the popped event
and the events the handler has created and not yet queued. It is closed under the steps of the handlers
and of the loop (`CI.closed`: the steps that create no event are one case, `CI.move`, on what `Act.moves` of
`Lemmas/SimEvents.lean` says they do to the events; the others are state-level lemmas of `Lemmas/SimCancel.lean`), so
`simulate_cc` is `simulate_closed` (`Lemmas/SimWalk.lean`) for it.

At a raise point only `CC.W` is claimed: between a `.cancel` entry and the creation of its TASK_CANCEL
event (`Abort.payCancel`) the account is off by one.
-/
open Std.Do
set_option mvcgen.warning false

namespace ErdosVerif.Model.Sim.CC

abbrev CI (γ : Ghost) (s : SimS) : Prop := Inv (γ.cur.toList ++ γ.ex) s

theorem CI.cur {γ : Ghost} {s : SimS} {ev : SEvent} (h : CI γ s) (hcur : γ.cur = some ev) : Inv (ev :: γ.ex) s := by
  unfold CI at h
  rwa [hcur] at h

/-- A step that creates no event: the events move (`mv`); the popped event, if it is let go, is no TASK_CANCEL event
(`hnc`), and neither is a queued event with a cached id. A re-timed event keeps its type and id. -/
theorem CI.move {γ γ' : Ghost} {s s' : SimS} (h : CI γ s) (mv : EvMove γ s γ' s')
    (hnc : ∀ e, γ.cur = some e → γ'.cur = none → isTC e = false := by exact fun _ h1 h2 => nomatch h1.symm.trans h2)
    (hl : cancelLogN s' = cancelLogN s := by rfl) (hc : s'.cancelledTasks = s.cancelledTasks := by rfl)
    (hn : s'.nextEid = s.nextEid := by rfl) : CI γ' s' := by
  cases mv with
  | same hp hk => exact h.perm hp hl hc hn hk.fut
  | left e why hp hk =>
    have he : isTC e = false := by
      rcases why with ⟨h1, h2⟩ | ⟨t, ht⟩
      · exact hnc e h1 h2
      · cases hx : isTC e with
        | false => rfl
        | true => exact absurd rfl (h.tcNotFut e (hp.subset List.mem_cons_self) hx _ (AList.mem_of_get?_some _ _ _ ht))
    refine h.events ?_ (fun e' he' ht => ⟨e', hp.subset (List.mem_cons_of_mem _ he'), ht, rfl⟩) hl hc hn hk.fut
    have := hp.countP_eq isTC
    rw [List.countP_cons, he] at this
    exact this
  | edited eid f hf hkept a b hE hE' hk =>
    refine h.events ?_ (fun e' he' ht => ?_) hl hc hn hk.fut
    · refine (hE'.countP_eq isTC).trans (.trans ?_ (hE.countP_eq isTC).symm)
      rw [List.countP_append, List.countP_append, List.countP_map]
      exact congrArg (· + _) (List.countP_congr fun e _ => by simp [(edit_ok eid f hf e).1])
    · rcases List.mem_append.mp (hE'.subset he') with h1 | h1
      · obtain ⟨e0, he0, rfl⟩ := List.mem_map.mp h1
        exact ⟨e0, hE.symm.subset (List.mem_append_left _ he0), (edit_ok eid f hf e0).1 ▸ ht, (edit_ok eid f hf e0).2.symm⟩
      · exact ⟨e', hE.symm.subset (List.mem_append_right _ h1), ht, rfl⟩

theorem CI.closed : ClosedTick CI W where
  weak h := h.weak
  abort a h := by
    cases a with
    | cancelGraph | cancelPlaced | notifyGraph => exact h.weak.log []
    | payCancel => exact h.weak.log [.cancel _ _]
    | countCancel ev hcur hty => exact Inv.weak ((h.cur hcur).count (beq_iff_eq.2 hty))
    | placedNoStrategy | placedNoDraw | placedNoStart => exact h.weak.log [.place _ _ _]
    | placedStarted => exact h.weak.log [.place _ _ _, .start _ _ _ _]
    | removedNoFinish => exact h.weak.log [.remove _ _ _]
  act a h := by
    have mv := a.moves
    cases a with
    | row | call | draw | followUp | follow | load | pool | schedStart | schedRun | schedDone | cancelGraph | notifyGraph
    | add | perm | edit | repend | unqueue | uncache | cancelPlaced => exact h.move (mv rfl)
    | pop => exact h.move (mv rfl) (hl := cancelLogN_pushes _ _ [.pop _ _] rfl)
    | log e he => exact h.move (mv rfl) (hl := (cancelLogN_pushes _ _ [e] rfl).trans (by rw [List.countP_singleton, LogE.routine_isCancelLog he]; rfl))
    | place => exact h.move (mv rfl) (hl := cancelLogN_pushes _ _ [.place _ _ _, .start _ _ _ _] rfl)
    -- the popped event goes: it is not a TASK_CANCEL event
    | done ev hcur hcan => exact h.move (mv rfl) fun _ h1 _ => Option.some.inj (hcur.symm.trans h1) ▸ isTC_false hcan
    | simEnd ev hcur hty =>
      exact h.move (mv rfl) fun _ h1 _ => Option.some.inj (hcur.symm.trans h1) ▸ isTC_false (by rw [hty]; decide)
    | finish e0 _ _ _ _ _ _ hcur hty =>
      exact h.move (mv rfl) (fun _ h1 _ => Option.some.inj (hcur.symm.trans h1) ▸ isTC_false (by rw [hty]; decide))
        (cancelLogN_pushes _ _ [.remove _ _ _, .finish _ _] rfl)
    -- or it is one, and is counted
    | countCancel ev _ hcur hty => exact (h.cur hcur).count (beq_iff_eq.2 hty)
    -- a fresh event, with the id counter as its id
    | mk _ _ _ _ _ _ _ hcan => exact h.fresh (isTC_false hcan) (perm_snoc ..)
    | mkSched _ _ hty => subst hty; exact h.fresh (by rfl) (perm_snoc ..)
    | placeNow =>
      exact h.fresh (by rfl) (perm_snoc ..) (hl := cancelLogN_pushes _ _ [.place _ _ _, .start _ _ _ _] rfl)
    | mkCached => exact h.fresh (by rfl) (perm_snoc ..) (mem_future_set _ _ _)
    | retry => exact h.fresh (by rfl) (perm_heappush ..) (mem_future_set _ _ _)
    | payCancel => exact h.freshTC (perm_snoc ..)
  tick a h := by
    have mv := a.moves
    cases a with
    | stepTask => exact h.move (mv rfl)
    | take => exact h.move (mv rfl) fun _ _ h2 => nomatch h2
    | clock => exact h.move (mv rfl) (hl := cancelLogN_pushes _ _ [.clock _] rfl)
    | mkDue => exact h.fresh (by rfl) (perm_snoc ..)

/-- **Every `.cancel` entry has exactly one TASK_CANCEL event, every run.** From an initial
state satisfying the invariant (`inv_initial`: no `.cancel` entry, counter 0, no TASK_CANCEL event
queued, cached ids below the id counter):
* whatever way the run stops, `cancelledTasks ≤` number of `.cancel` history entries (`W`);
* when it ends normally, number of `.cancel` entries = `cancelledTasks` + number of TASK_CANCEL
  events still queued (`Inv []`). -/
theorem simulate_cc (s0 : SimS) (fuel : Nat) (h : Inv [] s0) :
    W (simulate s0 fuel).2 ∧ ((simulate s0 fuel).1 = none → Inv [] (simulate s0 fuel).2) :=
  have := simulate_closed CI.closed s0 fuel h
  ⟨this.2, fun hn => (this.1 hn).1⟩

abbrev IA (ex : List SEvent) : Assertion (.except SErr (.arg SimS .pure)) := fun s => ⌜Inv ex s⌝
abbrev WA : Assertion (.except SErr (.arg SimS .pure)) := fun s => ⌜W s⌝
abbrev Keeps {α} (ex : List SEvent) (x : SimM α) : Prop := ⦃IA ex⦄ x ⦃post⟨fun _ => IA ex, fun _ => WA⟩⦄
abbrev K0 {α} (x : SimM α) : Prop := Keeps [] x

theorem removeEvent_c (ex : List SEvent) (eid : Nat) (t : TaskId) :
    ⦃fun s => ⌜Inv ex s ∧ s.future.get? t = some eid⌝⦄ removeEvent eid ⦃post⟨fun _ => IA ex, fun _ => WA⟩⦄ := by
  have h := removeEvent_w CI.closed.toClosed { ex := ex } eid
  mvcgen [h]
  exact ⟨‹_ ∧ _›.1, t, ‹_ ∧ _›.2⟩

theorem raiseTask_0 (e : Option SErr) : K0 (raiseTask e) := by
  unfold raiseTask
  cases e <;> mvcgen
  exact Inv.weak ‹_›

theorem advanceClock_0 (dt : Int) : K0 (advanceClock dt) := by
  mvcgen [advanceClock]
  exact Inv.log ‹_› [.clock _]

end ErdosVerif.Model.Sim.CC
