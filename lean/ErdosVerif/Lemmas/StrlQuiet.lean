/-
C20, indicators: the indicator of a node is 1 only if the indicators of the nodes it depends on
are (`Min`: all children, `LessThan`: both, `Scale`: its child), and a node whose indicator is 0
or a constant reports no placement, provided no `LessThan` is decided at compile time.
-/
import ErdosVerif.Lemmas.StrlMax
namespace ErdosVerif.Strl

/-- The indicator of a node that provides utility is the constant 1 or a 0/1 variable. -/
def IndOK (σ : Assign) (r : PR) : Prop :=
  r.util = true → (r.ind = .const 1 ∨ ∃ v, r.ind = .var v ∧ 0 ≤ σ v ∧ σ v ≤ 1)

/-- What a child contributes to the left-hand side of the "all children" row of its `Min` /
`LessThan`: the value of its indicator if that is a variable. -/
def varInd (σ : Assign) (r : PR) : Int :=
  if r.util then (match r.ind with | .var v => σ v | .const _ => 0) else 0

/-- What it contributes to the count on the right-hand side: 1 if its indicator is a variable. -/
def varCnt (r : PR) : Int := if r.util then ((indTermOf r.ind).2 : Int) else 0

theorem evalTerms_indTermOf (σ : Assign) (r : PR) (hu : r.util = true) :
    evalTerms σ (indTermOf r.ind).1 = varInd σ r := by
  unfold varInd indTermOf
  cases r.ind <;> simp [hu, evalTerms]

/-- A constant indicator counts for nothing in the row and is satisfied; a variable indicator
counts with its value. -/
theorem IndOK.cases {σ : Assign} {r : PR} (h : IndOK σ r) :
    (varInd σ r = 0 ∧ varCnt r = 0 ∧ (r.util = true → indVal σ r = 1)) ∨
    (r.util = true ∧ varCnt r = 1 ∧ varInd σ r = indVal σ r ∧ 0 ≤ indVal σ r ∧ indVal σ r ≤ 1) := by
  by_cases hu : r.util = true
  · rcases h hu with hc | ⟨v, hv, h0, h1⟩
    · simp [varInd, varCnt, indVal, hu, hc, indTermOf, resolveTV]
    · simp [varInd, varCnt, indVal, hu, hv, indTermOf, resolveTV, h0, h1]
  · simp [varInd, varCnt, hu]

theorem IndOK.bounds {σ : Assign} {r : PR} (h : IndOK σ r) : 0 ≤ varInd σ r ∧ varInd σ r ≤ varCnt r := by
  rcases h.cases with h | h <;> omega

theorem IndOK.sat_iff {σ : Assign} {r : PR} (h : IndOK σ r) (hu : r.util = true) :
    indVal σ r = 1 ↔ varInd σ r = varCnt r := by
  rcases h.cases with h | h
  · simp [h.1, h.2.1, h.2.2 hu]
  · omega

theorem IndOK.varInd_le_indTerm {σ : Assign} {r : PR} (h : IndOK σ r) : varInd σ r ≤ indTerm σ r := by
  unfold indTerm
  split
  · rename_i hu
    have := h.cases
    simp only [indVal, hu, forall_const] at this
    omega
  · simp_all [varInd]

/-- What the row `Σ indicators of the children − count · indicator = 0` of a `Min` or `LessThan`
says of its result `r`: no indicator variable of a child is set when the node is unsatisfied or has
a constant indicator, all are when it is satisfied. -/
structure AllOf (σ : Assign) (r : PR) (children : List PR) : Prop where
  ind : IndOK σ r
  unsat : varInd σ r = 0 → sumBy (varInd σ) children = 0
  sat : indVal σ r = 1 → sumBy (varInd σ) children = sumBy varCnt children

theorem AllOf.children_unsat {σ : Assign} {r : PR} {children : List PR} (h : AllOf σ r children)
    (hio : ∀ x ∈ children, IndOK σ x) (h0 : varInd σ r = 0) : ∀ x ∈ children, varInd σ x = 0 :=
  sumBy_eq_zero _ _ (fun x hx => (hio x hx).bounds.1) (h.unsat h0)

theorem AllOf.children_sat {σ : Assign} {r : PR} {children : List PR} (h : AllOf σ r children)
    (hio : ∀ x ∈ children, IndOK σ x) (hu : ∀ x ∈ children, x.util = true) (h1 : indVal σ r = 1) :
    ∀ x ∈ children, indVal σ x = 1 := fun x hx =>
  -- each child's indicator variable counts at most once, and the row makes the sums agree
  ((hio x hx).sat_iff (hu x hx)).mpr
    (eq_of_sumBy_eq _ _ _ (fun x hx => (hio x hx).bounds.2) (h.sat h1) x hx)

/-- The two accumulated sides of the "all children" row of the per-child loop of a `Min`. -/
theorem minFold (σ : Assign) (name : String) (ms me : VarId) (children : List (String × PR)) :
    ∀ acc : MinAcc,
    evalTerms σ (children.foldl (fun a x => minStep name ms me a x.1 x.2) acc).indTerms
        = evalTerms σ acc.indTerms + sumBy (fun x => varInd σ x.2) children ∧
    ((children.foldl (fun a x => minStep name ms me a x.1 x.2) acc).count : Int)
        = acc.count + sumBy (fun x => varCnt x.2) children := by
  induction children with
  | nil => intro acc; simp
  | cons x xs ih =>
    intro acc
    simp only [List.foldl_cons, sumBy_cons]
    rw [(ih _).1, (ih _).2]
    unfold minStep varCnt
    by_cases hu : x.2.util = true
    · simp only [hu, Bool.not_true, Bool.false_eq_true, if_false, if_true, evalTerms_append,
        evalTerms_indTermOf σ x.2 hu]
      omega
    · simp [hu, varInd]

theorem minAcc_sums (σ : Assign) (path : Path) (name : String) (children : List (String × PR)) :
    evalTerms σ (minAcc path name children).indTerms = sumBy (varInd σ) (children.map (·.2)) ∧
    ((minAcc path name children).count : Int) = sumBy varCnt (children.map (·.2)) := by
  simpa [minAcc, evalTerms, sumBy_map] using minFold σ name ⟨path, .minStart⟩ ⟨path, .minEnd⟩ children {}

/-- What a `Min` that provides utility says: every child provides utility, start and end are the
`Min`'s own variables, and the indicator row. -/
theorem finishMin_rows (σ : Assign) (path : Path) (name : String) (children : List (String × PR))
    (hio : ∀ x ∈ children, IndOK σ x.2)
    (hv : ∀ v ∈ (finishMin path name children).2.1, Var.holds σ v = true)
    (hc : ∀ c ∈ (finishMin path name children).2.2, Constr.holds σ c = true)
    (hu : (finishMin path name children).1.util = true) :
    (∀ x ∈ children, x.2.util = true) ∧
    (finishMin path name children).1.start = .var ⟨path, .minStart⟩ ∧
    (finishMin path name children).1.stop = .var ⟨path, .minEnd⟩ ∧
    AllOf σ (finishMin path name children).1 (children.map (·.2)) := by
  have s0 := sumBy_nonneg (varInd σ) (children.map (·.2)) fun x hx =>
    have ⟨y, hy, e⟩ := List.mem_map.mp hx
    e ▸ (hio y hy).bounds.1
  have s1 := sumBy_le_sumBy (varInd σ) varCnt (children.map (·.2)) fun x hx =>
    have ⟨y, hy, e⟩ := List.mem_map.mp hx
    e ▸ (hio y hy).bounds.2
  obtain ⟨f1, f2⟩ := minAcc_sums σ path name children
  unfold finishMin at hu hv hc ⊢
  simp only [] at hu hv hc ⊢
  have hind := hv ⟨⟨path, .minInd⟩, name ++ "_min_indicator", .bin, some 0, .none⟩ (by split <;> simp)
  simp [Var.holds] at hind
  have hall : (children.all fun x => x.2.util) = true := by
    cases h : children.all fun x => x.2.util
    · split at hu <;> simp [h, PR.none] at hu
    · rfl
  refine ⟨fun x hx => List.all_eq_true.mp hall x hx, ?_⟩
  by_cases h0 : ((minAcc path name children).count == 0) = true
  · -- no child has a variable indicator: the `Min`'s indicator is the constant 1
    have : sumBy varCnt (children.map (·.2)) = 0 := by simp at h0; simp_all
    simp only [h0, hall, if_true]
    exact ⟨trivial, trivial, fun _ => Or.inl rfl, fun _ => by omega, fun _ => by omega⟩
  · have h0' : ((minAcc path name children).count == 0) = false := Bool.eq_false_iff.mpr h0
    simp only [h0', hall, if_true, Bool.false_eq_true, if_false] at hc ⊢
    have hrow := hc _ (List.mem_append_right _ (List.mem_singleton.mpr rfl))
    simp only [Constr.holds, decide_eq_true_eq, evalTerms_append, f1] at hrow
    simp only [evalTerms, List.map_cons, List.map_nil, List.sum_cons, List.sum_nil,
      Int.ofNat_eq_natCast, f2] at hrow
    refine ⟨trivial, trivial, fun _ => Or.inr ⟨_, rfl, hind.1, hind.2⟩, fun h => ?_, fun h => ?_⟩
    · simp only [varInd, if_true] at h
      rw [h] at hrow; omega
    · simp only [indVal, resolveTV] at h
      rw [h] at hrow; omega

/-- What a `LessThan` over children that both provide utility says, when the order is not decided
at compile time: the indicator row is that of a `Min` over the two children, and the first child
ends no later than the second starts. -/
theorem finishLt_rows (σ : Assign) (path : Path) (name : String) (pa pb : PR)
    (hua : pa.util = true) (hub : pb.util = true)
    (hdyn : ¬(isConst pa.stop = true ∧ isConst pb.start = true))
    (hv : ∀ v ∈ (finishLt path name pa pb).2.1, Var.holds σ v = true)
    (hc : ∀ c ∈ (finishLt path name pa pb).2.2, Constr.holds σ c = true) :
    (finishLt path name pa pb).1.util = true ∧
    (finishLt path name pa pb).1.start = pa.start ∧ (finishLt path name pa pb).1.stop = pb.stop ∧
    resolveTV σ pa.stop ≤ resolveTV σ pb.start ∧
    AllOf σ (finishLt path name pa pb).1 [pa, pb] := by
  have hst : (isConst pa.stop && isConst pb.start) = false := by
    cases h : (isConst pa.stop && isConst pb.start)
    · rfl
    · exact absurd (by simpa using h) hdyn
  unfold finishLt at hv hc ⊢
  simp only [hua, hub, hst, Bool.and_self, Bool.not_true, Bool.false_eq_true, if_false] at hv hc ⊢
  have hsat := hv _ (List.mem_singleton.mpr rfl)
  simp [Var.holds] at hsat
  have hrow := hc _ (List.mem_cons_self ..)
  have hord := hc _ (List.mem_cons_of_mem _ (List.mem_singleton.mpr rfl))
  simp only [Constr.holds, decide_eq_true_eq, evalTerms_append, evalTerms_indTermOf σ pa hua,
    evalTerms_indTermOf σ pb hub] at hrow hord
  simp only [evalTerms, List.map_cons, List.map_nil, List.sum_cons, List.sum_nil, Int.ofNat_eq_natCast,
    Int.natCast_add] at hrow
  have e1 := tvTerm_eval σ 1 pa.stop
  have e2 := tvTerm_eval σ (-1) pb.start
  refine ⟨trivial, trivial, trivial, by omega, fun _ => Or.inr ⟨_, rfl, hsat.1, hsat.2⟩, fun h => ?_, fun h => ?_⟩
  · simp only [varInd, if_true] at h
    rw [h] at hrow; simp only [sumBy_cons, sumBy_nil]; omega
  · simp only [indVal, resolveTV] at h
    rw [h] at hrow; simp only [sumBy_cons, sumBy_nil, varCnt, hua, hub, if_true]; omega

theorem finishLt_util {path : Path} {name : String} {pa pb : PR}
    (h : (finishLt path name pa pb).1.util = true) : pa.util = true ∧ pb.util = true := by
  unfold finishLt at h
  split at h
  · cases h
  · simp_all

/-- A `Scale` passes on the times and the indicator of its child. -/
theorem finishScale_rows (σ : Assign) {f : Int} {d : Bool} {c : PR} (hio : IndOK σ c)
    (h : (finishScale f d c).util = true) :
    c.util = true ∧ (finishScale f d c).start = c.start ∧ (finishScale f d c).stop = c.stop ∧
    AllOf σ (finishScale f d c) [c] := by
  have hcu : c.util = true := by
    cases hu : c.util
    · simp [finishScale, hu, PR.none] at h
    · rfl
  obtain ⟨hst, hen, hi⟩ : (finishScale f d c).start = c.start ∧ (finishScale f d c).stop = c.stop ∧
      (finishScale f d c).ind = c.ind := by
    unfold finishScale; cases d <;> simp [hcu]
  refine ⟨hcu, hst, hen, fun _ => hi ▸ hio hcu, fun h0 => ?_, fun h1 => ?_⟩
  · simpa [varInd, hi, h, hcu] using h0
  · simpa [indVal, hi] using (hio.sat_iff hcu).mp (by simpa [indVal, hi] using h1)

theorem min_rows {ctx : Ctx} {σ : Assign} {path : Path} {name : String} {cs : List Expr}
    (hio : ∀ x ∈ compileList ctx path 0 cs, IndOK σ x.2.pr)
    (hv : VarsHold ctx σ path (.min name cs)) (hc : ConsHold ctx σ path (.min name cs))
    (hu : (compileNode ctx path (.min name cs)).pr.util = true) :
    (∀ x ∈ compileList ctx path 0 cs, x.2.pr.util = true) ∧
    (compileNode ctx path (.min name cs)).pr.start = .var ⟨path, .minStart⟩ ∧
    (compileNode ctx path (.min name cs)).pr.stop = .var ⟨path, .minEnd⟩ ∧
    AllOf σ (compileNode ctx path (.min name cs)).pr ((compileList ctx path 0 cs).map (·.2.pr)) := by
  simp only [VarsHold, ConsHold, compileNode] at hv hc hu ⊢
  have := finishMin_rows σ path name _ (List.forall_mem_map.mpr hio)
    (fun v h => hv v (List.mem_append_left _ h)) (fun c h => hc c (List.mem_append_right _ h)) hu
  simpa only [List.forall_mem_map, List.map_map, Function.comp_def] using this

theorem lt_rows {ctx : Ctx} {σ : Assign} {path : Path} {name : String} {a b : Expr}
    (hn : noStaticLt ctx path (.lt name a b) = true)
    (hv : VarsHold ctx σ path (.lt name a b)) (hc : ConsHold ctx σ path (.lt name a b))
    (hua : (compileNode ctx (0 :: path) a).pr.util = true) (hub : (compileNode ctx (1 :: path) b).pr.util = true) :
    (compileNode ctx path (.lt name a b)).pr.util = true ∧
    (compileNode ctx path (.lt name a b)).pr.start = (compileNode ctx (0 :: path) a).pr.start ∧
    (compileNode ctx path (.lt name a b)).pr.stop = (compileNode ctx (1 :: path) b).pr.stop ∧
    resolveTV σ (compileNode ctx (0 :: path) a).pr.stop ≤ resolveTV σ (compileNode ctx (1 :: path) b).pr.start ∧
    AllOf σ (compileNode ctx path (.lt name a b)).pr
      [(compileNode ctx (0 :: path) a).pr, (compileNode ctx (1 :: path) b).pr] := by
  simp only [VarsHold, ConsHold, compileNode] at hv hc ⊢
  exact finishLt_rows σ path name _ _ hua hub (fun h => noStaticLt_lt hn ⟨hua, hub, h⟩)
    (fun v h => hv v (List.mem_append_right _ h)) (fun c h => hc c (List.mem_append_right _ h))

/-- The indicator of a node that provides utility, over the indicators of the subtrees below it:
it is well-formed; when it is 0 or a constant no indicator variable below is set; when it is 1
(and the node is not a `Max`) the subtrees below provide utility and have indicator 1. -/
theorem node_rows {ctx : Ctx} {σ : Assign} {path : Path} {e : Expr}
    (hn : noStaticLt ctx path e = true) (hv : VarsHold ctx σ path e) (hc : ConsHold ctx σ path e)
    (hio : ∀ x ∈ compileList ctx path 0 e.children, IndOK σ x.2.pr)
    (hu : (compileNode ctx path e).pr.util = true) :
    IndOK σ (compileNode ctx path e).pr ∧
    (varInd σ (compileNode ctx path e).pr = 0 →
      ∀ x ∈ compileList ctx path 0 e.children, varInd σ x.2.pr = 0) ∧
    (e.isMax = false → indVal σ (compileNode ctx path e).pr = 1 →
      ∀ x ∈ compileList ctx path 0 e.children, x.2.pr.util = true ∧ indVal σ x.2.pr = 1) := by
  -- `Min`, `LessThan`, `Scale`: from the "all of them" row
  have allOf : ∀ {r : PR}, AllOf σ r ((compileList ctx path 0 e.children).map (·.2.pr)) →
      (∀ x ∈ compileList ctx path 0 e.children, x.2.pr.util = true) →
      IndOK σ r ∧ (varInd σ r = 0 → ∀ x ∈ compileList ctx path 0 e.children, varInd σ x.2.pr = 0) ∧
      (indVal σ r = 1 → ∀ x ∈ compileList ctx path 0 e.children, x.2.pr.util = true ∧ indVal σ x.2.pr = 1) :=
    fun h hall => ⟨h.ind,
      fun h0 => List.forall_mem_map.mp (h.children_unsat (List.forall_mem_map.mpr hio) h0),
      fun h1 x hx => ⟨hall x hx, List.forall_mem_map.mp
        (h.children_sat (List.forall_mem_map.mpr hio) (List.forall_mem_map.mpr hall) h1) x hx⟩⟩
  cases e with
  | choose name strategy parts n start dur u =>
    refine ⟨fun _ => ?_, by simp [Expr.children, compileList], by simp [Expr.children, compileList]⟩
    simp only [VarsHold, compileNode] at hv hu ⊢
    obtain ⟨h0, h1, _⟩ := choose_rows hu hv
    rcases compileChoose_cases ctx path name strategy parts n start dur u with h | ⟨_, h⟩
    · simp [h, PR.none] at hu
    · exact Or.inr ⟨_, by rw [h], h0, h1⟩
  | alloc => exact ⟨fun _ => Or.inl rfl, by simp [Expr.children, compileList], by simp [Expr.children, compileList]⟩
  | obj => cases hu
  | min name cs =>
    obtain ⟨hall, _, _, h⟩ := min_rows hio hv hc hu
    exact ⟨(allOf h hall).1, (allOf h hall).2.1, fun _ => (allOf h hall).2.2⟩
  | max name cs =>
    obtain ⟨_, _, _, hi⟩ := max_pr ctx path name cs
    obtain ⟨h0, h1, hsum, _⟩ := max_rows hv hc
    refine ⟨fun _ => Or.inr ⟨_, hi, h0, h1⟩, fun hz => ?_, fun hm => nomatch hm⟩
    -- `Σ` indicators of the children `= maxInd = 0`, and an indicator variable is at most the indicator
    simp only [varInd, hu, hi, if_true] at hz
    refine sumBy_eq_zero _ _ (fun x hx => (hio x hx).bounds.1) ?_
    have := sumBy_nonneg _ _ fun x hx => (hio x hx).bounds.1
    have := sumBy_le_sumBy _ _ _ fun x hx => (hio x hx).varInd_le_indTerm
    rw [sumBy_map] at hsum
    simp only [Expr.children] at *
    omega
  | lt name a b =>
    obtain ⟨hua, hub⟩ := finishLt_util (by simpa only [compileNode] using hu)
    obtain ⟨_, _, _, _, h⟩ := lt_rows hn hv hc hua hub
    have := allOf (r := (compileNode ctx path (.lt name a b)).pr)
      (by simpa only [Expr.children, compileList, List.map_cons, List.map_nil] using h)
      (by simp [Expr.children, compileList, hua, hub])
    exact ⟨this.1, this.2.1, fun _ => this.2.2⟩
  | scale name f d c =>
    simp only [Expr.children, compileList, List.forall_mem_cons] at hio
    obtain ⟨hcu, _, _, h⟩ := finishScale_rows σ hio.1 (by simpa only [compileNode] using hu)
    have := allOf (r := (compileNode ctx path (.scale name f d c)).pr)
      (by simpa only [compileNode, Expr.children, compileList, List.map_cons, List.map_nil] using h)
      (by simp [Expr.children, compileList, hcu])
    exact ⟨this.1, this.2.1, fun _ => this.2.2⟩

/-- The node has nothing to report when it provides no utility, is unsatisfied (indicator
variable at 0), or has a constant indicator (it then contains no Choose leaf at all, see
`noStaticLt`). -/
def Quiet (σ : Assign) (r : PR) (pls : List Placement) : Prop := varInd σ r = 0 → pls = []

/-- The hypotheses of the structural theorems: the tree is accepted by the C++ constructors, no
`LessThan` in it is decided at compile time, and `σ` satisfies what it compiles to. -/
def Sound (ctx : Ctx) (σ : Assign) (path : Path) (e : Expr) : Prop :=
  (buildErr e = none ∧ noStaticLt ctx path e = true) ∧ VarsHold ctx σ path e ∧ ConsHold ctx σ path e

theorem sound_hereditary (ctx : Ctx) (σ : Assign) : Hereditary (Sound ctx σ) :=
  (buildErr_hereditary.and (noStaticLt_hereditary ctx)).and
    ((varsHold_hereditary ctx σ).and (consHold_hereditary ctx σ))

theorem node_quiet (ctx : Ctx) (σ : Assign) : ∀ (e : Expr) (path : Path), Sound ctx σ path e →
    IndOK σ (compileNode ctx path e).pr ∧
    Quiet σ (compileNode ctx path e).pr (populateNode ctx σ path e).placements := by
  refine Expr.induction (sound_hereditary ctx σ) fun path e ⟨⟨_, hn⟩, hv, hc⟩ ih => ?_
  have hio := (children_compileList ctx path (R := fun o => IndOK σ o.pr) _ 0).mp (ih.imp fun _ _ _ h => h.1)
  have hrows := node_rows hn hv hc hio
  refine ⟨fun hu => (hrows hu).1 hu, fun h0 => ?_⟩
  cases e with
  | choose name strategy parts n start dur u =>
    rw [choose_placements]
    rcases compileChoose_cases ctx path name strategy parts n start dur u with h | ⟨_, h⟩
    · simp [h, PR.none]
    · -- indicator 0: `utility · indicator = 0`
      simp only [compileNode, h, varInd, if_true] at h0
      simp [h0]
  | _ =>
    rw [placements_eq ctx σ path _ rfl]
    split
    · -- no indicator variable below is set, so the subtrees below report nothing
      rename_i hu
      refine mergeChildren_nil _ ((children_populateList ctx σ path (R := fun s => s.placements = []) _ 0).mp ?_)
      exact (ih.and ((children_compileList ctx path (R := fun o => varInd σ o.pr = 0) _ 0).mpr
        ((hrows hu).2.1 h0))).imp fun _ _ _ h => h.1.2 h.2
    · rfl

theorem children_indOK {ctx : Ctx} {σ : Assign} {path : Path} {e : Expr} (h : Sound ctx σ path e) :
    ∀ x ∈ compileList ctx path 0 e.children, IndOK σ x.2.pr :=
  (children_compileList ctx path (R := fun o => IndOK σ o.pr) _ 0).mp
    ((sound_hereditary ctx σ).children (fun e p h => (node_quiet ctx σ e p h).1) h)

/-- A satisfied `Min`, `LessThan` or `Scale` (utility and indicator 1) has its children satisfied. -/
theorem children_sat {ctx : Ctx} {σ : Assign} {path : Path} {e : Expr} (hs : Sound ctx σ path e)
    (hm : e.isMax = false) (hu : (compileNode ctx path e).pr.util = true)
    (h1 : indVal σ (compileNode ctx path e).pr = 1) :
    ∀ x ∈ compileList ctx path 0 e.children, x.2.pr.util = true ∧ indVal σ x.2.pr = 1 :=
  (node_rows hs.1.2 hs.2.1 hs.2.2 (children_indOK hs) hu).2.2 hm h1

end ErdosVerif.Strl
