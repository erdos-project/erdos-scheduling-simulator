/-
"A task belongs to at most one placed BatchTask" (from the `…_unique_batch_placement` rows and
the shape of the batch formation), and its consequence for the merge: every member of a placed
BatchTask is returned with exactly that BatchTask's placement.
-/
import ErdosVerif.Lemmas.IlpBatchDecode
namespace ErdosVerif.IlpBatch
open ErdosVerif.Mip ErdosVerif.Ilp

theorem le_maxL {l : List Int} {a : Int} (h : a ∈ l) : a ≤ maxL l :=
  le_of_max_eqs (fun _ => rfl) (fun _ _ _ => rfl) h

theorem minL_le {l : List Int} {a : Int} (h : a ∈ l) : minL l ≤ a :=
  le_of_min_eqs (fun _ => rfl) (fun _ _ _ => rfl) h

theorem release_le_bRelease {I : BInst} {b m : Nat} (hm : m ∈ I.members b) :
    (I.task m).release ≤ I.bRelease b :=
  le_maxL (List.mem_map.mpr ⟨m, hm, rfl⟩)

theorem bDeadline_le_deadline {I : BInst} {b m : Nat} (hm : m ∈ I.members b) :
    I.bDeadline b ≤ (I.task m).deadline :=
  minL_le (List.mem_map.mpr ⟨m, hm, rfl⟩)

theorem wfShared_spec {I : BInst} (h : I.wfShared = true) {a b m : Nat} (ha : a < I.nB) (hb : b < I.nB)
    (hab : a ≠ b) (hma : m ∈ I.members a) (hmb : m ∈ I.members b) :
    (I.batch a).fresh = true ∧ (I.batch b).fresh = true := by
  simp only [BInst.wfShared, List.all_eq_true, List.mem_range] at h
  have := h a ha b hb
  simp only [Bool.or_eq_true, beq_iff_eq, Bool.not_eq_true', Bool.and_eq_true] at this
  rcases this with (h1 | h1) | h1
  · exact absurd h1 hab
  · exfalso
    have : ((I.members a).any (fun m => (I.members b).contains m)) = true := by
      simp only [List.any_eq_true]
      exact ⟨m, hma, by simpa using hmb⟩
    rw [h1] at this; cases this
  · exact h1

/-- Two different BatchTasks that share a member are both fresh, and both count in the
`…_unique_batch_placement` row of that member. -/
theorem psum_add_le_one {I : BInst} {σ : Var → Int} (h : sat σ (genB I)) (hws : I.wfShared = true)
    {a b m : Nat} (ha : a < I.nB) (hb : b < I.nB) (hab : a ≠ b) (hm : m < I.nT)
    (hma : m ∈ I.members a) (hmb : m ∈ I.members b) : psum I σ a + psum I σ b ≤ 1 := by
  obtain ⟨hfa, hfb⟩ := wfShared_spec hws ha hb hab hma hmb
  have hina : a ∈ I.freshOf m := mem_freshOf.mpr ⟨ha, hfa, hma⟩
  have hinb : b ∈ I.freshOf m := mem_freshOf.mpr ⟨hb, hfb, hmb⟩
  have hrow := (rows h).unique m hm (List.ne_nil_of_mem hina)
  have := add_le_isum_map (f := psum I σ) (fun x hx => psum_nonneg h (mem_freshOf.mp hx).1) hina hinb hab
  omega

theorem at_most_one_placed_batch {I : BInst} {σ : Var → Int} (h : sat σ (genB I))
    (hws : I.wfShared = true) {a b m wa wb : Nat} (ha : a < I.nB) (hb : b < I.nB) (hab : a ≠ b)
    (hm : m < I.nT) (hma : m ∈ I.members a) (hmb : m ∈ I.members b)
    (hca : I.chosen σ a = some wa) (hcb : I.chosen σ b = some wb) : False := by
  have := psum_add_le_one h hws ha hb hab hm hma hmb
  have h1 := one_le_psum_of_chosen h ha hca
  have h2 := one_le_psum_of_chosen h hb hcb
  omega

/-- **Every member of a placed BatchTask gets the BatchTask's placement**: same BatchTask
(hence its `BatchStrategy`), same worker, same start. -/
theorem member_gets_batch_placement {I : BInst} {σ : Var → Int} (h : sat σ (genB I))
    (hws : I.wfShared = true) {b w m : Nat} (hb : b < I.nB) (hm : m < I.nT)
    (hmb : m ∈ I.members b) (hc : I.chosen σ b = some w) :
    (⟨m, some (b, w, σ (.start b))⟩ : BDecision) ∈ decodeB I σ := by
  have hbn : b ∈ I.nonRunning := mem_nonRunning.mpr ⟨hb, chosen_nonRunning hc⟩
  rw [decodeB_eq]
  refine MergeLoop.mem_mergeBy_of_unique (mem_rawPlacements.mpr ⟨b, hbn, m, hmb, by simp [hc]⟩) rfl
    fun e he ht hp => ?_
  -- another placed Placement of `m` would come from a second placed BatchTask holding `m`
  obtain ⟨b', hb', m', hm', rfl⟩ := mem_rawPlacements.mp he
  obtain rfl : m' = m := ht
  cases hc' : I.chosen σ b' with
  | none => rw [hc'] at hp; cases hp
  | some w' =>
    by_cases hbb : b' = b
    · subst hbb
      rw [hc] at hc'; cases hc'
      simp
    · exact absurd (at_most_one_placed_batch h hws (mem_nonRunning.mp hb').1 hb hbb hm hm' hmb hc' hc) id

end ErdosVerif.IlpBatch
