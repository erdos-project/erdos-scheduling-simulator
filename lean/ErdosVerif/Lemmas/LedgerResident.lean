import ErdosVerif.Lemmas.Ledger
import ErdosVerif.Lemmas.PoolOps
/-!
Residency: on which workers of a pool a task is placed. A successful
`WorkerPool.place_task` of a task that is resident nowhere in the pool makes it resident
on exactly one worker and changes the residency of no other task. Core Lean only.
-/
namespace ErdosVerif.Model

theorem AList.has_set {κ υ : Type} [DecidableEq κ] (l : AList κ υ) (k x : κ) (v : υ) :
    (l.set k v).has x = (decide (k = x) || l.has x) := by
  unfold AList.has
  rw [AList.get?_set]
  by_cases h : k = x <;> simp [h]

namespace Worker

theorem placeTask_placed (w : Worker) (t : Nat) (s : Strategy) :
    (w.placeTask t s).1.placed = if (w.placeTask t s).2 = .ok then w.placed.set t s else w.placed := by
  rcases placeTask_cases w t s with ⟨e, hne⟩ | ⟨_, _, _, _, e⟩ | ⟨_, _, _, e⟩ | ⟨_, _, _, _, e⟩ | ⟨_, _, _, e⟩
  · rw [e, if_neg hne]
  all_goals rw [e]; rfl

theorem placeTask_has (w : Worker) (t : Nat) (s : Strategy) (u : Nat) :
    (w.placeTask t s).1.placed.has u =
      (if (w.placeTask t s).2 = .ok then (decide (t = u) || w.placed.has u) else w.placed.has u) := by
  rw [placeTask_placed]; split <;> simp [AList.has_set]

end Worker

namespace Pool

def hostsOf (p : Pool) (t : Nat) : List Nat :=
  (List.range p.workers.length).filter (fun i =>
    match p.workers[i]? with
    | some w => w.placed.has t
    | none => false)

theorem hostsOf_setWorker (p : Pool) (i : Nat) (w w' : Worker) (u : Nat) (hi : p.workers[i]? = some w)
    (h : w'.placed.has u = w.placed.has u) : (p.setWorker i w').hostsOf u = p.hostsOf u := by
  unfold hostsOf setWorker
  simp only [List.length_set]
  apply List.filter_congr
  intro j hj
  by_cases hji : j = i
  · subst hji
    have hlt : j < p.workers.length := by simpa using hj
    obtain ⟨_, he⟩ := List.getElem?_eq_some_iff.mp hi
    simp [hlt, h, he]
  · have : i ≠ j := fun e => hji e.symm
    simp [this]

theorem filter_eq_range (n i : Nat) (h : i < n) : (List.range n).filter (fun j => decide (j = i)) = [i] := by
  induction n with
  | zero => omega
  | succ n ih =>
    rw [List.range_succ, List.filter_append]
    by_cases hi : i < n
    · rw [ih hi]
      have : n ≠ i := by omega
      simp [this]
    · have hin : i = n := by omega
      subst hin
      have : (List.range i).filter (fun j => decide (j = i)) = [] := by
        apply List.filter_eq_nil_iff.mpr
        intro a ha
        simp only [List.mem_range] at ha
        simp only [decide_eq_true_eq]
        omega
      simp [this]

theorem hostsOf_setWorker_new (p : Pool) (i : Nat) (w w' : Worker) (t : Nat) (hi : p.workers[i]? = some w)
    (hnone : ∀ x ∈ p.workers, x.placed.has t = false) (h : w'.placed.has t = true) :
    (p.setWorker i w').hostsOf t = [i] := by
  have hlt : i < p.workers.length := by
    rcases List.getElem?_eq_some_iff.mp hi with ⟨h, _⟩; exact h
  unfold hostsOf setWorker
  simp only [List.length_set]
  have : ∀ j ∈ List.range p.workers.length,
      (match (p.workers.set i w')[j]? with | some x => x.placed.has t | none => false) = decide (j = i) := by
    intro j hj
    by_cases hji : j = i
    · subst hji; simp [hlt, h]
    · have hne : i ≠ j := fun e => hji e.symm
      simp only [List.getElem?_set, hne, if_false, hji, decide_false]
      cases hw : p.workers[j]? with
      | none => rfl
      | some x => exact hnone x (List.mem_of_getElem? hw)
  rw [List.filter_congr this]
  exact filter_eq_range _ _ hlt

/-- **A task never draws resources from more than one worker of a pool.** -/
theorem placeTask_single_host (p : Pool) (t : Nat) (strats : List Strategy) (s? : Option Strategy) (wid? : Option Nat)
    (hnone : ∀ x ∈ p.workers, x.placed.has t = false)
    (hok : (p.placeTask t strats s? wid?).2 = .ok true) :
    (∃ i, (p.placeTask t strats s? wid?).1.hostsOf t = [i]) ∧
    ∀ u, u ≠ t → (p.placeTask t strats s? wid?).1.hostsOf u = p.hostsOf u := by
  rcases placeTask_cases p t strats s? wid? with ⟨_, hne, _⟩ | ⟨i, w, s, hw, _, _, ⟨hwok, e⟩ | ⟨_, _, e⟩⟩
  · exact absurd hok hne
  · have hw'u := fun u => Worker.placeTask_has w t s u
    simp only [hwok, if_true] at hw'u
    rw [e]
    -- `hostsOf` does not look at the pool's own `placed` map
    exact ⟨⟨i, hostsOf_setWorker_new p i w _ t hw hnone (by rw [hw'u t]; simp)⟩,
      fun u hu => hostsOf_setWorker p i w _ u hw (by rw [hw'u u]; simp [Ne.symm hu])⟩
  · rw [e] at hok; cases hok

end Pool
end ErdosVerif.Model
