import ErdosVerif.Lemmas.LedgerByName
/-!
A shallow copy has the same occupancy per resource type as the original.
-/
namespace ErdosVerif.Model

theorem pairsByName_append (l₁ l₂ : List (Res × Nat)) (n : String) :
    pairsByName (l₁ ++ l₂) n = pairsByName l₁ n + pairsByName l₂ n := by
  induction l₁ with
  | nil => simp [pairsByName]
  | cons p t ih => obtain ⟨r, q⟩ := p; simp only [List.cons_append, pairsByName, ih]; omega

theorem allocByName_set (a : AList Comp (List (Res × Nat))) (c : Comp) (l : List (Res × Nat)) (n : String) :
    allocByName (AList.set a c l) n + pairsByName ((AList.get? a c).getD []) n
      = allocByName a n + pairsByName l n := by
  induction a with
  | nil => simp [AList.set, AList.get?, allocByName, pairsByName]
  | cons p t ih =>
    obtain ⟨c', l'⟩ := p
    simp only [AList.set, AList.get?]
    by_cases h : c' = c
    · simp [h, allocByName]; omega
    · simp only [h, if_false, allocByName]; omega

theorem allocByName_record (a : AList Comp (List (Res × Nat))) (c : Comp) (rec : List (Res × Nat)) (n : String) :
    allocByName (Resources.record a c rec) n = allocByName a n + pairsByName rec n := by
  unfold Resources.record
  have := allocByName_set a c ((AList.get? a c).getD [] ++ rec) n
  rw [pairsByName_append] at this
  omega

namespace Resources

theorem allocate_total (r : Resources) (k : Res) (c : Comp) (q : Nat) :
    (r.allocate k c q).1.total = r.total := by
  unfold allocate; split <;> rfl

theorem allocate_allocByName (r : Resources) (k : Res) (c : Comp) (q : Nat) (n : String)
    (hok : (r.allocate k c q).2 = .ok) :
    allocByName (r.allocate k c q).1.allocs n = allocByName r.allocs n + (if k.name = n then q else 0) := by
  unfold allocate at hok ⊢
  split
  · rename_i hlt; simp [hlt] at hok
  · rename_i hge
    simp only [allocByName_record, scan_total_byName]
    have := scan_total k r.avail q (by unfold availQ at hge; omega)
    rw [this]

theorem replayPairs_spec (inst : Resources) (c : Comp) (l : List (Res × Nat)) (n : String)
    (hok : (replayPairs inst c l).2 = .ok) :
    (replayPairs inst c l).1.total = inst.total ∧
    allocByName (replayPairs inst c l).1.allocs n = allocByName inst.allocs n + pairsByName l n := by
  fun_induction replayPairs inst c l with
  | case1 => simp [pairsByName]
  | case2 inst k q rest i' hres ih =>
    have ht := allocate_total inst k c q
    have h1 := allocate_allocByName inst k c q n (by rw [hres])
    rw [hres] at ht h1
    obtain ⟨i1, i2⟩ := ih hok
    refine ⟨i1.trans ht, ?_⟩
    rw [i2, h1]; simp only [pairsByName]; omega
  | case3 inst k q rest i' e hne hres => exact absurd hok hne

theorem replayAll_spec (inst : Resources) (a : AList Comp (List (Res × Nat))) (n : String)
    (hok : (replayAll inst a).2 = .ok) :
    (replayAll inst a).1.total = inst.total ∧
    allocByName (replayAll inst a).1.allocs n = allocByName inst.allocs n + allocByName a n := by
  fun_induction replayAll inst a with
  | case1 => simp [allocByName]
  | case2 inst c l rest i' hres ih =>
    have h1 := replayPairs_spec { inst with allocs := record inst.allocs c [] } c l n (by rw [hres])
    rw [hres] at h1
    simp only [allocByName_record, pairsByName] at h1
    obtain ⟨i1, i2⟩ := ih hok
    refine ⟨i1.trans h1.1, ?_⟩
    rw [i2, h1.2]; simp only [allocByName]; omega
  | case3 inst c l rest i' e hne hres => exact absurd hok hne

theorem copy_same_occupancy (r r' : Resources) (h : r.Inv) (hc : r.copy = (r', .ok)) (n : String) :
    r'.total = r.total ∧ byName r'.avail n = byName r.avail n := by
  have e : replayAll (ofVec r.total) r.allocs = (r', .ok) := hc
  have hs := replayAll_spec (ofVec r.total) r.allocs n (by rw [e])
  rw [e] at hs
  simp only [ofVec, allocByName, Nat.zero_add] at hs
  -- both ledgers conserve each type, over equal totals and equal allocations
  have c1 := conserve_byName r h n
  have c2 := conserve_byName r' (.of_fst hc (inv_copy r h)) n
  rw [hs.1] at c2
  exact ⟨hs.1, by omega⟩

end Resources
end ErdosVerif.Model
