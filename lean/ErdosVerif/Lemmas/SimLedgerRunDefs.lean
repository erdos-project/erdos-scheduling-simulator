import ErdosVerif.Lemmas.LedgerCopy
import ErdosVerif.Lemmas.LedgerResident
import ErdosVerif.Lemmas.SimAux
/-!
What a worker's ledger holds — "held iff resident, and each resident holds the demand of the
strategy it was placed with" — as an invariant `Worker.TOK` of the worker record, and the
effects on the record that keep it: one lemma per kind of effect (`placeNB`, `placeB`, `remove`,
`load`, `evict`), stated over the fields of the record. Which worker operation has which effect is
shown in `SimLedgerRunBatch`, together with the batch half `Worker.BOK` of the invariant.
-/
namespace ErdosVerif.Model

section
variable {κ υ : Type} [DecidableEq κ]

theorem AList.lr_nodup_erase (l : AList κ υ) (k : κ) (h : (AList.keys l).Nodup) : (AList.keys (AList.erase l k)).Nodup := by
  rw [AList.keys_erase]; exact h.erase _

theorem AList.lr_get?_erase (l : AList κ υ) (k x : κ) (h : (AList.keys l).Nodup) :
    AList.get? (AList.erase l k) x = if k = x then none else AList.get? l x := by
  by_cases e : k = x
  · subst e
    simp only [if_true]
    apply AList.get?_eq_none_of_not_mem
    rw [AList.keys_erase]
    intro hm
    exact (List.Nodup.mem_erase_iff h).mp hm |>.1 rfl
  · simp only [e, if_false]
    exact AList.get?_erase_ne l k x e

theorem AList.lr_has_erase_ne (l : AList κ υ) (k x : κ) (h : k ≠ x) : (AList.erase l k).has x = l.has x := by
  unfold AList.has; rw [AList.get?_erase_ne l k x h]

theorem AList.lr_has_iff_mem (l : AList κ υ) (x : κ) : l.has x = true ↔ x ∈ AList.keys l := by
  rw [AList.mem_keys_iff, AList.has, Option.isSome_iff_exists]

end

/-- The recorded pairs `l` hold, per resource type, exactly the demand `req`. -/
def Amt (l : List (Res × Nat)) (req : Vec) : Prop := ∀ n, pairsByName l n = byName req n

theorem Amt.nil : Amt [] [] := fun _ => rfl

namespace Resources

theorem lr_allocateEach_ok (r : Resources) (c : Comp) (req : Vec) (hnd : (AList.keys r.avail).Nodup)
    (l : List (Res × Nat)) (hl : AList.get? r.allocs c = some l) (hok : (r.allocateEach c req).2 = .ok) :
    ∃ recs, Ext c r (r.allocateEach c req).1 recs ∧ Amt recs req := by
  induction req generalizing r l with
  | nil => exact ⟨[], Ext.refl c r l hl, Amt.nil⟩
  | cons p rest ih =>
    obtain ⟨k, q⟩ := p
    simp only [allocateEach] at hok ⊢
    cases hres : r.allocate k c q with
    | mk r' o =>
      rw [hres] at hok
      cases o with
      | ok =>
        simp only at hok ⊢
        have hok1 : (r.allocate k c q).2 = .ok := by rw [hres]
        have e1 := ext_allocate r k c q hnd hok1
        rw [hres] at e1
        have hnd' : (AList.keys r'.avail).Nodup := e1.keys ▸ hnd
        have hl' : AList.get? r'.allocs c = some (l ++ (scan k r.avail q).2) := by
          rw [e1.allocs, AList.get?_set_self, hl]; rfl
        obtain ⟨recs, e2, hamt⟩ := ih r' hnd' _ hl' hok
        refine ⟨_, e1.trans e2, ?_⟩
        intro n
        rw [pairsByName_append, hamt n, scan_total_byName]
        have hge : q ≤ sumMatching k r.avail := by
          unfold allocate at hok1
          split at hok1
          · simp at hok1
          · rename_i hge; unfold availQ at hge; omega
        rw [scan_total k r.avail q hge]
        simp only [byName]
      | raised e => simp at hok

theorem lr_allocateMultiple_ok {r r' : Resources} {req : Vec} {c : Comp} (h : r.Inv)
    (hok : r.allocateMultiple req c = (r', .ok)) :
    ∃ recs, r'.allocs = AList.set r.allocs c ((AList.get? r.allocs c).getD [] ++ recs) ∧ Amt recs req := by
  unfold allocateMultiple at hok
  by_cases hchk : r.checkAll req = true
  · simp only [hchk, if_true] at hok
    have hnd : (AList.keys r.avail).Nodup := h.keys_eq ▸ h.nodup
    have hl0 : AList.get? (record r.allocs c []) c = some ((AList.get? r.allocs c).getD []) := by
      simp [record, AList.get?_set_self]
    cases hres : allocateEach { r with allocs := record r.allocs c [] } c req with
    | mk r1 o =>
      rw [hres] at hok
      cases o with
      | raised err => simp at hok
      | ok =>
        obtain ⟨recs, e, hamt⟩ := lr_allocateEach_ok { r with allocs := record r.allocs c [] } c req hnd _ hl0
          (by rw [hres])
        rw [hres] at e
        cases hok
        refine ⟨recs, ?_, hamt⟩
        rw [e.allocs]
        simp only [hl0, Option.getD_some]
        simp only [record, AList.set_set]
  · simp [hchk] at hok

end Resources

/-- **Held iff resident, with amounts (non-batch tasks)**: the ledger entries keyed by a task
are exactly the residents placed with a non-batch strategy, each holds (per resource type) the
demand of the strategy the task was placed with; the placeholder of a batch is a `.batch`
computation; every profile entry belongs to a profile that is loaded or loading. -/
structure Worker.TOK (w : Worker) : Prop where
  rinv : w.res.Inv
  anodup : (AList.keys w.res.allocs).Nodup
  pnodup : (AList.keys w.placed).Nodup
  taskHeld : ∀ t s, AList.get? w.placed t = some s → s.isBatch = false →
    ∃ l, AList.get? w.res.allocs (.task t) = some l ∧ Amt l s.req
  heldTask : ∀ t l, AList.get? w.res.allocs (.task t) = some l → ∃ s, AList.get? w.placed t = some s ∧ s.isBatch = false
  btKind : ∀ sid c, (sid, c) ∈ w.batchTask → ∃ g, c = .batch g
  heldProf : ∀ p l, AList.get? w.res.allocs (.profile p) = some l → w.availProf.has p = true ∨ w.pendProf.has p = true

theorem lr_batch_upd {a a' : AList Comp (List (Res × Nat))} (hn : (AList.keys a).Nodup)
    (h : a' = a ∨ (∃ g l, a' = AList.set a (.batch g) l) ∨ ∃ g, a' = AList.erase a (.batch g)) :
    (AList.keys a').Nodup ∧ ∀ c, (∀ g, c ≠ .batch g) → AList.get? a' c = AList.get? a c := by
  rcases h with h | ⟨g, l, h⟩ | ⟨g, h⟩ <;> subst h
  · exact ⟨hn, fun _ _ => rfl⟩
  · exact ⟨AList.nodup_set _ _ _ hn, fun c hc => by rw [AList.get?_set, if_neg (fun e => hc g e.symm)]⟩
  · exact ⟨AList.lr_nodup_erase _ _ hn, fun c hc => AList.get?_erase_ne _ _ _ (fun e => hc g e.symm)⟩

namespace Worker.TOK

variable {w w' : Worker}

theorem not_held {t : Nat} (h : w.TOK) (hn : t ∉ AList.keys w.placed) : AList.get? w.res.allocs (.task t) = none := by
  cases hg : AList.get? w.res.allocs (.task t) with
  | none => rfl
  | some l =>
    obtain ⟨s0, h0, _⟩ := h.heldTask t l hg
    exact absurd (AList.mem_keys_of_get?_some _ _ _ h0) hn

/-- The invariant reads only the task and profile entries of the ledger, the non-batch residents and
the two profile maps: batch residents, `.batch` entries and placeholders may change freely. -/
theorem agree (h : w.TOK) (hinv : w'.res.Inv) (hna : (AList.keys w'.res.allocs).Nodup)
    (hnp : (AList.keys w'.placed).Nodup)
    (ha : ∀ c, (∀ g, c ≠ .batch g) → AList.get? w'.res.allocs c = AList.get? w.res.allocs c)
    (hp : ∀ u su, su.isBatch = false → (AList.get? w'.placed u = some su ↔ AList.get? w.placed u = some su))
    (hbt : ∀ sid c, (sid, c) ∈ w'.batchTask → ∃ g, c = .batch g)
    (hpr : ∀ p, w.availProf.has p = true ∨ w.pendProf.has p = true →
      w'.availProf.has p = true ∨ w'.pendProf.has p = true) : w'.TOK where
  rinv := hinv
  anodup := hna
  pnodup := hnp
  taskHeld t s hs hb := by rw [ha _ (by simp)]; exact h.taskHeld t s ((hp t s hb).mp hs) hb
  heldTask t l hl := by
    rw [ha _ (by simp)] at hl
    obtain ⟨s, hs, hb⟩ := h.heldTask t l hl
    exact ⟨s, (hp t s hb).mpr hs, hb⟩
  btKind := hbt
  heldProf p l hl := hpr p (h.heldProf p l (by rw [ha _ (by simp)] at hl; exact hl))

theorem placeNB {t : Nat} {s : Strategy} {recs : List (Res × Nat)} (h : w.TOK) (hn : t ∉ AList.keys w.placed)
    (hs : s.isBatch = false) (hinv : w'.res.Inv)
    (ha : w'.res.allocs = AList.set w.res.allocs (.task t) ((AList.get? w.res.allocs (.task t)).getD [] ++ recs))
    (hamt : Amt recs s.req) (hp : w'.placed = AList.set w.placed t s) (hbt : w'.batchTask = w.batchTask)
    (hav : w'.availProf = w.availProf) (hpe : w'.pendProf = w.pendProf) : w'.TOK := by
  rw [h.not_held hn] at ha
  refine ⟨hinv, ha ▸ AList.nodup_set _ _ _ h.anodup, hp ▸ AList.nodup_set _ _ _ h.pnodup, ?_, ?_,
    hbt ▸ h.btKind, ?_⟩
  · intro u su hu hb
    have := h.taskHeld u su
    grind [AList.get?_set]
  · intro u l hu
    have := h.heldTask u l
    grind [AList.get?_set]
  · intro p l hu
    have := h.heldProf p l
    grind [AList.get?_set]

theorem placeB {t : Nat} {s : Strategy} (h : w.TOK) (hn : t ∉ AList.keys w.placed) (hs : s.isBatch = true)
    (hinv : w'.res.Inv)
    (ha : w'.res.allocs = w.res.allocs ∨ ∃ g l, w'.res.allocs = AList.set w.res.allocs (.batch g) l)
    (hp : w'.placed = AList.set w.placed t s)
    (hbt : w'.batchTask = w.batchTask ∨ ∃ sid g, w'.batchTask = AList.set w.batchTask sid (.batch g))
    (hav : w'.availProf = w.availProf) (hpe : w'.pendProf = w.pendProf) : w'.TOK := by
  obtain ⟨hna, hget⟩ := lr_batch_upd h.anodup (ha.imp_right Or.inl)
  refine h.agree hinv hna (hp ▸ AList.nodup_set _ _ _ h.pnodup) hget ?_ ?_ (by rw [hav, hpe]; exact fun _ => id)
  · intro u su hb
    have := AList.mem_keys_of_get?_some w.placed t su
    grind [AList.get?_set]
  · intro sid c hc
    rcases hbt with hbt | ⟨sid0, g, hbt⟩ <;> rw [hbt] at hc
    · exact h.btKind sid c hc
    · rcases AList.mem_set _ _ _ _ hc with e | e
      · exact ⟨g, (Prod.mk.inj e).2⟩
      · exact h.btKind sid c e

theorem remove {t : Nat} {s : Strategy} (h : w.TOK) (hg : AList.get? w.placed t = some s) (hinv : w'.res.Inv)
    (ha : (s.isBatch = false ∧ w'.res.allocs = AList.erase w.res.allocs (.task t)) ∨
          (s.isBatch = true ∧ (w'.res.allocs = w.res.allocs ∨ ∃ g, w'.res.allocs = AList.erase w.res.allocs (.batch g))))
    (hp : w'.placed = AList.erase w.placed t)
    (hbt : w'.batchTask = w.batchTask ∨ ∃ sid, w'.batchTask = AList.erase w.batchTask sid)
    (hav : w'.availProf = w.availProf) (hpe : w'.pendProf = w.pendProf) : w'.TOK := by
  have hnp := hp ▸ AList.lr_nodup_erase _ t h.pnodup
  have hbk : ∀ sid c, (sid, c) ∈ w'.batchTask → ∃ g, c = .batch g := by
    intro sid c hc
    rcases hbt with hbt | ⟨sid0, hbt⟩ <;> rw [hbt] at hc
    · exact h.btKind sid c hc
    · exact h.btKind sid c (AList.mem_erase _ _ _ hc)
  rcases ha with ⟨hb, ha⟩ | ⟨hb, ha⟩
  · refine ⟨hinv, ha ▸ AList.lr_nodup_erase _ _ h.anodup, hnp, ?_, ?_, hbk, ?_⟩
    · intro u su hu hb
      have := h.taskHeld u su
      grind [AList.lr_get?_erase, h.pnodup, h.anodup]
    · intro u l hu
      have := h.heldTask u l
      grind [AList.lr_get?_erase, h.pnodup, h.anodup]
    · intro p l hu
      have := h.heldProf p l
      grind [AList.lr_get?_erase, h.anodup]
  · obtain ⟨hna, hget⟩ := lr_batch_upd h.anodup (ha.imp_right Or.inr)
    refine h.agree hinv hna hnp hget ?_ hbk (by rw [hav, hpe]; exact fun _ => id)
    intro u su hsb
    grind [AList.lr_get?_erase, h.pnodup]

theorem load {p : Nat} {s : Strategy} {l0 : List (Res × Nat)} (h : w.TOK) (hinv : w'.res.Inv)
    (ha : w'.res.allocs = AList.set w.res.allocs (.profile p) l0)
    (hp : w'.placed = w.placed) (hbt : w'.batchTask = w.batchTask)
    (hav : w'.availProf = w.availProf) (hpe : w'.pendProf = AList.set w.pendProf p s) : w'.TOK := by
  refine ⟨hinv, ha ▸ AList.nodup_set _ _ _ h.anodup, hp ▸ h.pnodup, ?_, ?_, hbt ▸ h.btKind, ?_⟩
  · intro u su hu hb
    have := h.taskHeld u su
    grind [AList.get?_set]
  · intro u l hu
    have := h.heldTask u l
    grind [AList.get?_set]
  · intro q l hu
    have := h.heldProf q l
    grind [AList.get?_set, AList.has_set]

theorem evict {p : Nat} (h : w.TOK) (hinv : w'.res.Inv)
    (ha : w'.res.allocs = AList.erase w.res.allocs (.profile p))
    (hp : w'.placed = w.placed) (hbt : w'.batchTask = w.batchTask)
    (hav : w'.availProf = w.availProf ∨ w'.availProf = AList.erase w.availProf p)
    (hpe : w'.pendProf = w.pendProf ∨ w'.pendProf = AList.erase w.pendProf p) : w'.TOK := by
  refine ⟨hinv, ha ▸ AList.lr_nodup_erase _ _ h.anodup, hp ▸ h.pnodup, ?_, ?_, hbt ▸ h.btKind, ?_⟩
  · intro u su hu hb
    have := h.taskHeld u su
    grind [AList.get?_erase_ne]
  · intro u l hu
    have := h.heldTask u l
    grind [AList.get?_erase_ne]
  · intro q l hu
    have := h.heldProf q l
    grind [AList.lr_get?_erase, AList.lr_has_erase_ne, h.anodup]

end Worker.TOK

theorem Resources.lr_deallocate_ok {r r' : Resources} {c : Comp} (h : r.deallocate c = (r', .ok)) :
    r'.allocs = AList.erase r.allocs c := by
  unfold deallocate at h
  split at h <;> cases h
  rfl

namespace Worker

theorem lr_foldl_set_has (done : List (Nat × Strategy)) (f : Strategy → Strategy) (a : AList Nat Strategy) (p : Nat) :
    (done.foldl (fun a q => a.set q.1 (f q.2)) a).has p = (a.has p || done.any (fun q => q.1 == p)) := by
  induction done generalizing a with
  | nil => simp
  | cons q rest ih =>
    simp only [List.foldl_cons, ih, AList.has_set, List.any_cons]
    by_cases e : q.1 = p <;> simp [e, Bool.or_comm, Bool.or_left_comm]

theorem lr_has_true_iff (l : AList Nat Strategy) (p : Nat) : l.has p = true ↔ ∃ s, (p, s) ∈ l := by
  constructor
  · intro h
    unfold AList.has at h
    cases hg : AList.get? l p with
    | none => simp [hg] at h
    | some v => exact ⟨v, AList.mem_of_get?_some _ _ _ hg⟩
  · intro ⟨s, hs⟩
    rw [AList.lr_has_iff_mem]
    exact List.mem_map.mpr ⟨(p, s), hs, rfl⟩

/-- A loading profile stays loading or becomes loaded. -/
theorem lr_stepProfiles (w : Worker) (dt : Int) (h : w.TOK) : (w.stepProfiles dt).TOK := by
  refine h.agree (w' := w.stepProfiles dt) h.rinv h.anodup h.pnodup (fun _ _ => rfl) (fun _ _ _ => Iff.rfl) h.btKind ?_
  intro p hp
  simp only [stepProfiles]
  rw [lr_foldl_set_has _ (fun s => { s with runtime := 0 })]
  rcases hp with hp | hp
  · left; simp [hp]
  · obtain ⟨s, hs⟩ := (lr_has_true_iff _ _).mp hp
    by_cases hd : s.runtime - dt ≤ 0
    · left
      rw [Bool.or_eq_true]; right
      rw [List.any_eq_true]
      exact ⟨(p, s), List.mem_filter.mpr ⟨hs, by simpa using hd⟩, by simp⟩
    · right
      rw [lr_has_true_iff]
      refine ⟨{ s with runtime := s.runtime - dt }, ?_⟩
      rw [List.mem_map]
      exact ⟨(p, s), List.mem_filter.mpr ⟨hs, by simpa using hd⟩, rfl⟩

end Worker

end ErdosVerif.Model
