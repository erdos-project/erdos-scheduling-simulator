import ErdosVerif.Lemmas.CancelClosure
import ErdosVerif.Lemmas.TaskLegal
/-!
The per-graph invariant behind C02: a task that has started (is RUNNING, or
finished) was released no later than it started, and its predecessors are done
(all of them; for a terminal / join task at least one). Because COMPLETED and
EVICTED are final, "the predecessors are done now" is the same as "they were done
when the task started".
-/
namespace ErdosVerif.Model

def TaskS.started (t : TaskS) : Bool :=
  t.state == .running || t.state == .evicted || t.state == .completed

namespace GraphS

/-- What `is_ready_to_run` demands of the predecessors. -/
def parentsOK (g : GraphS) (n : Nat) (t : TaskS) : Bool :=
  if t.terminal then (g.pars n).any g.completeOf else (g.pars n).all g.completeOf

structure GInv (g : GraphS) : Prop where
  preOK : ∀ n t, g.task? n = some t → t.PreOK
  noPreempt : ∀ n t, g.task? n = some t → t.state ≠ .preempted   -- preemption is outside the simulator model
  started : ∀ n t, g.task? n = some t → t.started = true → t.release ≤ t.start ∧ g.parentsOK n t = true

def Fresh (g : GraphS) : Prop := ∀ n t, g.task? n = some t → t.state = .virtual ∧ t.pre = .virtual

theorem ginv_of_fresh (g : GraphS) (h : g.Fresh) : g.GInv :=
  ⟨fun n t ht => Or.inl (h n t ht).2, fun n t ht => by simp [(h n t ht).1],
   fun n t ht hs => by simp [TaskS.started, (h n t ht).1] at hs⟩

/-- Instantiating a pristine template (new name, release times, deadline) gives a pristine graph. -/
theorem Fresh.instantiate {g0 : GraphS} (h : g0.Fresh) (nm : String) (f : Nat → TaskS → TaskS)
    (hf : ∀ i t, (f i t).state = t.state ∧ (f i t).pre = t.pre) :
    ({ g0 with name := nm, tasks := g0.tasks.mapIdx f } : GraphS).Fresh := by
  intro n t ht
  simp only [GraphS.task?, Array.getElem?_mapIdx] at ht
  cases hx : g0.tasks[n]? with
  | none => simp [hx] at ht
  | some x =>
    simp only [hx, Option.map_some, Option.some.injEq] at ht
    subst ht
    obtain ⟨h1, h2⟩ := hf n x
    obtain ⟨i1, i2⟩ := h n x (by simpa [GraphS.task?] using hx)
    exact ⟨by rw [h1]; exact i1, by rw [h2]; exact i2⟩

/-- A harmless change of one task: it does not start it, keeps what a started task's
invariant mentions, and does not un-complete it. -/
structure Benign (t t' : TaskS) : Prop where
  pre : t'.PreOK
  noPreempt : t'.state ≠ .preempted
  terminal : t'.terminal = t.terminal
  complete : t.isComplete = true → t'.isComplete = true
  started : t'.started = true → t.started = true ∧ t'.release = t.release ∧ t'.start = t.start

theorem completeOf_setTask_mono (g : GraphS) (n : Nat) (t t' : TaskS) (ht : g.task? n = some t)
    (hc : t.isComplete = true → t'.isComplete = true) (p : Nat) (h : g.completeOf p = true) :
    (g.setTask n t').completeOf p = true := by
  simp only [completeOf, task?_setTask_of g ht]
  by_cases hp : p = n
  · subst hp
    simp only [if_true, Option.map_some, Option.getD_some]
    exact hc (by simpa [completeOf, ht] using h)
  · simpa [completeOf, hp] using h

theorem parentsOK_mono (g g' : GraphS) (n : Nat) (t t' : TaskS) (hterm : t'.terminal = t.terminal)
    (hpars : g'.pars n = g.pars n) (hmono : ∀ p, g.completeOf p = true → g'.completeOf p = true)
    (h : g.parentsOK n t = true) : g'.parentsOK n t' = true := by
  unfold parentsOK at h ⊢
  rw [hterm, hpars]
  split at h
  · next ht =>
    simp only [ht, if_true]
    rw [List.any_eq_true] at h ⊢
    obtain ⟨p, hp, hc⟩ := h
    exact ⟨p, hp, hmono p hc⟩
  · next ht =>
    simp only [ht, Bool.false_eq_true, if_false]
    rw [List.all_eq_true] at h ⊢
    exact fun p hp => hmono p (h p hp)

theorem ginv_setTask_of (g : GraphS) (n : Nat) (t t' : TaskS) (hg : g.GInv) (ht : g.task? n = some t)
    (hpre : t'.PreOK) (hnp : t'.state ≠ .preempted) (hterm : t'.terminal = t.terminal)
    (hcomp : t.isComplete = true → t'.isComplete = true)
    (hstart : t'.started = true → t'.release ≤ t'.start ∧ g.parentsOK n t = true) :
    (g.setTask n t').GInv := by
  have hmono := completeOf_setTask_mono g n t t' ht hcomp
  have hget : ∀ k x, (g.setTask n t').task? k = some x → (k = n ∧ x = t') ∨ g.task? k = some x := by
    intro k x hx
    rw [task?_setTask_of g ht] at hx
    split at hx
    · next hk => exact .inl ⟨hk, (Option.some.inj hx).symm⟩
    · exact .inr hx
  refine ⟨fun k x hx => ?_, fun k x hx => ?_, fun k x hx hs => ?_⟩
  · rcases hget k x hx with ⟨_, rfl⟩ | h2
    · exact hpre
    · exact hg.preOK k x h2
  · rcases hget k x hx with ⟨_, rfl⟩ | h2
    · exact hnp
    · exact hg.noPreempt k x h2
  · -- the parents that were complete still are
    rcases hget k x hx with ⟨rfl, rfl⟩ | h2
    · obtain ⟨i1, i2⟩ := hstart hs
      exact ⟨i1, parentsOK_mono g _ k t x hterm rfl hmono i2⟩
    · obtain ⟨i1, i2⟩ := hg.started k x h2 hs
      exact ⟨i1, parentsOK_mono g _ k x x rfl rfl hmono i2⟩

theorem ginv_setTask (g : GraphS) (n : Nat) (t t' : TaskS) (hg : g.GInv) (ht : g.task? n = some t)
    (hb : Benign t t') : (g.setTask n t').GInv :=
  ginv_setTask_of g n t t' hg ht hb.pre hb.noPreempt hb.terminal hb.complete fun hs => by
    obtain ⟨h1, h2, h3⟩ := hb.started hs
    obtain ⟨i1, i2⟩ := hg.started n t ht h1
    exact ⟨by rw [h2, h3]; exact i1, i2⟩

theorem benign_refl (t : TaskS) (h : t.PreOK) (hn : t.state ≠ .preempted) : Benign t t :=
  ⟨h, hn, rfl, fun hc => hc, fun hs => ⟨hs, rfl, rfl⟩⟩

theorem benign_prob (t : TaskS) (p : Int) (h : t.PreOK) (hn : t.state ≠ .preempted) :
    Benign t { t with prob := p } :=
  ⟨h, hn, rfl, fun hc => hc, fun hs => ⟨hs, rfl, rfl⟩⟩

/-- Every API call except `start` and `preempt` is benign (on a task that is not PREEMPTED):
the life cycle has no step out of a finished state and, `start` apart, none into a started
state from one that is not; the release and start times of a started task are not assigned. -/
theorem benign_call (t : TaskS) (c : TaskCall) (h : t.PreOK) (hn : t.state ≠ .preempted) (hc : c.isBenign = true) :
    Benign t (t.call c).1 := by
  obtain ⟨hpre, hstep⟩ := call_ok t c h
  have hstate : (t.call c).1.state = t.state ∨ (Legal t.state (t.call c).1.state = true ∧
      (t.call c).1.state ≠ .running ∧ (t.call c).1.state ≠ .preempted) :=
    hstep.elim (fun e => .inl e.symm) fun ⟨hl, ht⟩ => .inr ⟨hl, TaskCall.target_benign hc ht⟩
  obtain ⟨hterm, hstart, hrel⟩ := call_frame t c
  refine ⟨hpre, ?_, hterm, fun hcomp => ?_, fun hs => ⟨?_, ?_, hstart hc⟩⟩
  · rcases hstate with e | ⟨_, _, h2⟩
    · rw [e]; exact hn
    · exact h2
  · rcases hstate with e | ⟨hl, _⟩
    · simpa [TaskS.isComplete, e] using hcomp
    · have : t.state = .evicted ∨ t.state = .completed := by simpa [TaskS.isComplete] using hcomp
      rw [legal_final (this.imp_right .inl)] at hl
      cases hl
  · rcases hstate with e | ⟨hl, h1, _⟩
    · simpa [TaskS.started, e] using hs
    · have hs' : (t.call c).1.state = .evicted ∨ (t.call c).1.state = .completed := by
        simpa [TaskS.started, h1] using hs
      simp [TaskS.started, (legal_finished hl hs').resolve_right hn]
  · rcases hrel with e | e | e | e
    · exact e
    all_goals simp [TaskS.started, e] at hs

theorem ginv_call {g : GraphS} {n : Nat} {t : TaskS} {c : TaskCall} (hg : g.GInv) (ht : g.task? n = some t)
    (hc : c.isBenign = true) : (g.setTask n (t.call c).1).GInv :=
  ginv_setTask g n t _ hg ht (benign_call t c (hg.preOK n t ht) (hg.noPreempt n t ht) hc)

/-- **Starting a task that is ready to run keeps the invariant**: the start time is not
before the release (the `assert` of `Task.start`) and the predecessors are done
(`is_ready_to_run`). -/
theorem ginv_start (g : GraphS) (n : Nat) (t : TaskS) (time fuzzed : Int) (hg : g.GInv)
    (ht : g.task? n = some t) (hready : g.isReadyToRun n = true) :
    (g.setTask n (t.doStart time fuzzed).1).GInv := by
  have hp := hg.preOK n t ht
  simp only [isReadyToRun, ht, Bool.and_eq_true, Bool.or_eq_true, beq_iff_eq] at hready
  have hs : t.state = .scheduled := hready.2.resolve_right (hg.noPreempt n t ht)
  have hpok : g.parentsOK n t = true := by
    unfold parentsOK
    split <;> simp_all [List.any_map, List.all_map]
  -- `start` is refused, or fails its assertion with only the start time assigned (the task
  -- stays SCHEDULED), or leaves the task RUNNING with `start = time ≥ release`
  have key : (t.doStart time fuzzed).1.pre = t.pre ∧ (t.doStart time fuzzed).1.terminal = t.terminal ∧
      ((t.doStart time fuzzed).1.state = .scheduled ∨
       ((t.doStart time fuzzed).1.state = .running ∧
        (t.doStart time fuzzed).1.release ≤ (t.doStart time fuzzed).1.start)) := by
    rcases TaskS.doStart_cases t time fuzzed with ⟨e, _⟩ | ⟨_, ⟨_, e⟩ | ⟨hge, _, e⟩ | ⟨hge, _, e⟩⟩ <;> rw [e]
    · exact ⟨rfl, rfl, .inl hs⟩
    · exact ⟨rfl, rfl, .inl hs⟩
    · exact ⟨rfl, rfl, .inr ⟨rfl, hge⟩⟩
    · exact ⟨rfl, rfl, .inr ⟨rfl, hge⟩⟩
  obtain ⟨k1, k2, k3⟩ := key
  refine ginv_setTask_of g n t _ hg ht (by simpa [TaskS.PreOK, k1] using hp) ?_ k2
    (fun hc => by simp [TaskS.isComplete, hs] at hc) (fun hst => ?_)
  · rcases k3 with h | ⟨h, _⟩ <;> simp [h]
  · rcases k3 with h | ⟨_, h⟩
    · simp [TaskS.started, h] at hst
    · exact ⟨h, hpok⟩

/-- Both writes of an `Edit` are benign: `Task.cancel`, and a new `prob`. -/
theorem Edit.ginv {time : Int} {skip : Option Nat} {g g' : GraphS} {l : List Nat}
    (h : Edit time skip g l g') (hg : g.GInv) : g'.GInv := by
  induction h with
  | refl => exact hg
  | cancel _ htc hdc ih =>
    have := ginv_call ih htc (c := .cancel time) rfl
    rwa [TaskS.call, hdc] at this
  | @prob g' _ c tc _ _ htc ih =>
    exact ginv_setTask g' c tc _ ih htc (benign_prob tc 1000 (ih.preOK c tc htc) (ih.noPreempt c tc htc))

/-- `TaskGraph.cancel` keeps the invariant (also when it stops on an exception). -/
theorem ginv_cancel (g : GraphS) (n : Nat) (time : Int) (h : g.GInv) : (g.cancel n time).g.GInv :=
  let ⟨_, he, _⟩ := cancel_edit g n time
  he.ginv h

/-- `notify_task_completion` keeps the invariant (also when it raises). -/
theorem ginv_notifyCompletion (g : GraphS) (n : Nat) (finish : Int) (tape : List Draw) (h : g.GInv) :
    (g.notifyCompletion n finish tape).g.GInv :=
  let ⟨_, _, he, _⟩ := notifyCompletion_edit g n finish tape
  he.ginv h

end GraphS
end ErdosVerif.Model
