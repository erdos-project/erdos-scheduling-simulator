import ErdosVerif.Lemmas.SimLedgerRunDefs
/-!
From the worker invariant `Worker.TOK` to sums: per resource type, what the ledger holds under
task keys is the sum of the demands of the strategies of the resident (non-batch) tasks; with the
ledger conservation law: Σ demand of the resident strategies + what batch placeholders and
profiles hold = total − available.
-/
namespace ErdosVerif.Model

def Comp.isTask : Comp → Bool
  | .task _ => true
  | _ => false
def Comp.isBatch : Comp → Bool
  | .batch _ => true
  | _ => false
def Comp.isProfile : Comp → Bool
  | .profile _ => true
  | _ => false

def heldBy (f : Comp → Bool) (a : AList Comp (List (Res × Nat))) (n : String) : Nat :=
  ((a.filter (fun e => f e.1)).map (fun e => pairsByName e.2 n)).sum

def taskDemand (pl : AList Nat Strategy) (n : String) : Nat :=
  ((pl.filter (fun e => !e.2.isBatch)).map (fun e => byName e.2.req n)).sum

theorem allocByName_split (a : AList Comp (List (Res × Nat))) (n : String) :
    allocByName a n = heldBy Comp.isTask a n + heldBy Comp.isBatch a n + heldBy Comp.isProfile a n := by
  induction a with
  | nil => rfl
  | cons p t ih =>
    obtain ⟨c, l⟩ := p
    simp only [allocByName, ih, heldBy, List.filter_cons]
    cases c <;> simp [Comp.isTask, Comp.isBatch, Comp.isProfile] <;> omega

section
variable {κ υ : Type} [DecidableEq κ]
theorem AList.lr_get?_of_mem (l : AList κ υ) (k : κ) (v : υ) (h : (AList.keys l).Nodup) (hm : (k, v) ∈ l) :
    AList.get? l k = some v := by
  induction l with
  | nil => cases hm
  | cons p t ih =>
    obtain ⟨a, b⟩ := p
    simp only [AList.keys_cons, List.nodup_cons] at h
    simp only [AList.get?]
    rcases List.mem_cons.mp hm with e | e
    · cases e; simp
    · have : a ≠ k := by
        intro e'; subst e'
        exact h.1 (List.mem_map.mpr ⟨(a, v), e, rfl⟩)
      simp only [this, if_false]
      exact ih h.2 e
end

def demandOf (pl : AList Nat Strategy) (n : String) : Comp → Nat
  | .task t => match AList.get? pl t with
    | some s => byName s.req n
    | none => 0
  | _ => 0

theorem Worker.TOK.held_tasks {w : Worker} (h : w.TOK) (n : String) :
    heldBy Comp.isTask w.res.allocs n = taskDemand w.placed n := by
  let A := w.res.allocs.filter (fun e => Comp.isTask e.1)
  let P := w.placed.filter (fun e => !e.2.isBatch)
  have memA : ∀ c l, (c, l) ∈ A → ∃ t s, c = .task t ∧ AList.get? w.res.allocs (.task t) = some l ∧
      AList.get? w.placed t = some s ∧ s.isBatch = false ∧ Amt l s.req := by
    intro c l he
    have hm := List.mem_filter.mp he
    cases c with
    | task t =>
      have hg := AList.lr_get?_of_mem _ _ _ h.anodup hm.1
      obtain ⟨s, hs, hb⟩ := h.heldTask t l hg
      obtain ⟨l', hl', hamt⟩ := h.taskHeld t s hs hb
      rw [hg] at hl'; cases hl'
      exact ⟨t, s, rfl, hg, hs, hb, hamt⟩
    | profile p => simp [Comp.isTask] at hm
    | batch g => simp [Comp.isTask] at hm
  have memP : ∀ t s, (t, s) ∈ P → AList.get? w.placed t = some s ∧ s.isBatch = false := by
    intro t s he
    have hm := List.mem_filter.mp he
    exact ⟨AList.lr_get?_of_mem _ _ _ h.pnodup hm.1, by simpa using hm.2⟩
  -- both sums are the sum of `demandOf` over their keys
  have hA : heldBy Comp.isTask w.res.allocs n = ((A.map (·.1)).map (demandOf w.placed n)).sum := by
    show ((A.map (fun e => pairsByName e.2 n))).sum = _
    rw [List.map_map]
    congr 1
    apply List.map_congr_left
    intro ⟨c, l⟩ he
    obtain ⟨t, s, rfl, _, hs, _, hamt⟩ := memA c l he
    simp [demandOf, hs, hamt n]
  have hP : taskDemand w.placed n = (((P.map (·.1)).map Comp.task).map (demandOf w.placed n)).sum := by
    show ((P.map (fun e => byName e.2.req n))).sum = _
    rw [List.map_map, List.map_map]
    congr 1
    apply List.map_congr_left
    intro ⟨t, s⟩ he
    simp [demandOf, (memP t s he).1]
  -- and the keys are the same, up to order
  rw [hA, hP]
  apply List.Perm.sum_nat
  apply List.Perm.map
  have nd1 : (A.map (·.1)).Nodup :=
    List.Nodup.sublist (List.Sublist.map _ List.filter_sublist) h.anodup
  have nd2 : ((P.map (·.1)).map Comp.task).Nodup :=
    List.Pairwise.map Comp.task (fun _ _ hab e => hab (Comp.task.inj e))
      (List.Nodup.sublist (List.Sublist.map _ List.filter_sublist) h.pnodup)
  rw [List.perm_ext_iff_of_nodup nd1 nd2]
  intro c
  constructor
  · intro hc
    obtain ⟨⟨c, l⟩, he, rfl⟩ := List.mem_map.mp hc
    obtain ⟨t, s, rfl, _, hs, hb, _⟩ := memA c l he
    exact List.mem_map.mpr ⟨t, List.mem_map.mpr
      ⟨(t, s), List.mem_filter.mpr ⟨AList.mem_of_get?_some _ _ _ hs, by simp [hb]⟩, rfl⟩, rfl⟩
  · intro hc
    obtain ⟨t, ht, rfl⟩ := List.mem_map.mp hc
    obtain ⟨⟨t, s⟩, he, rfl⟩ := List.mem_map.mp ht
    obtain ⟨hg, hb⟩ := memP t s he
    obtain ⟨l, hl, _⟩ := h.taskHeld t s hg hb
    exact List.mem_map.mpr ⟨(.task t, l), List.mem_filter.mpr ⟨AList.mem_of_get?_some _ _ _ hl, rfl⟩, rfl⟩

/-- **C01's statement for one worker**: per resource type, Σ demand of the strategies of the
resident (non-batch) tasks + what the batch placeholders and the profiles hold = total − available,
hence ≤ total. -/
theorem Worker.TOK.demand_eq {w : Worker} (h : w.TOK) (n : String) :
    byName w.res.avail n + (taskDemand w.placed n + heldBy Comp.isBatch w.res.allocs n +
      heldBy Comp.isProfile w.res.allocs n) = byName w.res.total n ∧
    taskDemand w.placed n ≤ byName w.res.total n := by
  have h1 := Resources.conserve_byName w.res h.rinv n
  rw [allocByName_split, h.held_tasks n] at h1
  exact ⟨by omega, by omega⟩

end ErdosVerif.Model
