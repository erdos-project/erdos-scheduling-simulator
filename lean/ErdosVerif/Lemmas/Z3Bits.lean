/-
Bit-level facts behind the Z3 scheduler's resource exclusivity: two bit patterns whose xor is
all ones have complementary population counts, and the allowed patterns of one worker all share
the same upper ("phantom") bits. (That three patterns cannot be pairwise complementary is the
three-element case of `nsum_le_of_pairwise` in `Lemmas/Z3Capacity.lean`.)
-/
import ErdosVerif.Lemmas.Z3Sat
namespace ErdosVerif.Z3m

theorem toBits_length : ∀ (w n : Nat), (toBits w n).length = w := by
  intro w
  induction w with
  | zero => intro n; rfl
  | succ w ih => intro n; simp [toBits, ih]

theorem ones_length (n : Nat) : (ones n).length = n := by simp [ones]

theorem bxor_length (a b : Bits) : (bxor a b).length = min a.length b.length := by
  simp [bxor]

theorem bxor_self (a : Bits) : bxor a a = zeros a.length := by
  induction a with
  | nil => rfl
  | cons x a ih => simp [bxor, zeros, List.replicate_succ] at ih ⊢; exact ih

theorem zeros_ne_ones {n : Nat} (h : zeros n = ones n) : n = 0 := by
  cases n with
  | zero => rfl
  | succ n => simp [zeros, ones, List.replicate_succ] at h

/-- xor all ones ⇒ every position is used by exactly one of the two. -/
theorem popcount_compl : ∀ (a b : Bits), a.length = b.length → bxor a b = ones a.length →
    popcount a + popcount b = a.length := by
  intro a
  induction a with
  | nil => intro b hl _; cases b <;> simp_all [popcount]
  | cons x a ih =>
    intro b hl hx
    cases b with
    | nil => simp at hl
    | cons y b =>
      simp only [bxor, List.zipWith_cons_cons, ones, List.length_cons, List.replicate_succ,
        List.cons.injEq] at hx
      have := ih b (by simpa using hl) (by simpa [bxor, ones] using hx.2)
      have hxy := hx.1
      cases x <;> cases y <;> simp_all [popcount] <;> omega

theorem head_compl {a b : Bits} (hl : a.length = b.length) (hpos : 0 < a.length)
    (hx : bxor a b = ones a.length) : a.headD false ≠ b.headD false := by
  cases a with
  | nil => simp at hpos
  | cons x a =>
    cases b with
    | nil => simp at hl
    | cons y b =>
      simp only [bxor, List.zipWith_cons_cons, ones, List.length_cons, List.replicate_succ,
        List.cons.injEq] at hx
      have := hx.1
      cases x <;> cases y <;> simp_all

theorem mem_lowCands {m req : Nat} {l : Bits} (h : l ∈ lowCands m req) :
    l.length = m ∧ popcount l = req := by
  simp only [lowCands, List.mem_filter, List.mem_map, List.mem_range, beq_iff_eq] at h
  obtain ⟨⟨v, _, rfl⟩, hp⟩ := h
  exact ⟨toBits_length m v, hp⟩

theorem mem_allowedLits {size m req : Nat} {x : Bits} (h : x ∈ allowedLits size m req) :
    ∃ l, l.length = m ∧ popcount l = req ∧ x = l ++ hiBits size m := by
  simp only [allowedLits, List.mem_map] at h
  obtain ⟨l, hl, rfl⟩ := h
  exact ⟨l, (mem_lowCands hl).1, (mem_lowCands hl).2, rfl⟩

/-- Two allowed patterns of one worker (same width `S`, same available quantity `m`) whose low
`q` bits are complementary, with `m ≤ q ≤ S` and `1 ≤ q`: the demands add up to exactly `m`
and the lowest bits differ. -/
theorem allowed_compl {S m q ri rj : Nat} {xi xj : Bits}
    (hi : xi ∈ allowedLits S m ri) (hj : xj ∈ allowedLits S m rj)
    (hSi : xi.length = S) (hmq : m ≤ q) (hqS : q ≤ S) (hq : 1 ≤ q)
    (hx : bxor (xi.take q) (xj.take q) = ones q) :
    ri + rj = m ∧ xi.headD false ≠ xj.headD false := by
  obtain ⟨li, hli, hpi, rfl⟩ := mem_allowedLits hi
  obtain ⟨lj, hlj, hpj, rfl⟩ := mem_allowedLits hj
  have hh : (hiBits S m).length = S - m := by
    simp only [List.length_append, hli] at hSi; omega
  rw [List.take_append, List.take_append, hli, hlj,
    List.take_of_length_le (by omega : li.length ≤ q), List.take_of_length_le (by omega : lj.length ≤ q)] at hx
  unfold bxor at hx
  rw [List.zipWith_append (by omega)] at hx
  have hones : ones q = ones m ++ ones (q - m) := by
    simp only [ones, List.replicate_append_replicate]; congr 1; omega
  rw [hones] at hx
  -- both patterns carry the same phantom bits above `m`, whose xor is 0 and cannot be all ones:
  -- so `q = m`, and below `m` the two demands are complementary
  have hsplit := List.append_inj hx (by simp [hli, hlj, ones])
  have h1 : bxor li lj = ones li.length := by rw [hli]; exact hsplit.1
  have h2 : zeros ((hiBits S m).take (q - m)).length = ones (q - m) := by
    rw [← bxor_self]; exact hsplit.2
  have hlen : ((hiBits S m).take (q - m)).length = q - m := by
    rw [List.length_take, hh]; omega
  rw [hlen] at h2
  have hqm : q = m := by have := zeros_ne_ones h2; omega
  have hm : 0 < li.length := by omega
  refine ⟨?_, ?_⟩
  · have := popcount_compl li lj (by omega) h1; omega
  · have := head_compl (by omega) hm h1
    cases li with
    | nil => simp at hm
    | cons x li => cases lj with
      | nil => simp at hlj; omega
      | cons y lj => simpa using this

end ErdosVerif.Z3m
