import ErdosVerif.Lemmas.SimWalk
/-!
Invariants of the simulator model. `Inv s` holds in every state a run can reach, whatever the scheduler
decides (the decisions are a tape) and whatever the random draws are:

* every worker of every pool satisfies the ledger invariant (C01 / C04);
* the clock history is non-decreasing (C03);
* every task graph satisfies `GInv`: a task that has started was released no later than it started and
  its predecessors are done; `_pre_scheduling_state` is VIRTUAL or RELEASED; no task is PREEMPTED (C02 / C06).

`Inv` holds after every single write of a handler, so it needs nothing of what the handler holds in its hands:
`Inv.closed` shows that it is kept by every step `Act` / `Tick` lists and holds wherever a block of writes is left
by an exception, and the handlers and the loop are those of `Lemmas/SimWalk.lean` (`simulate_inv`). What a
case uses is the value a step carries: the pool or task graph that was read, of which the one written back is
computed, satisfied its invariant because the state did, and the ledger and graph lemmas say that the
operation keeps it.
-/
open Std.Do
set_option mvcgen.warning false

namespace ErdosVerif.Model.Sim

def PoolsInv (s : SimS) : Prop := ∀ p ∈ s.pools.toList, p.Inv

def clockOf : LogE → Option Int
  | .clock n => some n
  | _ => none

def ClockInv (s : SimS) : Prop :=
  (s.log.toList.filterMap clockOf).Pairwise (· ≤ ·) ∧
  (∀ c ∈ s.log.toList.filterMap clockOf, c ≤ s.now) ∧ 0 ≤ s.now

/-- The loader's graphs and the job templates are part of the invariant because they become task
graphs of the workload: at the first UPDATE_WORKLOAD, and with every closed-loop follow-up. -/
def GraphsInv (s : SimS) : Prop :=
  (∀ g ∈ s.graphs.toList, g.GInv) ∧ (∀ g ∈ s.allGraphs.toList, g.GInv) ∧ (∀ j ∈ s.jobs.toList, j.template.Fresh)

def Inv (s : SimS) : Prop := PoolsInv s ∧ ClockInv s ∧ GraphsInv s

abbrev IA : Assertion (.except SErr (.arg SimS .pure)) := fun s => ⌜Inv s⌝

abbrev Keeps {α} (x : SimM α) : Prop := ⦃IA⦄ x ⦃post⟨fun _ => IA, fun _ => IA⟩⦄

theorem inv_congr (s s' : SimS) (h : Inv s) (hp : s'.pools = s.pools) (hl : s'.log = s.log)
    (hn : s'.now = s.now) (hg : s'.graphs = s.graphs) (ha : s'.allGraphs = s.allGraphs)
    (hj : s'.jobs = s.jobs) : Inv s' := by
  unfold Inv PoolsInv ClockInv GraphsInv
  rw [hp, hl, hn, hg, ha, hj]
  exact h

theorem PoolsInv.set {s s' : SimS} {pid : Nat} {p p' : Pool} (h : PoolsInv s) (hp : s.pools[pid]? = some p)
    (hp' : p.Inv → p'.Inv) (hs : s'.pools = s.pools.setIfInBounds pid p' := by rfl) : PoolsInv s' := by
  unfold PoolsInv; rw [hs]; exact forall_mem_set h hp hp'

theorem GraphsInv.set {s s' : SimS} {gi : Nat} {g g' : GraphS} (h : GraphsInv s) (hg : s.graphs[gi]? = some g)
    (hg' : g.GInv → g'.GInv) (hs : s'.graphs = s.graphs.setIfInBounds gi g' := by rfl)
    (ha : s'.allGraphs = s.allGraphs := by rfl) (hj : s'.jobs = s.jobs := by rfl) : GraphsInv s' := by
  unfold GraphsInv; rw [hs, ha, hj]; exact ⟨forall_mem_set h.1 hg hg', h.2⟩

theorem ClockInv.logs {s s' : SimS} (h : ClockInv s) (es : List LogE) (hes : es.filterMap clockOf = [] := by rfl)
    (hl : s'.log = es.foldl Array.push s.log := by rfl) (hn : s'.now = s.now := by rfl) : ClockInv s' := by
  unfold ClockInv
  rw [hl, hn, List.foldl_push_eq_append', Array.toList_append, List.filterMap_append, hes, List.append_nil]
  exact h

/-- `__step`: the only place where the clock moves, by a non-negative amount. -/
theorem ClockInv.tick {s s' : SimS} {dt : Int} (h : ClockInv s) (hdt : 0 ≤ dt) (hn : s'.now = s.now + dt := by rfl)
    (hl : s'.log = s.log.push (.clock (s.now + dt)) := by rfl) : ClockInv s' := by
  obtain ⟨h1, h2, h3⟩ := h
  unfold ClockInv
  rw [hl, hn]
  simp only [Array.toList_push, List.filterMap_append, List.filterMap_cons, clockOf, List.filterMap_nil]
  refine ⟨?_, ?_, by omega⟩
  · rw [List.pairwise_append]
    refine ⟨h1, by simp, ?_⟩
    intro a ha b hb
    simp only [List.mem_singleton] at hb
    subst hb
    have := h2 a ha
    omega
  · intro c hc
    simp only [List.mem_append, List.mem_singleton] at hc
    rcases hc with hc | hc
    · have := h2 c hc; omega
    · omega

theorem inv_onWorker' (p : Pool) (wi t : Nat) (h : p.Inv) : (p.onWorker' wi t).1.Inv :=
  (Pool.onWorker'_upd p wi t).all (fun w => Worker.inv_getAllocated w t) h

theorem PoolOp.inv {p p' : Pool} (op : PoolOp p p') (h : p.Inv) : p'.Inv := by
  cases op with
  | load prof st w => exact Pool.inv_loadProfile p prof st w h
  | evict prof w => exact Pool.inv_evictProfile p prof w h
  | read wi n => exact inv_onWorker' p wi n h
  | profiles dt => exact Pool.inv_stepProfiles p dt h
  | noPlace k strats st w => exact Pool.inv_placeTask p k strats st w h
  | noRemove k => exact Pool.inv_removeTask p k h

theorem LogE.routine_clockOf {e : LogE} (h : e.routine = true) : clockOf e = none := by
  cases e <;> first | rfl | cases h

theorem Inv.closed : ClosedTick (fun _ => Inv) Inv where
  weak h := h
  abort a h := by
    cases a with
    | cancelGraph gi k time gr e herr hg | cancelPlaced t time gr e herr hg =>
      exact ⟨h.1, h.2.1, h.2.2.set hg (GraphS.ginv_cancel _ _ _)⟩
    | notifyGraph t time gr e herr hg => exact ⟨h.1, h.2.1, h.2.2.set hg (GraphS.ginv_notifyCompletion _ _ _ _)⟩
    | payCancel => exact ⟨h.1, h.2.1.logs [.cancel _ _], h.2.2⟩
    | countCancel => exact h
    | placedNoStrategy t time pid pool gr x st w hP | placedNoDraw t time tape pid pool gr x st w hP =>
      exact ⟨h.1.set hP.hp (Pool.inv_placeTask _ _ _ _ _), h.2.1.logs [.place _ _ _], h.2.2⟩
    | placedNoStart t time fuzzed tape pid pool gr x st w e hP =>
      exact ⟨h.1.set hP.hp (Pool.inv_placeTask _ _ _ _ _), h.2.1.logs [.place _ _ _],
        h.2.2.set hP.hg (GraphS.ginv_start _ _ _ _ _ · hP.hx hP.hready)⟩
    | placedStarted t time fuzzed tape pid pool gr x st w hP =>
      exact ⟨h.1.set hP.hp (Pool.inv_placeTask _ _ _ _ _), h.2.1.logs [.place _ _ _, .start _ _ _ _],
        h.2.2.set hP.hg (GraphS.ginv_start _ _ _ _ _ · hP.hx hP.hready)⟩
    | removedNoFinish e0 t time pid pool gr x e hcur hty htid hfin hx hg hpid hrem hp =>
      exact ⟨h.1.set hp (Pool.inv_removeTask _ _), h.2.1.logs [.remove _ _ _], h.2.2.set hg (GraphS.ginv_call · hx rfl)⟩
  act a h := by
    cases a with
    | row | done | mk | mkCached | retry | mkSched | add | perm | edit | repend | unqueue | uncache | draw | followUp
    | countCancel | schedStart | schedRun | schedDone | simEnd => exact h
    | pop => exact ⟨h.1, h.2.1.logs [.pop _ _], h.2.2⟩
    | log e he => exact ⟨h.1, h.2.1.logs [e] (by simp [LogE.routine_clockOf he]), h.2.2⟩
    | call t c gr x hg hx hc => exact ⟨h.1, h.2.1, h.2.2.set hg (GraphS.ginv_call · hx (TaskCall.routine_benign hc))⟩
    | follow gi tape m j start d hm hj =>
      -- the template of the job is pristine, and so is the task graph instantiated from it
      have hf := h.2.2.2.2 j (Array.mem_toList_iff.mpr (Array.mem_of_getElem? hj))
      refine ⟨h.1, h.2.1, fun q hq => ?_, h.2.2.2.1, forall_mem_set h.2.2.2.2 hj fun hf => hf⟩
      rcases List.mem_append.mp (Array.toList_push ▸ hq) with hq | hq
      · exact h.2.2.1 q hq
      · exact List.mem_singleton.mp hq ▸ GraphS.ginv_of_fresh _ (hf.instantiate _ _ fun _ _ => ⟨rfl, rfl⟩)
    | load => exact ⟨h.1, h.2.1, h.2.2.2.1, h.2.2.2⟩
    | pool pid p p' hp op => exact ⟨h.1.set hp op.inv, h.2.1, h.2.2⟩
    | place t time fuzzed tape pid pool gr x st w a hP | placeNow t time fuzzed tape pid pool gr x st w a name hP =>
      exact ⟨h.1.set hP.hp (Pool.inv_placeTask _ _ _ _ _), h.2.1.logs [.place _ _ _, .start _ _ _ _],
        h.2.2.set hP.hg (GraphS.ginv_start _ _ _ _ _ · hP.hx hP.hready)⟩
    | finish e0 t time pid pool gr x hcur hty htid htime hfin hx hg hpid hrem hp =>
      exact ⟨h.1.set hp (Pool.inv_removeTask _ _), h.2.1.logs [.remove _ _ _, .finish _ _],
        h.2.2.set hg (GraphS.ginv_call · hx rfl)⟩
    | cancelGraph gi k time gr howed herr hg | cancelPlaced t time gr howed herr hg =>
      exact ⟨h.1, h.2.1, h.2.2.set hg (GraphS.ginv_cancel _ _ _)⟩
    | notifyGraph t time gr howed herr hg => exact ⟨h.1, h.2.1, h.2.2.set hg (GraphS.ginv_notifyCompletion _ _ _ _)⟩
    | payCancel => exact ⟨h.1, h.2.1.logs [.cancel _ _], h.2.2⟩
  tick a h := by
    cases a with
    | stepTask t now dt gr x hg hx => exact ⟨h.1, h.2.1, h.2.2.set hg (GraphS.ginv_call · hx rfl)⟩
    | mkDue | take => exact h
    | clock dt _ hdt => exact ⟨h.1, h.2.1.tick hdt, h.2.2⟩

theorem reheapify_spec : Keeps reheapify := by mvcgen [reheapify]

theorem releasable_spec : Keeps releasable := by mvcgen [releasable]

theorem keeps_run {α} (x : SimM α) (hk : Keeps x) (s0 : SimS) (h : Inv s0) :
    Inv ((ExceptT.run x).run s0).2 := by
  have := triple_run x Inv (fun _ => Inv) Inv hk s0 h
  revert this
  cases (ExceptT.run x).run s0 with
  | mk r s => cases r <;> exact id

/-- **The invariant holds in the state a simulation is in after the constructor and
any number of loop iterations, for every world, every scheduler (decision tape) and
every draw tape — also when the run aborts with an exception.** -/
theorem simulate_inv (s0 : SimS) (fuel : Nat) (h : Inv s0) : Inv (simulate s0 fuel).2 :=
  (simulate_closed Inv.closed s0 fuel h).2

theorem inv_initial (s0 : SimS) (hp : ∀ p ∈ s0.pools.toList, p.Inv) (hl : s0.log = #[]) (hn : s0.now = 0)
    (hg : s0.graphs = #[]) (ha : ∀ g ∈ s0.allGraphs.toList, g.Fresh) (hj : ∀ j ∈ s0.jobs.toList, j.template.Fresh) :
    Inv s0 := by
  refine ⟨hp, ?_, ?_, ?_, hj⟩
  · simp [ClockInv, hl, hn]
  · intro g hgm; simp [hg] at hgm
  · intro g hgm; exact GraphS.ginv_of_fresh g (ha g hgm)

end ErdosVerif.Model.Sim
