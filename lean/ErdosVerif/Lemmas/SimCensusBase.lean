import Std.Do
import Std.Tactic.Do
import ErdosVerif.Model.Sim
import ErdosVerif.Lemmas.SimHoare
/-!
Run-level census of the simulator model: definitions.

What is counted, over the monotone history of a run (`rows`, `log`), and the two
predicates proved for every reachable state in `SimCensus.lean`:

* `Census s` — every end-of-run counter equals the number of rows of its kind written so
  far (and `finishedTasks` also the number of `.finish` history entries); every
  SIMULATOR_END row reports the census of the rows written before it;
* `CensusW s` — the same, except that `cancelledTasks` may be one ahead of the TASK_CANCEL
  rows: `__handle_task_cancellation` increments the counter *before* it formats the row,
  and formatting can raise (a task without execution strategy). This is the state an
  aborted run is left in.
-/
open Std.Do

namespace ErdosVerif.Model.Sim

def rowKind (r : Row) : String := r[1]?.getD ""

def countRows (k : String) (rows : List Row) : Nat := rows.countP (fun r => rowKind r == k)

/-- A TASK_GRAPH_FINISHED row whose tardiness column is not 0 (the graph finished after
its deadline). -/
def lateGraphRow (r : Row) : Bool := rowKind r == "TASK_GRAPH_FINISHED" && r[4]?.getD "" != "0"

def isFinishLog : LogE → Bool
  | .finish _ _ => true
  | _ => false

def neutralRow (r : Row) : Bool :=
  rowKind r != "TASK_FINISHED" && rowKind r != "TASK_CANCEL" && rowKind r != "MISSED_DEADLINE" &&
  rowKind r != "TASK_GRAPH_FINISHED" && rowKind r != "MISSED_TASK_GRAPH_DEADLINE" && rowKind r != "SIMULATOR_END"

/-- What a SIMULATOR_END row must say, given the rows written before it: the numbers of
TASK_FINISHED, TASK_CANCEL, MISSED_DEADLINE, TASK_GRAPH_FINISHED rows, (the number of
cancelled task graphs, not constrained here,) and the number of task graphs that finished
late. -/
def endRowOK (pre : List Row) (r : Row) : Prop :=
  rowKind r = "SIMULATOR_END" →
    ∃ time cg, r = [time, "SIMULATOR_END", nstr (countRows "TASK_FINISHED" pre), nstr (countRows "TASK_CANCEL" pre),
                    nstr (countRows "MISSED_DEADLINE" pre), nstr (countRows "TASK_GRAPH_FINISHED" pre), cg,
                    nstr (pre.countP lateGraphRow)]

def EndRowsOK (rows : List Row) : Prop := ∀ pre r post, rows = pre ++ r :: post → endRowOK pre r

structure Census (s : SimS) : Prop where
  fin : s.finishedTasks = countRows "TASK_FINISHED" s.rows.toList
  finLog : s.finishedTasks = s.log.toList.countP isFinishLog
  can : s.cancelledTasks = countRows "TASK_CANCEL" s.rows.toList
  mis : s.missedTaskDeadlines = countRows "MISSED_DEADLINE" s.rows.toList
  gra : s.finishedGraphs = countRows "TASK_GRAPH_FINISHED" s.rows.toList
  misG : s.missedGraphDeadlines = s.rows.toList.countP lateGraphRow
  misGle : s.missedGraphDeadlines ≤ countRows "MISSED_TASK_GRAPH_DEADLINE" s.rows.toList
  ends : EndRowsOK s.rows.toList

structure CensusW (s : SimS) : Prop where
  fin : s.finishedTasks = countRows "TASK_FINISHED" s.rows.toList
  finLog : s.finishedTasks = s.log.toList.countP isFinishLog
  can : s.cancelledTasks = countRows "TASK_CANCEL" s.rows.toList ∨
        s.cancelledTasks = countRows "TASK_CANCEL" s.rows.toList + 1
  mis : s.missedTaskDeadlines = countRows "MISSED_DEADLINE" s.rows.toList
  gra : s.finishedGraphs = countRows "TASK_GRAPH_FINISHED" s.rows.toList
  misG : s.missedGraphDeadlines = s.rows.toList.countP lateGraphRow
  misGle : s.missedGraphDeadlines ≤ countRows "MISSED_TASK_GRAPH_DEADLINE" s.rows.toList
  ends : EndRowsOK s.rows.toList

def EndLast (s : SimS) : Prop :=
  s.ended = true ∧ ∃ time cg, s.rows.toList.getLast? =
    some [time, "SIMULATOR_END", nstr s.finishedTasks, nstr s.cancelledTasks, nstr s.missedTaskDeadlines,
          nstr s.finishedGraphs, cg, nstr s.missedGraphDeadlines]

theorem Census.weak {s : SimS} (h : Census s) : CensusW s :=
  ⟨h.fin, h.finLog, .inl h.can, h.mis, h.gra, h.misG, h.misGle, h.ends⟩

theorem countRows_append (k : String) (a b : List Row) : countRows k (a ++ b) = countRows k a + countRows k b := by
  simp [countRows, List.countP_append]

theorem countRows_single (k : String) (r : Row) : countRows k [r] = if rowKind r == k then 1 else 0 := by
  simp [countRows, List.countP_cons]

theorem countRows_push_neutral (k : String) (rows : List Row) (r : Row) (h : rowKind r ≠ k) :
    countRows k (rows ++ [r]) = countRows k rows := by
  rw [countRows_append, countRows_single]
  have : (rowKind r == k) = false := by simpa using h
  simp [this]

theorem endRows_nil : EndRowsOK [] := by
  intro pre r post h
  cases pre <;> simp at h

theorem forall_split_push {α} {P : List α → α → Prop} {l : List α} {e : α}
    (h : ∀ pre x post, l = pre ++ x :: post → P pre x) (he : P l e) :
    ∀ pre x post, l ++ [e] = pre ++ x :: post → P pre x := by
  intro pre x post hx
  rcases List.eq_nil_or_concat post with rfl | ⟨post', y, rfl⟩
  · obtain ⟨rfl, rfl⟩ : l = pre ∧ e = x := by simpa using hx
    exact he
  · have hx' : l ++ [e] = (pre ++ x :: post') ++ [y] := by simpa using hx
    exact h pre x post' (List.append_inj' hx' (by simp)).1

theorem endRows_push (rows : List Row) (r : Row) (h : EndRowsOK rows) (hr : endRowOK rows r) :
    EndRowsOK (rows ++ [r]) := forall_split_push h hr

theorem endRowOK_of_not_end (pre : List Row) (r : Row) (h : rowKind r ≠ "SIMULATOR_END") : endRowOK pre r :=
  fun h' => absurd h' h

/-- For an update that leaves the trace, the history log and the five counters alone: `‹Census _›.congr`. -/
theorem Census.congr {s s' : SimS} (h : Census s) (hr : s'.rows = s.rows := by rfl) (hl : s'.log = s.log := by rfl)
    (h1 : s'.finishedTasks = s.finishedTasks := by rfl) (h2 : s'.cancelledTasks = s.cancelledTasks := by rfl)
    (h3 : s'.missedTaskDeadlines = s.missedTaskDeadlines := by rfl)
    (h4 : s'.finishedGraphs = s.finishedGraphs := by rfl)
    (h5 : s'.missedGraphDeadlines = s.missedGraphDeadlines := by rfl) : Census s' := by
  obtain ⟨a, b, c, d, e, f, g, i⟩ := h
  exact ⟨by rw [h1, hr]; exact a, by rw [h1, hl]; exact b, by rw [h2, hr]; exact c, by rw [h3, hr]; exact d,
    by rw [h4, hr]; exact e, by rw [h5, hr]; exact f, by rw [h5, hr]; exact g, by rw [hr]; exact i⟩

theorem CensusW.congr (s s' : SimS) (h : CensusW s) (hr : s'.rows = s.rows) (hl : s'.log = s.log)
    (h1 : s'.finishedTasks = s.finishedTasks) (h2 : s'.cancelledTasks = s.cancelledTasks)
    (h3 : s'.missedTaskDeadlines = s.missedTaskDeadlines) (h4 : s'.finishedGraphs = s.finishedGraphs)
    (h5 : s'.missedGraphDeadlines = s.missedGraphDeadlines) : CensusW s' := by
  obtain ⟨a, b, c, d, e, f, g, i⟩ := h
  exact ⟨by rw [h1, hr]; exact a, by rw [h1, hl]; exact b, by rw [h2, hr]; exact c, by rw [h3, hr]; exact d,
    by rw [h4, hr]; exact e, by rw [h5, hr]; exact f, by rw [h5, hr]; exact g, by rw [hr]; exact i⟩

/-- Writing a row of a kind whose counter does not move; `c` is 1 for a TASK_CANCEL row, whose
counter is incremented with it, and 0 otherwise. -/
theorem Census.push (s : SimS) (r : Row) (c : Nat) (h : Census s) (n1 : rowKind r ≠ "TASK_FINISHED")
    (n3 : rowKind r ≠ "MISSED_DEADLINE") (n4 : rowKind r ≠ "TASK_GRAPH_FINISHED")
    (n5 : rowKind r ≠ "MISSED_TASK_GRAPH_DEADLINE") (hc : countRows "TASK_CANCEL" [r] = c)
    (he : endRowOK s.rows.toList r) :
    Census { s with cancelledTasks := s.cancelledTasks + c, rows := s.rows.push r } := by
  obtain ⟨a, b, c', d, e, f, g, i⟩ := h
  have hl : lateGraphRow r = false := by simp [lateGraphRow, n4]
  refine ⟨?_, b, ?_, ?_, ?_, ?_, ?_, ?_⟩ <;> simp only [Array.toList_push]
  · rw [countRows_push_neutral _ _ _ n1]; exact a
  · rw [countRows_append, hc, ← c']
  · rw [countRows_push_neutral _ _ _ n3]; exact d
  · rw [countRows_push_neutral _ _ _ n4]; exact e
  · rw [List.countP_append, List.countP_cons, List.countP_nil, hl]; simpa using f
  · rw [countRows_push_neutral _ _ _ n5]; exact g
  · exact endRows_push _ _ i he

theorem Census.row (s : SimS) (r : Row) (h : Census s) (hn : neutralRow r = true) :
    Census { s with rows := s.rows.push r } := by
  simp only [neutralRow, Bool.and_eq_true, bne_iff_ne, ne_eq] at hn
  obtain ⟨⟨⟨⟨⟨n1, n2⟩, n3⟩, n4⟩, n5⟩, n6⟩ := hn
  exact Census.push s r 0 h n1 n3 n4 n5 (by simp [countRows_single, n2]) (endRowOK_of_not_end _ _ n6)

theorem Census.log (s : SimS) (e : LogE) (h : Census s) (he : isFinishLog e = false) :
    Census { s with log := s.log.push e } := by
  obtain ⟨a, b, c, d, e', f, g, i⟩ := h
  refine ⟨a, ?_, c, d, e', f, g, i⟩
  simp only [Array.toList_push, List.countP_append, List.countP_cons, he, List.countP_nil]
  simpa using b

abbrev CA : Assertion (.except SErr (.arg SimS .pure)) := fun s => ⌜Census s⌝

abbrev KeepsC {α} (x : SimM α) : Prop := ⦃CA⦄ x ⦃post⟨fun _ => CA, fun _ => CA⟩⦄

end ErdosVerif.Model.Sim
