/-
The merge loop of `schedule()` in the batching planners (`task_placement_map[task] = placement`
unless the task already has a *placed* answer; an existing key keeps its position), over any type
of answers with a key and a "placed" flag: which keys the merged list has, that it has each once,
that it only holds answers that were merged in, and that a placed answer which is the only placed
one for its key survives.
-/
namespace ErdosVerif.MergeLoop

variable {δ : Type} (key : δ → Nat) (placed : δ → Bool)

def upsertBy : List δ → δ → List δ
  | [], d => [d]
  | e :: es, d => if key e = key d then (if placed e then e else d) :: es else e :: upsertBy es d

def mergeBy (ds : List δ) : List δ := ds.foldl (upsertBy key placed) []

variable {key placed}

theorem mem_upsertBy {acc : List δ} {d x : δ} (h : x ∈ upsertBy key placed acc d) : x ∈ acc ∨ x = d := by
  induction acc with
  | nil => exact Or.inr (by simpa [upsertBy] using h)
  | cons e es ih =>
    simp only [upsertBy] at h
    split at h
    · split at h
      · exact Or.inl h
      · exact (List.mem_cons.mp h).symm.imp_left (List.mem_cons_of_mem _)
    · rcases List.mem_cons.mp h with rfl | h
      · exact Or.inl (by simp)
      · exact (ih h).imp_left (List.mem_cons_of_mem _)

theorem mem_foldl_upsertBy {ds acc : List δ} {x : δ} (h : x ∈ ds.foldl (upsertBy key placed) acc) :
    x ∈ acc ∨ x ∈ ds := by
  induction ds generalizing acc with
  | nil => exact Or.inl h
  | cons d ds ih =>
    rcases ih h with h | h
    · exact (mem_upsertBy h).imp_right (fun e => by simp [e])
    · exact Or.inr (List.mem_cons_of_mem _ h)

theorem mem_mergeBy {ds : List δ} {x : δ} (h : x ∈ mergeBy key placed ds) : x ∈ ds :=
  (mem_foldl_upsertBy h).resolve_left (by simp)

theorem upsertBy_keys (acc : List δ) (d : δ) :
    (upsertBy key placed acc d).map key =
      if key d ∈ acc.map key then acc.map key else acc.map key ++ [key d] := by
  induction acc with
  | nil => simp [upsertBy]
  | cons e es ih =>
    simp only [upsertBy]
    by_cases he : key e = key d
    · simp only [he, if_true]
      split <;> simp [he]
    · simp only [he, if_false, List.map_cons, ih]
      by_cases hm : key d ∈ es.map key <;> simp [hm, Ne.symm he]

theorem mem_keys_upsertBy {acc : List δ} {d : δ} {t : Nat} :
    t ∈ (upsertBy key placed acc d).map key ↔ t ∈ acc.map key ∨ t = key d := by
  rw [upsertBy_keys]; split <;> simp_all

theorem upsertBy_nodup {acc : List δ} (d : δ) (h : (acc.map key).Nodup) :
    ((upsertBy key placed acc d).map key).Nodup := by
  rw [upsertBy_keys]
  split
  · exact h
  · next hm =>
    rw [List.nodup_append]
    exact ⟨h, by simp, fun a ha b hb hab => hm (by simp_all)⟩

theorem foldl_upsertBy_nodup {ds acc : List δ} (h : (acc.map key).Nodup) :
    ((ds.foldl (upsertBy key placed) acc).map key).Nodup := by
  induction ds generalizing acc with
  | nil => exact h
  | cons d ds ih => exact ih (upsertBy_nodup d h)

theorem mergeBy_nodup (ds : List δ) : ((mergeBy key placed ds).map key).Nodup :=
  foldl_upsertBy_nodup (by simp)

theorem mem_keys_foldl {ds acc : List δ} {t : Nat} :
    t ∈ (ds.foldl (upsertBy key placed) acc).map key ↔ t ∈ acc.map key ∨ t ∈ ds.map key := by
  induction ds generalizing acc with
  | nil => simp
  | cons d ds ih => rw [List.foldl_cons, ih, mem_keys_upsertBy]; simp [or_assoc]

theorem mem_keys_mergeBy {ds : List δ} {t : Nat} : t ∈ (mergeBy key placed ds).map key ↔ t ∈ ds.map key := by
  simp [mergeBy, mem_keys_foldl]

theorem upsertBy_keep {acc : List δ} {d : δ} (e : δ) (hd : d ∈ acc)
    (hn : (acc.map key).Nodup) (hp : placed d = true) : d ∈ upsertBy key placed acc e := by
  induction acc with
  | nil => simp at hd
  | cons a as ih =>
    simp only [upsertBy]
    simp only [List.map_cons, List.nodup_cons] at hn
    rcases List.mem_cons.mp hd with rfl | hd
    · split <;> simp
    · split
      · split <;> exact List.mem_cons_of_mem _ hd
      · exact List.mem_cons_of_mem _ (ih hd hn.2)

theorem foldl_keep {ds acc : List δ} {d : δ} (hd : d ∈ acc)
    (hn : (acc.map key).Nodup) (hp : placed d = true) : d ∈ ds.foldl (upsertBy key placed) acc := by
  induction ds generalizing acc with
  | nil => exact hd
  | cons e es ih => exact ih (upsertBy_keep e hd hn hp) (upsertBy_nodup e hn)

theorem upsertBy_new {acc : List δ} {d : δ}
    (hu : ∀ e ∈ acc, key e = key d → placed e = true → e = d) : d ∈ upsertBy key placed acc d := by
  induction acc with
  | nil => simp [upsertBy]
  | cons a as ih =>
    simp only [upsertBy]
    split
    · next hae =>
      split
      · next hpl => simp [hu a (by simp) hae hpl]
      · simp
    · exact List.mem_cons_of_mem _ (ih (fun e he => hu e (List.mem_cons_of_mem _ he)))

theorem foldl_new {ds acc : List δ} {d : δ} (hd : d ∈ ds)
    (hn : (acc.map key).Nodup) (hp : placed d = true)
    (hu : ∀ e, e ∈ acc ∨ e ∈ ds → key e = key d → placed e = true → e = d) :
    d ∈ ds.foldl (upsertBy key placed) acc := by
  induction ds generalizing acc with
  | nil => simp at hd
  | cons e es ih =>
    simp only [List.foldl_cons]
    rcases List.mem_cons.mp hd with rfl | hd
    · exact foldl_keep (upsertBy_new (fun e he => hu e (Or.inl he))) (upsertBy_nodup _ hn) hp
    · refine ih hd (upsertBy_nodup e hn) (fun x hx => ?_)
      rcases hx with hx | hx
      · exact hu x ((mem_upsertBy hx).imp_right (fun e => by simp [e]))
      · exact hu x (Or.inr (List.mem_cons_of_mem _ hx))

theorem mem_mergeBy_of_unique {ds : List δ} {d : δ} (hd : d ∈ ds) (hp : placed d = true)
    (hu : ∀ e ∈ ds, key e = key d → placed e = true → e = d) : d ∈ mergeBy key placed ds :=
  foldl_new hd (by simp) hp (fun e he => hu e (he.resolve_left (by simp)))

end ErdosVerif.MergeLoop
