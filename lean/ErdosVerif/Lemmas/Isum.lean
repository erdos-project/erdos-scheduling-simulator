/-
Sums `isum (l.map f)` over a list (`Mip.isum`): the facts the ILP, Z3, TetriSched and STRL (`sumBy`)
developments share; at the end, list maxima / minima by recursion and `getD_mem`.
-/
import ErdosVerif.Model.Mip
namespace ErdosVerif.Mip

section
variable {α : Type} {l : List α} {f g : α → Int}

theorem isum_map_le (h : ∀ a ∈ l, f a ≤ g a) : isum (l.map f) ≤ isum (l.map g) := by
  induction l with
  | nil => simp
  | cons x xs ih =>
    have := h x (by simp)
    have := ih fun a ha => h a (by simp [ha])
    simp; omega

theorem isum_map_eq (h : ∀ a ∈ l, f a = g a) : isum (l.map f) = isum (l.map g) := by
  rw [List.map_congr_left h]

theorem isum_map_const_zero (l : List α) : isum (l.map fun _ => (0 : Int)) = 0 := by
  induction l with
  | nil => rfl
  | cons x xs ih => simpa using ih

theorem isum_map_zero (h : ∀ a ∈ l, f a = 0) : isum (l.map f) = 0 :=
  (isum_map_eq h).trans (isum_map_const_zero l)

theorem isum_map_nonneg (h : ∀ a ∈ l, 0 ≤ f a) : 0 ≤ isum (l.map f) := by
  have := isum_map_le h
  rwa [isum_map_const_zero] at this

theorem exists_of_isum_ne_zero (h : isum (l.map f) ≠ 0) : ∃ a ∈ l, f a ≠ 0 :=
  Classical.byContradiction fun hno =>
    h (isum_map_zero fun a ha => Classical.byContradiction fun h0 => hno ⟨a, ha, h0⟩)

theorem isum_map_add (l : List α) (f g : α → Int) :
    isum (l.map fun a => f a + g a) = isum (l.map f) + isum (l.map g) := by
  induction l with
  | nil => simp
  | cons x xs ih => simp [ih]; omega

theorem isum_map_mul_left (l : List α) (c : Int) (f : α → Int) :
    isum (l.map fun a => c * f a) = c * isum (l.map f) := by
  induction l with
  | nil => simp
  | cons x xs ih => simp [ih, Int.mul_add]

theorem isum_map_mul_right (l : List α) (f : α → Int) (c : Int) :
    isum (l.map fun a => f a * c) = isum (l.map f) * c := by
  induction l with
  | nil => simp
  | cons x xs ih => simp [ih, Int.add_mul]

theorem isum_filter (l : List α) (p : α → Bool) (f : α → Int) :
    isum ((l.filter p).map f) = isum (l.map fun a => if p a then f a else 0) := by
  induction l with
  | nil => simp
  | cons x xs ih => cases hp : p x <;> simp [hp, ih]

theorem isum_flatMap {β : Type} (l : List α) (f : α → List β) (g : β → Int) :
    isum ((l.flatMap f).map g) = isum (l.map fun a => isum ((f a).map g)) := by
  induction l with
  | nil => simp
  | cons x xs ih => simp [List.flatMap_cons, isum_append, ih]

theorem isum_sublist_le {l₁ l₂ : List α} (hs : l₁.Sublist l₂) (h : ∀ a ∈ l₂, 0 ≤ f a) :
    isum (l₁.map f) ≤ isum (l₂.map f) := by
  induction hs with
  | slnil => simp
  | cons a _ ih =>
    have := h a (by simp)
    have := ih fun b hb => h b (by simp [hb])
    simp; omega
  | cons_cons a _ ih =>
    have := ih fun b hb => h b (by simp [hb])
    simp; omega

theorem le_isum_map (h : ∀ a ∈ l, 0 ≤ f a) {a : α} (ha : a ∈ l) : f a ≤ isum (l.map f) := by
  simpa using isum_sublist_le (List.singleton_sublist.mpr ha) h

theorem add_le_isum_map (h : ∀ a ∈ l, 0 ≤ f a) {a b : α} (ha : a ∈ l) (hb : b ∈ l) (hab : a ≠ b) :
    f a + f b ≤ isum (l.map f) := by
  induction l with
  | nil => cases ha
  | cons x xs ih =>
    have hx := h x (by simp)
    have hxs : ∀ c ∈ xs, 0 ≤ f c := fun c hc => h c (by simp [hc])
    simp only [List.map_cons, isum_cons]
    rcases List.mem_cons.mp ha with rfl | ha' <;> rcases List.mem_cons.mp hb with rfl | hb'
    · exact absurd rfl hab
    · have := le_isum_map hxs hb'; omega
    · have := le_isum_map hxs ha'; omega
    · have := ih hxs ha' hb'; omega

theorem eq_of_isum_le_one [DecidableEq α] (h : ∀ a ∈ l, 0 ≤ f a) (hs : isum (l.map f) ≤ 1) {a b : α}
    (ha : a ∈ l) (hb : b ∈ l) (h1 : 1 ≤ f a) (h2 : 1 ≤ f b) : a = b :=
  Decidable.byContradiction fun hab => by have := add_le_isum_map h ha hb hab; omega

theorem eq_ite_find [DecidableEq α] (hv : ∀ a ∈ l, f a = 0 ∨ f a = 1) (hs : isum (l.map f) ≤ 1) {q : α}
    (hq : q ∈ l) : f q = if l.find? (fun a => f a == 1) = some q then 1 else 0 := by
  have hnn : ∀ a ∈ l, 0 ≤ f a := fun a ha => by rcases hv a ha with h | h <;> omega
  cases hc : l.find? (fun a => f a == 1) with
  | none =>
    have := List.find?_eq_none.mp hc q hq
    rcases hv q hq with h | h
    · simp [h]
    · simp [h] at this
  | some q0 =>
    have h1 : f q0 = 1 := by simpa using List.find?_some hc
    by_cases hqq : q0 = q
    · simp [← hqq, h1]
    · have : ¬ 1 ≤ f q := fun h => hqq (eq_of_isum_le_one hnn hs (List.mem_of_find?_eq_some hc) hq (by omega) h)
      rcases hv q hq with h | h
      · simp [h, hqq]
      · omega

theorem eq_of_isum_eq (h : ∀ a ∈ l, f a ≤ g a) (hs : isum (l.map g) ≤ isum (l.map f)) :
    ∀ a ∈ l, f a = g a := by
  induction l with
  | nil => intro a ha; cases ha
  | cons b l ih =>
    have h1 := h b (by simp)
    have h2 := isum_map_le (f := f) (g := g) fun a ha => h a (List.mem_cons_of_mem _ ha)
    simp only [List.map_cons, isum_cons] at hs
    intro a ha
    rcases List.mem_cons.mp ha with rfl | ha
    · omega
    · exact ih (fun a ha => h a (by simp [ha])) (by omega) a ha

theorem isum_map_one (l : List α) : isum (l.map fun _ => (1 : Int)) = (l.length : Nat) := by
  induction l with
  | nil => rfl
  | cons x xs ih => simp [ih]; omega

theorem isum_le_length (h : ∀ a ∈ l, f a ≤ 1) : isum (l.map f) ≤ (l.length : Nat) :=
  isum_map_one l ▸ isum_map_le h

theorem all_one_of_isum_eq_length (hle : ∀ a ∈ l, f a ≤ 1) (hs : (l.length : Nat) ≤ isum (l.map f)) :
    ∀ a ∈ l, f a = 1 :=
  eq_of_isum_eq hle (isum_map_one l ▸ hs)

theorem isum_indicator_length (l : List α) (p : α → Bool) :
    isum (l.map fun a => if p a then (1 : Int) else 0) = ((l.filter p).length : Nat) := by
  rw [← isum_map_one, ← isum_filter]

/-- **One-hot.** Non-negative integer weights that sum to at most 1 single out the member of weight 1:
a weighted sum is the value there. -/
theorem isum_mul_pick (h : ∀ a ∈ l, 0 ≤ f a) (hs : isum (l.map f) ≤ 1) {r : α} (hr : r ∈ l) (h1 : f r = 1)
    (g : α → Int) : isum (l.map fun a => g a * f a) = g r := by
  induction l with
  | nil => cases hr
  | cons y ys ih =>
    simp only [List.map_cons, isum_cons] at hs ⊢
    have hy := h y (by simp)
    have hnn : ∀ z ∈ ys, 0 ≤ f z := fun z hz => h z (by simp [hz])
    have hys := isum_map_nonneg hnn
    by_cases hy1 : f y = 1
    · -- the weight is at the head: everything in the tail has weight 0
      have h0 : ∀ z ∈ ys, f z = 0 := fun z hz => by
        have := le_isum_map hnn hz
        have := hnn z hz
        omega
      rw [isum_map_zero fun z hz => by simp [h0 z hz], hy1]
      rcases List.mem_cons.mp hr with rfl | hr
      · omega
      · have := h0 r hr; omega
    · have hy0 : f y = 0 := by
        rcases List.mem_cons.mp hr with rfl | hr
        · exact absurd h1 hy1
        · have := le_isum_map hnn hr; omega
      rcases List.mem_cons.mp hr with rfl | hr
      · exact absurd h1 hy1
      · rw [ih hnn (by omega) hr, hy0]; omega

theorem isum_mul_find (hv : ∀ a ∈ l, f a = 0 ∨ f a = 1) (hs : isum (l.map f) ≤ 1) (g : α → Int) :
    isum (l.map fun a => g a * f a) =
      match l.find? (fun a => f a == 1) with
      | some a => g a
      | none => 0 := by
  cases hc : l.find? (fun a => f a == 1) with
  | some a =>
    exact isum_mul_pick (fun a ha => by rcases hv a ha with h | h <;> omega) hs
      (List.mem_of_find?_eq_some hc) (by simpa using List.find?_some hc) g
  | none =>
    refine isum_map_zero fun a ha => ?_
    have := List.find?_eq_none.mp hc a ha
    rcases hv a ha with h | h
    · simp [h]
    · simp [h] at this

end

theorem isum_range_zero (n : Nat) (f : Nat → Int) (h : ∀ b, b < n → f b = 0) :
    isum ((List.range n).map f) = 0 :=
  isum_map_zero fun b hb => h b (List.mem_range.mp hb)

theorem isum_range_single (n a : Nat) (f : Nat → Int) (ha : a < n)
    (h : ∀ b, b < n → b ≠ a → f b = 0) : isum ((List.range n).map f) = f a := by
  induction n with
  | zero => omega
  | succ n ih =>
    rw [List.range_succ, List.map_append, isum_append]
    by_cases han : a = n
    · subst han
      simp [isum_range_zero a f (fun b hb => h b (by omega) (by omega))]
    · simp [ih (by omega) (fun b hb hne => h b (by omega) hne), h n (by omega) (by omega)]

theorem isum_range_indicator (n a : Nat) (c : Int) :
    isum ((List.range n).map fun i => if i = a then c else 0) = if a < n then c else 0 := by
  split
  · rename_i ha
    rw [isum_range_single n a _ ha fun b _ hb => if_neg hb, if_pos rfl]
  · exact isum_range_zero n _ fun b hb => if_neg (by omega)

/-- A maximum of a list of integers computed by recursion from its last element (the batching
models' `maxL`, `maxI`: the definitions differ in name only) is above every member. -/
theorem le_of_max_eqs {m : List Int → Int} (h1 : ∀ a, m [a] = a)
    (h2 : ∀ a b as, m (a :: b :: as) = max a (m (b :: as))) {l : List Int} {a : Int} (h : a ∈ l) : a ≤ m l := by
  induction l with
  | nil => cases h
  | cons x xs ih =>
    cases xs with
    | nil => rw [h1, List.mem_singleton.mp h]; exact Int.le_refl _
    | cons y ys =>
      rw [h2]
      rcases List.mem_cons.mp h with rfl | h
      · exact Int.le_max_left _ _
      · exact Int.le_trans (ih h) (Int.le_max_right _ _)

theorem le_of_min_eqs {m : List Int → Int} (h1 : ∀ a, m [a] = a)
    (h2 : ∀ a b as, m (a :: b :: as) = min a (m (b :: as))) {l : List Int} {a : Int} (h : a ∈ l) : m l ≤ a := by
  induction l with
  | nil => cases h
  | cons x xs ih =>
    cases xs with
    | nil => rw [h1, List.mem_singleton.mp h]; exact Int.le_refl _
    | cons y ys =>
      rw [h2]
      rcases List.mem_cons.mp h with rfl | h
      · exact Int.min_le_left _ _
      · exact Int.le_trans (Int.min_le_right _ _) (ih h)

/-- The accessors of the instances read lists with `getD`: within the length that is a member. -/
theorem getD_mem {α : Type} {l : List α} {i : Nat} (h : i < l.length) (d : α) : l.getD i d ∈ l := by
  rw [List.getD_eq_getElem?_getD, List.getElem?_eq_getElem h]
  exact List.getElem_mem h

theorem isum_filter_of_zero {α : Type} (l : List α) (q : α → Bool) (f : α → Int)
    (h : ∀ x ∈ l, q x = false → f x = 0) : isum ((l.filter q).map f) = isum (l.map f) := by
  rw [isum_filter]
  exact isum_map_eq fun x hx => by cases hq : q x <;> simp [h x hx, hq]

theorem isum_comm {α β : Type} (l1 : List α) (l2 : List β) (f : α → β → Int) :
    isum (l1.map (fun a => isum (l2.map (fun b => f a b)))) =
    isum (l2.map (fun b => isum (l1.map (fun a => f a b)))) := by
  induction l1 with
  | nil => exact (isum_map_zero fun _ _ => rfl).symm
  | cons x xs ih => simp only [List.map_cons, isum_cons, ih, isum_map_add]

theorem isum_le_one_of_pairwise {α : Type} {l : List α} {f : α → Int} (hn : l.Nodup)
    (h0 : ∀ a ∈ l, 0 ≤ f a) (h1 : ∀ a ∈ l, f a ≤ 1)
    (h2 : ∀ a ∈ l, ∀ b ∈ l, a ≠ b → f a + f b ≤ 1) : isum (l.map f) ≤ 1 := by
  induction l with
  | nil => simp
  | cons x xs ih =>
    obtain ⟨hx, hn⟩ := List.nodup_cons.mp hn
    have := ih hn (fun a ha => h0 a (by simp [ha])) (fun a ha => h1 a (by simp [ha]))
      (fun a ha b hb => h2 a (by simp [ha]) b (by simp [hb]))
    have := h0 x (by simp)
    have := h1 x (by simp)
    simp only [List.map_cons, isum_cons]
    by_cases hfx : f x = 0
    · omega
    · rw [isum_map_zero fun y hy => ?_]
      · omega
      · have := h2 x (by simp) y (by simp [hy]) (fun e => hx (e ▸ hy))
        have := h0 y (by simp [hy])
        omega


end ErdosVerif.Mip
