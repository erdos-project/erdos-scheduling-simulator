import ErdosVerif.Model.Ledger
import ErdosVerif.Lemmas.Nodup
/-!
Helper lemmas for C04 (ledger conservation). Core Lean only.
Simp-normal form: quantities are read with `getQ`, ledgers with `allocAt` /
`pairsAt`; vectors are compared through `vec_ext`.
-/
namespace ErdosVerif.Model

def getQ (v : Vec) (k : Res) : Nat := (AList.get? v k).getD 0

def pairsAt : List (Res × Nat) → Res → Nat
  | [], _ => 0
  | (r, q) :: t, x => (if r = x then q else 0) + pairsAt t x

def allocAt : AList Comp (List (Res × Nat)) → Res → Nat
  | [], _ => 0
  | (_, l) :: t, x => pairsAt l x + allocAt t x

@[simp] theorem pairsAt_nil (x : Res) : pairsAt [] x = 0 := rfl
@[simp] theorem allocAt_nil (x : Res) : allocAt [] x = 0 := rfl

theorem pairsAt_append (l₁ l₂ : List (Res × Nat)) (x : Res) :
    pairsAt (l₁ ++ l₂) x = pairsAt l₁ x + pairsAt l₂ x := by
  induction l₁ with
  | nil => simp
  | cons p t ih => obtain ⟨r, q⟩ := p; simp [pairsAt, ih]; omega

theorem pairsAt_take_drop (l : List (Res × Nat)) (n : Nat) (x : Res) :
    pairsAt (l.take n) x + pairsAt (l.drop n) x = pairsAt l x := by
  rw [← pairsAt_append, List.take_append_drop]

section AListLemmas
variable {κ υ : Type} [DecidableEq κ]

theorem AList.get?_set (l : AList κ υ) (k x : κ) (v : υ) :
    AList.get? (AList.set l k v) x = if k = x then some v else AList.get? l x := by
  fun_induction AList.set l k v <;> grind [AList.get?]

theorem AList.keys_set_of_mem (l : AList κ υ) (k : κ) (v : υ) (h : k ∈ AList.keys l) :
    AList.keys (AList.set l k v) = AList.keys l := by
  fun_induction AList.set l k v <;> simp_all [eq_comm]

theorem AList.keys_set_of_not_mem (l : AList κ υ) (k : κ) (v : υ) (h : k ∉ AList.keys l) :
    AList.keys (AList.set l k v) = AList.keys l ++ [k] := by
  fun_induction AList.set l k v <;> simp_all

theorem AList.mem_keys_iff (l : AList κ υ) (k : κ) : k ∈ AList.keys l ↔ ∃ v, AList.get? l k = some v := by
  fun_induction AList.get? l k <;> simp_all [eq_comm]

theorem AList.mem_set (l : AList κ υ) (k : κ) (v : υ) (p : κ × υ) (h : p ∈ AList.set l k v) :
    p = (k, v) ∨ p ∈ l := by
  fun_induction AList.set l k v <;> grind

theorem AList.nodup_set (l : AList κ υ) (k : κ) (v : υ) (h : (AList.keys l).Nodup) :
    (AList.keys (AList.set l k v)).Nodup := by
  by_cases hk : k ∈ AList.keys l
  · rw [AList.keys_set_of_mem _ _ _ hk]; exact h
  · rw [AList.keys_set_of_not_mem _ _ _ hk]; exact nodup_concat h hk

theorem AList.get?_eq_none_of_not_mem (l : AList κ υ) (k : κ) (h : k ∉ AList.keys l) :
    AList.get? l k = none :=
  Option.eq_none_iff_forall_ne_some.mpr fun v hv => h ((AList.mem_keys_iff l k).mpr ⟨v, hv⟩)

theorem AList.get?_isSome_of_mem (l : AList κ υ) (k : κ) (h : k ∈ AList.keys l) :
    (AList.get? l k).isSome = true :=
  Option.isSome_iff_exists.mpr ((AList.mem_keys_iff l k).mp h)

theorem AList.mem_keys_of_get?_some (l : AList κ υ) (k : κ) (v : υ) (h : AList.get? l k = some v) :
    k ∈ AList.keys l :=
  (AList.mem_keys_iff l k).mpr ⟨v, h⟩

theorem AList.mem_of_get?_some (l : AList κ υ) (k : κ) (v : υ) (h : AList.get? l k = some v) :
    (k, v) ∈ l := by
  fun_induction AList.get? l k <;> simp_all

theorem AList.mem_erase (l : AList κ υ) (k : κ) (p : κ × υ) (h : p ∈ AList.erase l k) : p ∈ l := by
  fun_induction AList.erase l k <;> grind

theorem AList.keys_erase (l : AList κ υ) (k : κ) : AList.keys (AList.erase l k) = (AList.keys l).erase k := by
  fun_induction AList.erase l k <;> simp_all

theorem AList.keys_erase_subset (l : AList κ υ) (k x : κ) (h : x ∈ AList.keys (AList.erase l k)) :
    x ∈ AList.keys l :=
  List.mem_of_mem_erase (AList.keys_erase l k ▸ h)

theorem AList.get?_erase_ne (l : AList κ υ) (k x : κ) (h : k ≠ x) :
    AList.get? (AList.erase l k) x = AList.get? l x := by
  fun_induction AList.erase l k <;> grind [AList.get?]

end AListLemmas

theorem getQ_set (v : Vec) (k x : Res) (n : Nat) :
    getQ (AList.set v k n) x = if k = x then n else getQ v x := by
  unfold getQ; rw [AList.get?_set]; split <;> rfl

theorem getQ_of_not_mem (v : Vec) (k : Res) (h : k ∉ AList.keys v) : getQ v k = 0 := by
  unfold getQ; rw [AList.get?_eq_none_of_not_mem v k h]; rfl

theorem getQ_cons (r : Res) (q : Nat) (t : Vec) (x : Res) :
    getQ ((r, q) :: t) x = if r = x then q else getQ t x := by
  unfold getQ; simp only [AList.get?]; split <;> rfl

theorem vec_ext (v w : Vec) (hk : AList.keys v = AList.keys w) (hnd : (AList.keys v).Nodup)
    (hq : ∀ k, getQ v k = getQ w k) : v = w := by
  induction v generalizing w with
  | nil => cases w with
    | nil => rfl
    | cons p t => simp [AList.keys] at hk
  | cons p t ih =>
    obtain ⟨a, b⟩ := p
    cases w with
    | nil => simp [AList.keys] at hk
    | cons p' t' =>
      obtain ⟨a', b'⟩ := p'
      simp [AList.keys] at hk hnd
      obtain ⟨ha, hkt⟩ := hk
      subst ha
      have hb : b = b' := by simpa [getQ_cons] using hq a
      subst hb
      have : t = t' := by
        apply ih
        · simpa [AList.keys] using hkt
        · simpa [AList.keys] using hnd.2
        · intro k
          by_cases hka : a = k
          · subst hka
            rw [getQ_of_not_mem t a (by simpa [AList.keys] using hnd.1)]
            rw [getQ_of_not_mem t' a (by
              have : AList.keys t' = AList.keys t := by simp [AList.keys, hkt]
              rw [this]; simpa [AList.keys] using hnd.1)]
          · simpa [getQ_cons, hka] using hq k
      subst this; rfl

theorem scan_keys (k : Res) (v : Vec) (n : Nat) :
    AList.keys (Resources.scan k v n).1 = AList.keys v := by
  fun_induction Resources.scan k v n <;> simp_all

theorem scan_conserve (k : Res) (v : Vec) (n : Nat) (hnd : (AList.keys v).Nodup) :
    ∀ x, getQ (Resources.scan k v n).1 x + pairsAt (Resources.scan k v n).2 x = getQ v x := by
  induction v generalizing n with
  | nil => intro x; simp [Resources.scan, getQ, AList.get?]
  | cons p rest ih =>
    obtain ⟨r, q⟩ := p
    simp only [AList.keys_cons, List.nodup_cons] at hnd
    -- `r` is not a key of `rest`: the scan of `rest` neither holds nor records anything under `r`
    have e1 := getQ_of_not_mem rest r hnd.1
    have e2 : ∀ m, getQ (Resources.scan k rest m).1 r = 0 := fun m =>
      getQ_of_not_mem _ r (by rw [scan_keys]; exact hnd.1)
    have e3 : ∀ m, pairsAt (Resources.scan k rest m).2 r = 0 := fun m => by have := ih m hnd.2 r; omega
    intro x
    have i1 := ih n hnd.2 x
    have i2 := ih (n - q) hnd.2 x
    simp only [Resources.scan]
    by_cases hx : r = x
    · subst hx
      repeat' split
      all_goals simp only [getQ_cons, pairsAt, if_true, e3]; omega
    · repeat' split
      all_goals simp only [getQ_cons, pairsAt, hx, if_false]; omega

theorem scan_recorded (k : Res) (v : Vec) (n : Nat) :
    ∀ p ∈ (Resources.scan k v n).2, p.1 ∈ AList.keys v ∧ p.1.matches k = true := by
  induction v generalizing n with
  | nil => simp [Resources.scan]
  | cons p rest ih =>
    obtain ⟨r, q⟩ := p
    intro p hp
    simp only [Resources.scan] at hp
    split at hp
    · rename_i hm
      split at hp
      · simp only [List.mem_singleton] at hp; subst hp; simp [hm]
      · split at hp
        · simp only [List.mem_cons] at hp
          rcases hp with hp | hp
          · subst hp; simp [hm]
          · have := ih _ p hp; simp [this.1, this.2]
        · have := ih _ p hp; simp [this.1, this.2]
    · split at hp
      · simp at hp
      · have := ih _ p hp; simp [this.1, this.2]

def pairsSum : List (Res × Nat) → Nat
  | [] => 0
  | (_, q) :: t => q + pairsSum t

/-- A successful allocation takes exactly the requested quantity: along the scan, an entry that
matches gives `min q rem` and passes `rem - q` on. -/
theorem scan_total (k : Res) (v : Vec) (n : Nat) (h : n ≤ sumMatching k v) :
    pairsSum (Resources.scan k v n).2 = n := by
  fun_induction Resources.scan k v n <;> simp_all [sumMatching, pairsSum] <;> omega

theorem allocAt_set (a : AList Comp (List (Res × Nat))) (c : Comp) (l : List (Res × Nat)) (x : Res) :
    allocAt (AList.set a c l) x + pairsAt ((AList.get? a c).getD []) x = allocAt a x + pairsAt l x := by
  induction a with
  | nil => simp [AList.set, AList.get?, allocAt]
  | cons p t ih =>
    obtain ⟨c', l'⟩ := p
    simp only [AList.set, AList.get?]
    by_cases h : c' = c
    · simp [h, allocAt]; omega
    · simp only [h, if_false, allocAt]; omega

theorem allocAt_record (a : AList Comp (List (Res × Nat))) (c : Comp) (rec : List (Res × Nat)) (x : Res) :
    allocAt (Resources.record a c rec) x = allocAt a x + pairsAt rec x := by
  unfold Resources.record
  have := allocAt_set a c ((AList.get? a c).getD [] ++ rec) x
  rw [pairsAt_append] at this
  omega

theorem allocAt_erase (a : AList Comp (List (Res × Nat))) (c : Comp) (x : Res) :
    allocAt (AList.erase a c) x + pairsAt ((AList.get? a c).getD []) x = allocAt a x := by
  induction a with
  | nil => simp [AList.erase, AList.get?]
  | cons p t ih =>
    obtain ⟨c', l'⟩ := p
    simp only [AList.erase, AList.get?]
    by_cases h : c' = c
    · simp [h, allocAt]; omega
    · simp only [h, if_false, allocAt]; omega

theorem giveBack_keys (v : Vec) (l : List (Res × Nat)) (h : ∀ p ∈ l, p.1 ∈ AList.keys v) :
    AList.keys (Resources.giveBack v l) = AList.keys v := by
  induction l generalizing v with
  | nil => rfl
  | cons p t ih =>
    obtain ⟨k, q⟩ := p
    simp only [Resources.giveBack]
    have hk : k ∈ AList.keys v := h (k, q) (by simp)
    have e := AList.keys_set_of_mem v k ((AList.get? v k).getD 0 + q) hk
    rw [ih _ (by intro p hp; rw [e]; exact h p (by simp [hp])), e]

theorem giveBack_getQ (v : Vec) (l : List (Res × Nat)) (x : Res) :
    getQ (Resources.giveBack v l) x = getQ v x + pairsAt l x := by
  induction l generalizing v with
  | nil => simp [Resources.giveBack]
  | cons p t ih =>
    obtain ⟨k, q⟩ := p
    simp only [Resources.giveBack, pairsAt]
    rw [ih, getQ_set]
    by_cases h : k = x
    · subst h; simp [getQ]; omega
    · simp [h]

end ErdosVerif.Model
