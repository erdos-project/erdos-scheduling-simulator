import ErdosVerif.Lemmas.SimAct
import ErdosVerif.Lemmas.SimLoop
/-!
Every handler of the simulator model is a sequence of the steps `Act` lists: for an assertion
`I` closed under them (`Closed I W`), `I` holds when a handler returns and `W` when it raises.
Likewise for the loop of `simulate()` and an assertion that is also closed under `Tick`.

A verification condition here has one of two shapes. Either the state is the one some call
returned in, and `I` is a hypothesis about it; or it is that state with some fields replaced by
a block of writes, and the goal follows by the one step that is that block (`C.step h (.name …)`).
A block never needs two steps: where the model writes twice with nothing in between that could
use `I`, `Act` has the two writes as one step.
-/
open Std.Do
set_option mvcgen.warning false

namespace ErdosVerif.Model.Sim
open Heap

variable {I : Ghost → SimS → Prop} {W : SimS → Prop}

abbrev Hold (I : Ghost → SimS → Prop) (γ : Ghost) : Assertion (.except SErr (.arg SimS .pure)) := fun s => ⌜I γ s⌝

abbrev Raise (W : SimS → Prop) : SErr → Assertion (.arg SimS .pure) := fun _ s => ⌜W s⌝

abbrev Holds (I : Ghost → SimS → Prop) (W : SimS → Prop) (γ : Ghost) {α} (x : SimM α) : Prop :=
  ⦃Hold I γ⦄ x ⦃post⟨fun _ => Hold I γ, Raise W⟩⦄

abbrev wLoop (I : Ghost → SimS → Prop) (W : SimS → Prop) (γ : Ghost) {β} :
    PostCond β (.except SErr (.arg SimS .pure)) := post⟨fun _ => Hold I γ, Raise W⟩

theorem Closed.step (C : Closed I W) {γ γ' : Ghost} {s s' : SimS} (h : I γ s) (a : Act γ s γ' s') : I γ' s' := C.act a h

theorem Closed.stop (C : Closed I W) {γ : Ghost} {s s' : SimS} (h : I γ s) (a : Abort γ s s') : W s' := C.abort a h

theorem none_of_forall {α} {o o' : Option α} (h : ∀ a, o' = some a → False) (h' : o = o') : o = none := by
  subst h'
  cases o with
  | none => rfl
  | some a => exact (h a rfl).elim

theorem Hold.assoc {cur : Option SEvent} {ex b c : List SEvent} {owed : List TaskId} {s : SimS}
    (h : I ⟨cur, ex ++ b ++ c, owed⟩ s) : I ⟨cur, ex ++ (b ++ c), owed⟩ s := List.append_assoc .. ▸ h

theorem Hold.nil {cur : Option SEvent} {ex : List SEvent} {owed : List TaskId} {s : SimS} (h : I ⟨cur, ex, owed⟩ s) :
    I ⟨cur, ex ++ [], owed⟩ s := by
  rw [List.append_nil]; exact h

/-- The `.cancel` entry of a cancelled task is written; its event is created next (`mkCancel_w`). Between the two
no assertion is expected to hold: the state is one write away from a state in which the handler holds `γ`. -/
theorem logCancel_w (γ : Ghost) (t : TaskId) (time : Int) :
    ⦃Hold I γ⦄ logE (.cancel t time)
    ⦃post⟨fun _ s => ⌜∃ s1, I γ s1 ∧ s = { s1 with log := s1.log.push (.cancel t time) }⌝, Raise W⟩⦄ := by
  mvcgen [logE]
  exact ⟨_, ‹_›, rfl⟩

theorem kept_of {s s' : SimS} {t : TaskId} {eid : Nat} {fut : AList TaskId Nat} {P Q : Prop}
    (h : s.future.get? t = some eid) (h1 : P ∧ s.future = fut) (h2 : Q ∧ s'.future = fut) : Kept s' eid :=
  .inl ⟨t, by rw [h2.2, ← h1.2]; exact h⟩

theorem restart_taskType (f : SimFlags) (l e : Int) (i : RestartIn) : taskType (restart f l e i).1 = false := by
  rcases restart_type f l e i with h | h <;> rw [h] <;> rfl

theorem restart_ne (f : SimFlags) (l e : Int) (i : RestartIn) {ty : Nat} (h1 : ET.simulatorEnd ≠ ty)
    (h2 : ET.schedulerStart ≠ ty) : (restart f l e i).1 ≠ ty := by
  rcases restart_type f l e i with h | h <;> rw [h] <;> assumption

/-- For the row that belongs to a step with more writes. -/
theorem row_eq (r : Row) (s0 : SimS) :
    ⦃fun s => ⌜s = s0⌝⦄ row r ⦃post⟨fun _ s => ⌜s = { s0 with rows := s0.rows.push r }⌝, fun _ _ => ⌜False⌝⟩⦄ := by
  mvcgen [row]
  subst_vars; rfl

/-- `mkEvent` where the step it belongs to has more writes to come: the state is one write away from a state in which
the handler holds `γ`, and the event is the one made there. -/
theorem mkEvent_mid (γ : Ghost) (ty : Nat) (time : Int) (t : TaskId) (pl : Option PlacementS) :
    ⦃Hold I γ⦄ mkEvent ty time (some t) pl
    ⦃post⟨fun r s => ⌜∃ s1 name, I γ s1 ∧ s = { s1 with nextEid := s1.nextEid + 1 } ∧
            r = eventAt s1 ty time (some name) (some t) pl⌝,
          fun _ s => ⌜I γ s⌝⟩⦄ := by
  mvcgen [mkEvent, uniqueName, getGraph, getTask]
  exact ⟨_, _, ‹_›, rfl, rfl⟩

theorem written_task {gs : Array GraphS} {gi k : Nat} {g : GraphS} {x0 : TaskS} (x' : TaskS) (hg : gs[gi]? = some g)
    (hk : g.task? k = some x0) :
    (gs.setIfInBounds gi (g.setTask k x'))[gi]? = some (g.setTask k x') ∧ (g.setTask k x').task? k = some x' := by
  have h1 : gi < gs.size := by
    rcases Nat.lt_or_ge gi gs.size with h | h
    · exact h
    · rw [Array.getElem?_eq_none h] at hg; cases hg
  have h2 : k < g.tasks.size := by
    unfold GraphS.task? at hk
    rcases Nat.lt_or_ge k g.tasks.size with h | h
    · exact h
    · rw [Array.getElem?_eq_none h] at hk; cases hk
  exact ⟨by simp [h1], by simp [GraphS.task?, GraphS.setTask, h2]⟩

theorem found_task {gs : Array GraphS} {gi k : Nat} {g gr : GraphS} {x0 x x' : TaskS} (hg : gs[gi]? = some g)
    (hk : g.task? k = some x0) (hgr : (gs.setIfInBounds gi (g.setTask k x'))[gi]? = some gr) (hx : gr.task? k = some x) :
    gr = g.setTask k x' ∧ x = x' := by
  have hw := written_task x' hg hk
  cases hw.1.symm.trans hgr
  cases hw.2.symm.trans hx
  exact ⟨rfl, rfl⟩

/-- `finishRemove` reads the task, `taskCall` reads it again; the arguments are ordered so that each is the only
hypothesis of its form once the ones before it are fixed. -/
theorem same_task {gs : Array GraphS} {gi k pid : Nat} {g1 g2 : GraphS} {x1 x2 : TaskS} (_hpid : x1.pool = some pid)
    (hx1 : g1.task? k = some x1) (hg1 : gs[gi]? = some g1) (hx2 : g2.task? k = some x2) (hg2 : gs[gi]? = some g2) :
    g2 = g1 ∧ x2 = x1 := by
  cases hg1.symm.trans hg2
  cases hx1.symm.trans hx2
  exact ⟨rfl, rfl⟩

/-- `placementPlace` reads the task from the state, `startTask` from the graph its caller read. (The arguments that the
proof does not use, here and in `same_read`, `kept_of`, fix which hypotheses `‹_›` finds, as in `same_task`.) -/
theorem same_graph {gs : Array GraphS} {gi k kk : Nat} {g g1 : GraphS} {x1 : TaskS} {pool : Pool} {st : Option Strategy}
    {w : Option Nat} {r : Except PyErr Bool} {P : Prop} (_hp : (pool.placeTask kk x1.strategies st w).2 = r)
    (_hx1 : g1.task? k = some x1) (hg1 : gs[gi]? = some g1) (hg : P ∧ gs[gi]? = some g) : g1 = g :=
  Option.some.inj (hg1.symm.trans hg.2)

theorem same_read {gs : Array GraphS} {gi k kk : Nat} {g g1 : GraphS} {x x1 : TaskS} {pool : Pool} {st : Option Strategy}
    {w : Option Nat} {r : Except PyErr Bool} {P : Prop} (hp : (pool.placeTask kk x1.strategies st w).2 = r)
    (hx1 : g1.task? k = some x1) (hg1 : gs[gi]? = some g1) (hg : P ∧ gs[gi]? = some g) (hx : g.task? k = some x) :
    g1 = g ∧ x1 = x := by
  cases same_graph hp hx1 hg1 hg
  exact ⟨rfl, Option.some.inj (hx1.symm.trans hx)⟩

theorem ne_ok_true {r : Except PyErr Bool} {b : Bool} (h : r = .ok b) (hb : ¬ b = true) : r ≠ .ok true := by
  rw [h]; intro h'; cases h'; exact hb rfl

theorem ne_ok_of_error {r : Except PyErr Bool} {e : PyErr} (h : r = .error e) : r ≠ .ok true := by rw [h]; nofun

theorem ne_of_beq_true {a b c : Nat} (h : (a == b) = true) (hbc : b ≠ c) : a ≠ c := eq_of_beq h ▸ hbc

theorem ne_of_beq_false {a b : Nat} (h : ¬ (a == b) = true) : a ≠ b := fun e => h (e ▸ beq_self_eq_true a)

theorem getLast?_push {α} (a : Array α) (r : α) : (a.push r).toList.getLast? = some r := by simp

theorem ne_ok_of_raised {o : Outcome} {e : PyErr} (h : o = .raised e) : o ≠ .ok := by rw [h]; nofun

theorem cons_of_head? {α} {l : List α} {a : α} (h : l.head? = some a) : l = a :: l.tail := by
  cases l with
  | nil => cases h
  | cons b l => cases Option.some.inj h; rfl

theorem finishRows_eq (t : TaskId) (time : Int) (s1 : SimS) :
    ⦃fun s => ⌜s = s1⌝⦄ finishRows t time
    ⦃post⟨fun _ s => ⌜∃ gr x, s1.graphs[t.g]? = some gr ∧ gr.task? t.t = some x ∧ s = finishRowsOf s1 x gr t time⌝,
          fun _ _ => ⌜∀ gr x, s1.graphs[t.g]? = some gr → gr.task? t.t = some x → False⌝⟩⦄ := by
  mvcgen [finishRows, getTask, getGraph, row] invariants
  · post⟨fun c s => ⌜s = { s1 with rows := c.1.prefix.foldl Array.push s1.rows }⌝,
         fun _ _ => ⌜∀ gr x, s1.graphs[t.g]? = some gr → gr.task? t.t = some x → False⌝⟩
  with subst_vars
  · rw [List.foldl_append]; rfl
  -- the task was read from the graph of the first lookup, the rows are formatted with that of the second
  · rename_i g1 hg1 x hx g2 hg2 _ _ _ _ _
    cases hg1.symm.trans hg2
    exact ⟨g1, x, hg1, hx, rfl⟩
  all_goals grind

/-
The triples below are used as specifications with the ghost argument `γ` left open: `mvcgen` finds it by
unifying the precondition, provided nothing of type `Ghost` is in the context (it would try that first).
So the theorems about handlers take the popped event `ev` and speak of the ghost `{ cur := some ev }`.
-/
section
variable (C : Closed I W)
include C

theorem row_w (γ : Ghost) (r : Row) (hr : neutralRow r = true) : Holds I W γ (row r) := by
  mvcgen [row]
  exact C.step ‹_› (.row _ _ r hr)

theorem logE_w (γ : Ghost) (e : LogE) (he : e.routine = true) : Holds I W γ (logE e) := by
  mvcgen [logE]
  exact C.step ‹_› (.log _ _ e he)

/-- A read of a task whose record is not needed afterwards. -/
theorem getTask_w (γ : Ghost) (t : TaskId) : Holds I W γ (getTask t) := by
  mvcgen [getTask, getGraph] with try first | assumption | exact C.weak ‹_›

theorem liftE_w (γ : Ghost) {α} (e : Except SErr α) : Holds I W γ (liftE e) := by
  mvcgen [liftE] with first | assumption | exact C.weak ‹_›

theorem liftTape_w (γ : Ghost) {α} (x : TapeM α) : Holds I W γ (liftTape x) := by
  mvcgen [liftTape, liftE] with try first | assumption | exact C.weak ‹_›
  all_goals first | exact C.step ‹_› (.draw _ _ _) | exact C.weak (C.step ‹_› (.draw _ _ _))

theorem taskCall_w (γ : Ghost) (t : TaskId) (c : TaskCall) (hc : c.routine = true) : Holds I W γ (taskCall t c) := by
  mvcgen [taskCall, getGraph, setGraph, raiseTask] with try exact C.weak ‹_›
  · exact C.step ‹_› (.call _ _ t c _ _ ‹_› ‹_› hc)
  · exact C.weak (C.step ‹_› (.call _ _ t c _ _ ‹_› ‹_› hc))

/-- `remove_event` of an event whose id was just read from `_future_placement_events`. -/
theorem removeEvent_w (γ : Ghost) (eid : Nat) :
    ⦃fun s => ⌜I γ s ∧ ∃ t, s.future.get? t = some eid⌝⦄ removeEvent eid ⦃post⟨fun _ => Hold I γ, Raise W⟩⦄ := by
  mvcgen [removeEvent] with try exact C.weak (And.left ‹_›)
  exact C.step (And.left ‹_›) (.unqueue _ _ _ _ ‹_› (And.right ‹_›))

theorem logUtilization_w (γ : Ghost) (time : Int) : Holds I W γ (logUtilization time) := by
  have h_row := row_w C γ
  mvcgen [logUtilization, h_row] invariants
  · wLoop I W γ
  · wLoop I W γ
  with try first | assumption | rfl | exact C.weak ‹_›

theorem schedulable_w (γ : Ghost) (time : Int) : Holds I W γ (schedulable time) := by
  have h_tape := liftTape_w C γ (α := List Nat)
  mvcgen [schedulable, getGraph, placedTasks, h_tape] invariants
  · wLoop I W γ
  with try first | assumption | rfl | exact C.weak ‹_›

theorem notifyGraphCompletion_w (γ : Ghost) (gi : Nat) (finish : Int) : Holds I W γ (notifyGraphCompletion gi finish) := by
  mvcgen [notifyGraphCompletion, liftTape, liftE] with try first | assumption | rfl | exact C.weak ‹_›
  · exact C.step ‹_› (.follow _ _ gi _ _ _ (finish + 1) _ ‹_› ‹_›)
  · exact C.weak (C.step ‹_› (.followUp γ _ gi _))
  · exact C.weak (C.step ‹_› (.followUp γ _ gi _))
  · exact C.step ‹_› (.followUp γ _ gi _)

theorem mkEvent_w (γ : Ghost) (ty : Nat) (time : Int) (tid : Option TaskId) (pl : Option PlacementS) (gr : Option Nat)
    (hfin : ty ≠ ET.taskFinished) (hcan : ty ≠ ET.taskCancel) (hwf : tid.isSome = taskType ty) :
    ⦃Hold I γ⦄ mkEvent ty time tid pl gr ⦃post⟨fun r => Hold I { γ with ex := γ.ex ++ [r] }, Raise W⟩⦄ := by
  cases tid
  all_goals mvcgen [mkEvent, uniqueName, getGraph, getTask] with try exact C.weak ‹_›
  all_goals exact C.step ‹_› (.mk γ _ ty time _ _ pl gr hfin hcan hwf rfl)

theorem addEvent_w (γ : Ghost) (e : SEvent) (h : γ.ex.head? = some e) :
    ⦃Hold I γ⦄ addEvent e ⦃post⟨fun _ => Hold I { γ with ex := γ.ex.tail }, Raise W⟩⦄ := by
  mvcgen [addEvent]
  exact C.step ‹_› (.add γ _ e _ (cons_of_head? h))

theorem mkCancel_w (γ : Ghost) (t : TaskId) (time : Int) (h : γ.owed.head? = some t) :
    ⦃fun s => ⌜∃ s1, I γ s1 ∧ s = { s1 with log := s1.log.push (.cancel t time) }⌝⦄
    mkEvent ET.taskCancel time (some t)
    ⦃post⟨fun r => Hold I { γ with ex := γ.ex ++ [r], owed := γ.owed.tail }, Raise W⟩⦄ := by
  mvcgen [mkEvent, uniqueName, getGraph, getTask]
  all_goals obtain ⟨s1, h1, rfl⟩ := ‹∃ _, _›
  all_goals first
    | exact C.step h1 (.payCancel γ s1 t _ time _ (cons_of_head? h))
    | exact C.stop h1 (.payCancel γ s1 t _ time (cons_of_head? h))

/-- Loop invariant of the loops that collect events in a local list. -/
abbrev wLoopEv (I : Ghost → SimS → Prop) (W : SimS → Prop) (γ : Ghost) {β} :
    PostCond (β × List SEvent) (.except SErr (.arg SimS .pure)) :=
  post⟨fun r => Hold I { γ with ex := γ.ex ++ r.2 }, Raise W⟩

theorem placementSkip_w (γ : Ghost) (hγ : γ.owed = []) (time : Int) (p : PlacementS) (drop : Bool) :
    ⦃Hold I γ⦄ placementSkip time p drop ⦃post⟨fun r => Hold I { γ with ex := γ.ex ++ r }, Raise W⟩⦄ := by
  obtain ⟨cur, ex, owed⟩ := γ
  cases hγ
  have h_row := row_w C ⟨cur, ex, []⟩
  have h_tc := taskCall_w C ⟨cur, ex, []⟩
  have h_log := fun t time => logE_w C ⟨cur, ex, []⟩ (.unschedule t time) rfl
  have h_rm := removeEvent_w C ⟨cur, ex, []⟩
  have h_ngc := notifyGraphCompletion_w C
  have h_logc := logCancel_w (I := I) (W := W)
  have h_mkc := mkCancel_w C
  have h_mkg := fun γ time gr => mkEvent_w C γ ET.taskGraphRelease time none none gr (by decide) (by decide) rfl
  have h_mkr := fun γ time tid => mkEvent_w C γ ET.taskRelease time tid none none (by decide) (by decide)
  have h_gt := getTask_w C
  mvcgen [placementSkip, getGraph, setGraph, h_rm, h_row, h_tc, h_log, h_ngc, h_logc, h_mkc, h_mkg, h_mkr, h_gt]
    invariants
  · post⟨fun r s => ⌜I ⟨cur, ex ++ r.2, r.1.suffix.map (⟨p.task.g, ·⟩)⟩ s⌝, Raise W⟩
  · wLoopEv I W ⟨cur, ex, []⟩
  · wLoopEv I W ⟨cur, ex, []⟩
  with try first | assumption | rfl | exact C.weak ‹_› | exact Hold.assoc ‹_› | exact Hold.nil ‹_›
  · exact C.stop ‹_› (.cancelGraph _ _ _ _ time _ _ ‹_› ‹_›)
  · exact Hold.nil (C.step ‹_› (.cancelGraph _ _ _ _ time _ rfl (none_of_forall ‹_› ‹_›) ‹_›))
  · exact ⟨‹_›, _, ‹_›⟩
  · exact C.step ‹_› (.uncache _ _ _)

/-- `taskCall` and `logE` with a fact `K` about the fields they leave alone carried along: what was read before
them (a cached event id) is still true after. -/
theorem taskCall_k (γ : Ghost) (K : SimS → Prop) (hK : ∀ s gs, K s → K { s with graphs := gs }) (t : TaskId)
    (c : TaskCall) (hc : c.routine = true) :
    ⦃fun s => ⌜I γ s ∧ K s⌝⦄ taskCall t c ⦃post⟨fun _ s => ⌜I γ s ∧ K s⌝, Raise W⟩⦄ := by
  mvcgen [taskCall, getGraph, setGraph, raiseTask] with try exact C.weak (And.left ‹_›)
  · exact ⟨C.step (And.left ‹_›) (.call _ _ t c _ _ ‹_› ‹_› hc), hK _ _ (And.right ‹_›)⟩
  · exact C.weak (C.step (And.left ‹_›) (.call _ _ t c _ _ ‹_› ‹_› hc))

theorem logE_k (γ : Ghost) (K : SimS → Prop) (hK : ∀ s l, K s → K { s with log := l }) (e : LogE) (he : e.routine = true) :
    ⦃fun s => ⌜I γ s ∧ K s⌝⦄ logE e ⦃post⟨fun _ s => ⌜I γ s ∧ K s⌝, Raise W⟩⦄ := by
  mvcgen [logE]
  exact ⟨C.step (And.left ‹_›) (.log _ _ e he), hK _ _ (And.right ‹_›)⟩

theorem placementEvents_w (γ : Ghost) (hγ : γ.owed = []) (time : Int) (p : PlacementS) :
    ⦃Hold I γ⦄ placementEvents time p ⦃post⟨fun r => Hold I { γ with ex := γ.ex ++ r }, Raise W⟩⦄ := by
  obtain ⟨cur, ex, owed⟩ := γ
  cases hγ
  refine triple_with (fun s : SimS => s.future) fun fut => ?_
  have h_tc := taskCall_k C ⟨cur, ex, []⟩ (fun s => s.future = fut) (fun _ _ h => h)
  have h_log := logE_k C ⟨cur, ex, []⟩ (fun s => s.future = fut) (fun _ _ h => h)
  have h_skip := placementSkip_w C ⟨cur, ex, []⟩ rfl
  mvcgen [placementEvents, getGraph, getTask, mkEvent, uniqueName, editEvent, reheapify, h_tc, h_log, h_skip]
    with try first | assumption | rfl | exact C.weak (And.left ‹_›) | exact And.left ‹_› | exact Hold.nil (And.left ‹_›) | exact (fun _ _ _ => rfl)
  · exact C.step (And.left ‹_›) (.mkCached _ _ _ _ p.task (some p))
  · exact C.step (And.left ‹_›) (.mkCached _ _ _ _ p.task (some p))
  · exact Hold.nil (C.step (And.left ‹_›) (.edit _ _ _ _ (fun _ => rfl) (kept_of ‹_› ‹_› ‹_›)))

theorem nextSchedulerEvent_w (γ : Ghost) (evTime : Int) :
    ⦃Hold I γ⦄ nextSchedulerEvent evTime ⦃post⟨fun r => Hold I { γ with ex := γ.ex ++ [r] }, Raise W⟩⦄ := by
  have h_sched := schedulable_w C γ
  have h_liftE := liftE_w C γ (α := Int)
  have h_gt := getTask_w C
  mvcgen [nextSchedulerEvent, placedTasks, getGraph, nextOfType, mkEvent, h_sched, h_liftE, h_gt] invariants
  · wLoop I W γ
  with try first | assumption | rfl | exact C.weak ‹_›
  · exact C.step ‹_› (.mk γ _ _ _ none none none none (by decide) (by decide) rfl rfl)
  · exact C.step ‹_› (.mkSched γ _ _ _ (eq_of_beq ‹_›))
  · exact C.step ‹_› (.mk γ _ _ _ none none none none (restart_ne _ _ _ _ (by decide) (by decide))
      (restart_ne _ _ _ _ (by decide) (by decide)) (restart_taskType ..).symm rfl)

theorem handleSchedulerStart_w (ev : SEvent) : Holds I W { cur := some ev } (handleSchedulerStart ev) := by
  have h_sched := schedulable_w C { cur := some ev }
  have h_row := row_w C { cur := some ev }
  have h_util := logUtilization_w C { cur := some ev }
  have h_mk := fun time => mkEvent_w C { cur := some ev } ET.schedulerFinished time none none none (by decide) (by decide) rfl
  have h_add := addEvent_w C
  mvcgen [handleSchedulerStart, placedTasks, h_sched, h_row, h_util, h_mk, h_add]
    with try first | assumption | rfl | exact C.weak ‹_› | exact (fun _ _ => rfl)
  -- the state a step starts from is named first: unifying its result with the goal would also find the state after
  -- the first of two writes
  all_goals have h := ‹I _ _›
  · exact C.weak (C.step h (.schedStart _ _ _))
  · exact C.weak (C.step h (.schedRun _ _ _ _ _ ‹_›))
  · exact C.step h (.schedRun _ _ _ _ _ ‹_›)

/-- `placementEvents` as `__handle_scheduler_finish` calls it: the events it holds are re-timed as `editPending c` says,
`c` being the cached event id read before the call. -/
theorem placementEvents_pending (γ : Ghost) (hγ : γ.owed = []) (c : Option Nat) (time : Int) (p : PlacementS) :
    ⦃fun s => ⌜I γ s ∧ cachedOf s p = c⌝⦄ placementEvents time p
    ⦃post⟨fun r => Hold I { γ with ex := editPending c p γ.ex ++ r }, Raise W⟩⦄ := by
  intro s h
  refine placementEvents_w C { γ with ex := editPending c p γ.ex } hγ time p s (C.step h.1 (.repend γ s c p fun eid hc => ?_))
  have := h.2.trans hc
  unfold cachedOf at this
  split at this
  · split at this
    · exact this
    · cases this
  · cases this

theorem handleSchedulerFinish_w (ev : SEvent) : Holds I W { cur := some ev } (handleSchedulerFinish ev) := by
  have h_row := row_w C
  have h_skip := placementSkip_w C
  have h_pe := placementEvents_pending C
  have h_mke := fun γ time pl => mkEvent_w C γ ET.evictProfile time none pl none (by decide) (by decide) rfl
  have h_mkl := fun γ time pl => mkEvent_w C γ ET.loadProfile time none pl none (by decide) (by decide) rfl
  have h_mku := fun γ time => mkEvent_w C γ ET.logUtilization time none none none (by decide) (by decide) rfl
  have h_next := nextSchedulerEvent_w C { cur := some ev }
  have h_add := addEvent_w C
  have h_gt := getTask_w C
  mvcgen [handleSchedulerFinish, getGraph, h_row, h_skip, h_pe, h_mke, h_mkl, h_mku, h_next, h_add, h_gt] invariants
  · post⟨fun r => Hold I { cur := some ev, ex := r.2 }, Raise W⟩
  · post⟨fun r => Hold I { cur := some ev, ex := r.1.suffix }, Raise W⟩
  with try first | assumption | rfl | exact C.weak ‹_› | exact (fun _ _ => rfl)
  · exact C.step ‹_› (.perm _ _ _ (pySorted_perm _ _).symm)
  · exact C.step ‹_› (.schedDone _ _)

theorem handleTaskCancel_w (ev : SEvent) (hty : ev.ev.etype = ET.taskCancel) :
    ⦃Hold I { cur := some ev }⦄ handleTaskCancel ev ⦃post⟨fun _ => Hold I {}, Raise W⟩⦄ := by
  have h_rm := removeEvent_w C {}
  mvcgen [handleTaskCancel, getTask, getGraph, row, h_rm] with try first | assumption | rfl | exact C.weak ‹_›
  · exact ⟨C.step ‹_› (.countCancel _ _ ev _ rfl hty rfl), _, ‹_›⟩
  · exact C.step ‹_› (.uncache _ _ _)
  · exact C.step ‹_› (.countCancel _ _ ev _ rfl hty rfl)
  all_goals exact C.stop ‹_› (.countCancel _ _ ev rfl hty)

theorem handleTaskRelease_w (ev : SEvent) : Holds I W { cur := some ev } (handleTaskRelease ev) := by
  have h_row := row_w C { cur := some ev }
  have h_tc := taskCall_w C { cur := some ev }
  have h_log := logE_w C { cur := some ev }
  mvcgen [handleTaskRelease, getTask, getGraph, findEvent, editEvent, reheapify, h_row, h_tc, h_log]
    with try first | assumption | rfl | exact C.weak ‹_›
  exact C.step ‹_› (.edit _ _ _ _ (fun _ => rfl) (.inr ‹_›))

theorem handleTaskGraphRelease_w (ev : SEvent) : Holds I W { cur := some ev } (handleTaskGraphRelease ev) := by
  have h_row := row_w C { cur := some ev }
  mvcgen [handleTaskGraphRelease, getGraph, h_row] with try first | assumption | rfl | exact C.weak ‹_›

theorem setPool_w (γ : Ghost) (pid : Nat) (p p' : Pool) (op : PoolOp p p') :
    ⦃fun s => ⌜I γ s ∧ s.pools[pid]? = some p⌝⦄ setPool pid p' ⦃post⟨fun _ => Hold I γ, Raise W⟩⦄ := by
  mvcgen [setPool]
  exact C.step (And.left ‹_›) (.pool _ _ pid p p' (And.right ‹_›) op)

theorem raiseOutcome_w (γ : Ghost) (o : Outcome) : Holds I W γ (raiseOutcome o) := by
  mvcgen [raiseOutcome] with first | assumption | exact C.weak ‹_›

theorem handleProfile_w (ev : SEvent) (load : Bool) : Holds I W { cur := some ev } (handleProfile ev load) := by
  have h_out := raiseOutcome_w C { cur := some ev }
  have h_load := fun pid p prof st w => setPool_w C { cur := some ev } pid p _ (.load prof st w)
  have h_evict := fun pid p prof w => setPool_w C { cur := some ev } pid p _ (.evict prof w)
  mvcgen [handleProfile, getPool, h_out, h_load, h_evict] with try first | assumption | rfl | exact C.weak ‹_›

theorem placementRow_w (γ : Ghost) (t : TaskId) (pid : Nat) (time : Int) (st : Strategy) :
    Holds I W γ (placementRow t pid time st) := by
  have h_row := row_w C γ
  have h_set := fun pid p wi t => setPool_w C γ pid p _ (.read wi t)
  mvcgen [placementRow, getTask, getGraph, getPool, h_row, h_set] with try first | assumption | rfl | exact C.weak ‹_›

theorem handleUpdateWorkload_w (ev : SEvent) : Holds I W { cur := some ev } (handleUpdateWorkload ev) := by
  have h_row := row_w C { cur := some ev }
  have h_mkg := fun time gr => mkEvent_w C { cur := some ev } ET.taskGraphRelease time none none gr (by decide) (by decide) rfl
  have h_mkr := fun time tid => mkEvent_w C { cur := some ev } ET.taskRelease time tid none none (by decide) (by decide)
  have h_mku := fun time => mkEvent_w C { cur := some ev } ET.updateWorkload time none none none (by decide) (by decide) rfl
  have h_add := addEvent_w C
  have h_gt := getTask_w C
  mvcgen [handleUpdateWorkload, releasable, getGraph, h_row, h_mkg, h_mkr, h_mku, h_add, h_gt] invariants
  · wLoop I W { cur := some ev }
  · wLoop I W { cur := some ev }
  with try first | assumption | rfl | exact C.weak ‹_› | exact (fun _ _ => rfl)
  exact C.step ‹_› (.load _ _ ‹_›)

/-- Loop invariant of the loops that pay the cancelled tasks of graph `gi` their bookkeeping. -/
abbrev wLoopOwed (I : Ghost → SimS → Prop) (W : SimS → Prop) (cur : Option SEvent) (gi : Nat) {β} {l : List Nat} :
    PostCond (List.Cursor l × β) (.except SErr (.arg SimS .pure)) :=
  post⟨fun r => Hold I { cur := cur, owed := r.1.suffix.map (⟨gi, ·⟩) }, Raise W⟩

theorem finishNotify_w (t : TaskId) (time : Int) : Holds I W {} (finishNotify t time) := by
  have h_ngc := notifyGraphCompletion_w C
  have h_logc := logCancel_w (I := I) (W := W)
  have h_mkc := mkCancel_w C
  have h_mkg := fun γ time gr => mkEvent_w C γ ET.taskGraphRelease time none none gr (by decide) (by decide) rfl
  have h_mkr := fun γ time tid => mkEvent_w C γ ET.taskRelease time tid none none (by decide) (by decide)
  have h_add := addEvent_w C
  have h_gt := getTask_w C
  mvcgen [finishNotify, getGraph, setGraph, h_ngc, h_logc, h_mkc, h_mkg, h_mkr, h_add, h_gt] invariants
  · wLoopOwed I W none t.g
  · wLoop I W {}
  · wLoopOwed I W none t.g
  · wLoop I W {}
  · wLoopOwed I W none t.g
  · wLoop I W {}
  with try first | assumption | rfl | exact C.weak ‹_› | exact (fun _ _ => rfl)
  · exact C.stop ‹_› (.notifyGraph _ _ t time _ _ ‹_› ‹_›)
  · exact C.step ‹_› (.notifyGraph _ _ t time _ rfl (none_of_forall ‹_› ‹_›) ‹_›)
  · exact C.step ‹_› (.notifyGraph _ _ t time _ rfl (none_of_forall ‹_› ‹_›) ‹_›)

theorem placementNotReady_w (ev : SEvent) (t : TaskId) (p : PlacementS) :
    Holds I W { cur := some ev } (placementNotReady ev t p) := by
  have h_logc := logCancel_w (I := I) (W := W)
  have h_mkc := mkCancel_w C
  have h_add := addEvent_w C
  have h_row := row_w C { cur := some ev }
  have h_liftE := liftE_w C { cur := some ev } (α := Int)
  have h_mkp := mkEvent_mid (I := I) { cur := some ev } ET.taskPlacement
  mvcgen [placementNotReady, getGraph, getTask, setGraph, addEvent, h_logc, h_mkc, h_mkp, h_add, h_row, h_liftE] invariants
  · wLoopOwed I W (some ev) t.g
  · wLoop I W { cur := some ev }
  with try first | assumption | rfl | exact C.weak ‹_› | exact (fun _ _ => rfl)
  · exact C.stop ‹_› (.cancelPlaced _ _ t _ _ _ ‹_› ‹_›)
  · exact C.step ‹_› (.add _ _ _ _ rfl)
  · exact C.step ‹_› (.cancelPlaced _ _ t _ _ rfl (none_of_forall ‹_› ‹_›) ‹_›)
  · exact C.step ‹_› (.uncache _ _ t)
  · obtain ⟨s1, name, h1, rfl, rfl⟩ := ‹∃ _, _›
    exact C.step h1 (.retry _ s1 _ name t (some p))
  · exact fun _ h => C.weak h

theorem handleTaskFinished_w (ev : SEvent) (hty : ev.ev.etype = ET.taskFinished) :
    ⦃Hold I { cur := some ev }⦄ handleTaskFinished ev ⦃post⟨fun _ => Hold I {}, Raise W⟩⦄ := by
  have h_rows := finishRows_eq
  have h_notify := finishNotify_w C
  mvcgen [handleTaskFinished, finishRemove, getTask, getGraph, getPool, setPool, raiseOutcome, logE, taskCall, setGraph,
    raiseTask, h_rows, h_notify] with try first | assumption | rfl | exact C.weak ‹_›
  -- `finishRows` finds the task that was written back
  · obtain ⟨rfl, rfl⟩ := same_task ‹_› ‹_› ‹_› ‹_› ‹_›
    obtain ⟨gr, x, hgr, hx, rfl⟩ := ‹∃ _, _›
    obtain ⟨rfl, rfl⟩ := found_task ‹_› ‹_› hgr hx
    exact C.step ‹_› (.finish _ _ ev _ _ _ _ _ _ rfl hty ‹_› rfl ‹_› ‹_› ‹_› ‹_› ‹_› ‹_›)
  · obtain ⟨rfl, rfl⟩ := same_task ‹_› ‹_› ‹_› ‹_› ‹_›
    exact fun _ h => (h _ _ (written_task _ ‹_› ‹_›).1 (written_task _ ‹_› ‹_›).2).elim
  · obtain ⟨rfl, rfl⟩ := same_task ‹_› ‹_› ‹_› ‹_› ‹_›
    exact C.stop ‹_› (.removedNoFinish _ _ ev _ _ _ _ _ _ _ rfl hty ‹_› ‹_› ‹_› ‹_› ‹_› ‹_› ‹_›)
  -- the second lookup cannot fail
  · grind
  · grind
  -- `remove_task` raised, whatever the exception
  all_goals exact C.weak (C.step ‹_› (.pool _ _ _ _ _ ‹_› (.noRemove _ (ne_ok_of_raised ‹_›))))

/-- The TASK_FINISHED event of a task that has just been placed and started with no work left: the state is the writes
of that away from a state in which the handler holds the popped event. -/
theorem mkEventNow_w (ev : SEvent) (t : TaskId) (time : Int) (htime : time = ev.ev.time) :
    ⦃fun s => ⌜∃ (s1 : SimS) (fuzzed a : Int) (tape : List Draw) (pid : Nat) (pool : Pool) (gr : GraphS) (x : TaskS)
        (st : Option Strategy) (w : Option Nat), I { cur := some ev } s1 ∧ Placed s1 t pid pool gr x st w ∧
        (x.doStart time fuzzed).2 = none ∧ (x.doStart time fuzzed).1.remainingTime = .ok a ∧ (a == 0) = true ∧
        s = { s1 with pools := s1.pools.setIfInBounds pid (pool.placeTask (gid t) x.strategies st w).1,
                      log := (s1.log.push (.place t pid time)).push (.start t time fuzzed pid),
                      tape := tape,
                      graphs := s1.graphs.setIfInBounds t.g (gr.setTask t.t (x.doStart time fuzzed).1) }⌝⦄
    mkEvent ET.taskFinished time (some t)
    ⦃post⟨fun r => Hold I { cur := some ev, ex := [r] }, Raise W⟩⦄ := by
  mvcgen [mkEvent, uniqueName, getGraph, getTask]
  all_goals obtain ⟨s1, fuzzed, a, tape, pid, pool, gr, x, st, w, h, hP, hstart, hr, ha, rfl⟩ := ‹∃ _, _›
  all_goals first
    | exact C.step h (.placeNow _ s1 t time fuzzed tape pid pool gr x st w a _ hP hstart ev rfl htime hr ha)
    | exact C.stop h (.placedStarted _ s1 t time fuzzed tape pid pool gr x st w hP hstart ev rfl htime)

theorem placementPlace_w (ev : SEvent) (t : TaskId) (p : PlacementS) (g : GraphS) (h : g.isReadyToRun t.t = true) :
    ⦃fun s => ⌜I { cur := some ev } s ∧ s.graphs[t.g]? = some g⌝⦄ placementPlace ev t p g h
    ⦃post⟨fun _ => Hold I { cur := some ev }, Raise W⟩⦄ := by
  have h_mkf := fun t => mkEventNow_w C ev t ev.ev.time rfl
  have h_mkp := mkEvent_mid (I := I) { cur := some ev } ET.taskPlacement
  have h_add := addEvent_w C
  have h_prow := placementRow_w C { cur := some ev }
  have h_row := row_w C { cur := some ev }
  mvcgen [placementPlace, getTask, getGraph, getPool, setPool, raisePlace, logE, liftTape, liftE, startTask, setGraph,
    raiseTask, addEvent, h_mkf, h_mkp, h_prow, h_row]
    with try first | assumption | rfl | exact C.weak (And.left ‹_›) | exact C.weak ‹_› | exact (fun _ _ => rfl)
  all_goals subst_vars
  -- the task started (the first five conditions that are left, named by their numbers): the two reads of its record agree,
  -- and the third finds what was written back
  case' vc2 | vc5 | vc7 | vc8 | vc9 =>
    obtain ⟨rfl, rfl⟩ := same_read ‹_› ‹_› ‹_› ‹_› ‹_›
    have h0 := ‹I _ _ ∧ _›
  · obtain ⟨rfl, rfl⟩ := found_task h0.2 ‹_› ‹_› ‹_›
    exact ⟨_, _, _, _, _, _, _, _, _, _, h0.1, ⟨‹_›, h0.2, ‹_›, h, ‹_›⟩, ‹_›, ‹_›, ‹_›, rfl⟩
  · obtain ⟨rfl, rfl⟩ := found_task h0.2 ‹_› ‹_› ‹_›
    exact C.step h0.1 (.place _ _ t _ _ _ _ _ _ _ _ _ _ ⟨‹_›, h0.2, ‹_›, h, ‹_›⟩ ‹_› ev rfl rfl ‹_› ‹_›)
  · exact C.stop h0.1 (.placedStarted _ _ t _ _ _ _ _ _ _ _ _ ⟨‹_›, h0.2, ‹_›, h, ‹_›⟩ ‹_› ev rfl rfl)
  · exact C.stop h0.1 (.placedStarted _ _ t _ _ _ _ _ _ _ _ _ ⟨‹_›, h0.2, ‹_›, h, ‹_›⟩ ‹_› ev rfl rfl)
  · exact C.stop h0.1 (.placedStarted _ _ t _ _ _ _ _ _ _ _ _ ⟨‹_›, h0.2, ‹_›, h, ‹_›⟩ ‹_› ev rfl rfl)
  · exact C.step ‹_› (.add _ _ _ _ rfl)
  · exact C.step ‹_› (.uncache _ _ t)
  · exact C.step ‹_› (.uncache _ _ t)
  -- the pool took the task, then the handler raised
  all_goals have h0 := ‹I _ _ ∧ _›
  · obtain ⟨rfl, rfl⟩ := same_read ‹_› ‹_› ‹_› ‹_› ‹_›
    exact C.stop h0.1 (.placedNoStart _ _ t _ _ _ _ _ _ _ _ _ _ ⟨‹_›, h0.2, ‹_›, h, ‹_›⟩ ‹_›)
  · cases same_graph ‹_› ‹_› ‹_› h0
    exact ((‹∀ x : TaskS, _ → False›) _ ‹_›).elim
  · cases same_graph ‹_› ‹_› ‹_› h0
    exact C.stop h0.1 (.placedNoDraw _ _ t _ _ _ _ _ _ _ _ ⟨‹_›, h0.2, ‹_›, h, ‹_›⟩)
  · cases same_graph ‹_› ‹_› ‹_› h0
    exact C.stop h0.1 (.placedNoStrategy _ _ t _ _ _ _ _ _ _ ⟨‹_›, h0.2, ‹_›, h, ‹_›⟩)
  -- the pool did not take the task: retry in a microsecond
  · exact C.step h0.1 (.pool _ _ _ _ _ ‹_› (.noPlace _ _ _ _ (ne_ok_true ‹_› ‹_›)))
  · obtain ⟨s1, name, h1, rfl, rfl⟩ := ‹∃ _, _›
    exact C.step h1 (.retry _ s1 _ name t (some p))
  · exact fun _ h => C.weak h
  -- `place_task` raised, whatever the exception
  all_goals exact C.weak (C.step h0.1 (.pool _ _ _ _ _ ‹_› (.noPlace _ _ _ _ (ne_ok_of_error ‹_›))))

theorem handleTaskPlacement_w (ev : SEvent) : Holds I W { cur := some ev } (handleTaskPlacement ev) := by
  have h_pp := placementPlace_w C ev
  have h_nr := placementNotReady_w C ev
  mvcgen [handleTaskPlacement, getGraph, h_pp, h_nr] with try first | assumption | rfl | exact C.weak ‹_›

/-- `__handle_event` from wherever the `.pop` entry of the popped event leads to a state in which the handler holds it. -/
theorem handleEvent_from (ev : SEvent) {P : Assertion (.except SErr (.arg SimS .pure))}
    (h_pop : ⦃P⦄ logE (.pop ev.ev.time ev.ev.etype) ⦃post⟨fun _ => Hold I { cur := some ev }, Raise W⟩⦄) :
    ⦃P⦄ handleEvent ev ⦃post⟨fun b s => ⌜I {} s ∧ (b = true → EndLast s)⌝, Raise W⟩⦄ := by
  have h_row := row_w C { cur := some ev } [istr ev.ev.time, "SIMULATOR_START"] rfl
  have h_cancel := handleTaskCancel_w C ev
  have h_prof := handleProfile_w C ev
  have h_fin := handleTaskFinished_w C ev
  have h_tgr := handleTaskGraphRelease_w C ev
  have h_rel := handleTaskRelease_w C ev
  have h_upd := handleUpdateWorkload_w C ev
  have h_place := handleTaskPlacement_w C ev
  have h_ss := handleSchedulerStart_w C ev
  have h_sf := handleSchedulerFinish_w C ev
  have h_util := logUtilization_w C { cur := some ev }
  have h_end := fun a b c d e f => row_eq [istr ev.ev.time, "SIMULATOR_END", a, b, c, d, e, f]
  mvcgen [handleEvent, h_pop, h_row, h_end, h_cancel, h_prof, h_fin, h_tgr, h_rel, h_upd, h_place, h_ss, h_sf, h_util]
    with try first | assumption | rfl | exact C.weak ‹_› | exact eq_of_beq ‹_› | exact ⟨‹_›, nofun⟩
  -- the event is let go when its handler is through, unless it was a TASK_CANCEL or a TASK_FINISHED event (the type
  -- tests before this one have failed, or this one excludes the two types)
  all_goals try exact ⟨C.step ‹I _ _› (.done _ _ ev rfl
    (by first | exact ne_of_beq_false ‹_› | exact ne_of_beq_true ‹_› (by decide))
    (by first | exact ne_of_beq_false ‹_› | exact ne_of_beq_true ‹_› (by decide))), nofun⟩
  -- SIMULATOR_END
  subst_vars
  refine ⟨C.step ‹I _ _› (.simEnd _ _ ev rfl (eq_of_beq ‹_›) _ _), ?_⟩
  exact ⟨rfl, _, _, getLast?_push _ _⟩

theorem handleEvent_w (ev : SEvent) :
    ⦃Hold I { cur := some ev }⦄ handleEvent ev ⦃post⟨fun b s => ⌜I {} s ∧ (b = true → EndLast s)⌝, Raise W⟩⦄ := by
  refine handleEvent_from C ev ?_
  mvcgen [logE]
  exact C.step ‹_› (.pop _ _ ev rfl)

theorem init_w : Holds I W {} init := by
  have h_row := row_w C {}
  have h_util := logUtilization_w C {}
  have h_mk := fun ty time h1 h2 h3 => mkEvent_w C {} ty time none none none h1 h2 h3
  have h_add := addEvent_w C
  mvcgen [init, h_row, h_util, h_mk, h_add] invariants
  · wLoop I W {}
  with try first | assumption | rfl | exact C.weak ‹_› | exact (fun _ _ => rfl) | decide

end

section
variable (C : ClosedTick I W)
include C

theorem mkEventDue_w (γ : Ghost) (t : TaskId) (time : Int) :
    ⦃Hold I γ⦄ mkEvent ET.taskFinished time (some t) ⦃post⟨fun r => Hold I { γ with ex := γ.ex ++ [r] }, Raise W⟩⦄ := by
  mvcgen [mkEvent, uniqueName, getGraph, getTask] with try exact C.weak ‹_›
  exact C.tick (.mkDue γ _ t time _) ‹_›

theorem step_w (dt : Int) : Holds I W {} (step dt) := by
  have h_set := fun pid p => setPool_w C.toClosed {} pid p _ (.profiles dt)
  have h_mk := mkEventDue_w C
  have h_add := addEvent_w C.toClosed
  mvcgen [step, getPool, getTask, getGraph, taskCall, setGraph, raiseTask, advanceClock, h_set, h_mk, h_add] invariants
  · wLoop I W {}
  · wLoop I W {}
  · wLoop I W {}
  · post⟨fun r => Hold I { ex := r.2 }, Raise W⟩
  · post⟨fun r => Hold I { ex := r.1.suffix }, Raise W⟩
  with try first | assumption | rfl | exact C.weak ‹_› | exact (fun _ _ => rfl)
  · exact C.tick (.stepTask _ _ _ _ dt _ _ ‹_› ‹_›) ‹_›
  · exact C.tick (.stepTask _ _ _ _ dt _ _ ‹_› ‹_›) ‹_›
  · exact C.tick (.clock _ _ dt rfl (by omega)) ‹_›

theorem iter_w : ⦃Hold I {}⦄ iter ⦃post⟨fun b s => ⌜I {} s ∧ (b = true → EndLast s)⌝, Raise W⟩⦄ :=
  iter_triple (Q := fun _ _ => I {}) (H := fun e => I { cur := some e }) (fun _ => C.weak)
    (fun _ _ dt h0 s hs => step_w C dt s (hs.1 ▸ h0)) (handleEvent_w C.toClosed)
    (fun _ _ _ _ _ _ _ h _ => ⟨h, nofun⟩) (fun _ _ _ _ _ _ _ h _ hp hdue => C.tick (.take _ _ _ _ rfl hp hdue) h)

theorem simulate_closed (s0 : SimS) (fuel : Nat) (h : I {} s0) :
    ((simulate s0 fuel).1 = none → I {} (simulate s0 fuel).2 ∧ EndLast (simulate s0 fuel).2) ∧ W (simulate s0 fuel).2 :=
  simulate_loop (fun _ => C.weak) (init_w C.toClosed) (iter_w C) s0 fuel h

end

end ErdosVerif.Model.Sim
