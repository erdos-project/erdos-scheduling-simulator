/-
Basic facts about the z3 constraint language (`Model/Z3m.lean`) and about which assertions
`gen inst` contains.
-/
import ErdosVerif.Model.Z3m
namespace ErdosVerif.Z3m

variable {V : Type}

theorem evalAll_eq (σ : Assign V) (l : List (BoolT V)) :
    BoolT.evalAll σ l = l.all (fun a => a.eval σ) := by
  induction l with
  | nil => simp [BoolT.evalAll]
  | cons a l ih => simp [BoolT.evalAll, ih]

theorem evalAny_eq (σ : Assign V) (l : List (BoolT V)) :
    BoolT.evalAny σ l = l.any (fun a => a.eval σ) := by
  induction l with
  | nil => simp [BoolT.evalAny]
  | cons a l ih => simp [BoolT.evalAny, ih]

@[simp] theorem eval_and (σ : Assign V) (l : List (BoolT V)) :
    (BoolT.and l).eval σ = l.all (fun a => a.eval σ) := by
  rw [BoolT.eval, evalAll_eq]

@[simp] theorem eval_or (σ : Assign V) (l : List (BoolT V)) :
    (BoolT.or l).eval σ = l.any (fun a => a.eval σ) := by
  rw [BoolT.eval, evalAny_eq]

@[simp] theorem eval_imp (σ : Assign V) (a b : BoolT V) :
    (BoolT.imp a b).eval σ = (!a.eval σ || b.eval σ) := by rw [BoolT.eval]
@[simp] theorem eval_iff (σ : Assign V) (a b : BoolT V) :
    (BoolT.iff a b).eval σ = (a.eval σ == b.eval σ) := by rw [BoolT.eval]
@[simp] theorem eval_not (σ : Assign V) (a : BoolT V) :
    (BoolT.not a).eval σ = !a.eval σ := by rw [BoolT.eval]
@[simp] theorem eval_bvar (σ : Assign V) (v : V) : (BoolT.var v).eval σ = σ.b v := by rw [BoolT.eval]
@[simp] theorem eval_tt (σ : Assign V) : (BoolT.tt : BoolT V).eval σ = true := by rw [BoolT.eval]
@[simp] theorem eval_ff (σ : Assign V) : (BoolT.ff : BoolT V).eval σ = false := by rw [BoolT.eval]
@[simp] theorem eval_le (σ : Assign V) (a b : IntT V) :
    (BoolT.le a b).eval σ = decide (a.eval σ ≤ b.eval σ) := by rw [BoolT.eval]
@[simp] theorem eval_ge (σ : Assign V) (a b : IntT V) :
    (BoolT.ge a b).eval σ = decide (a.eval σ ≥ b.eval σ) := by rw [BoolT.eval]
@[simp] theorem eval_lt (σ : Assign V) (a b : IntT V) :
    (BoolT.lt a b).eval σ = decide (a.eval σ < b.eval σ) := by rw [BoolT.eval]
@[simp] theorem eval_eqI (σ : Assign V) (a b : IntT V) :
    (BoolT.eqI a b).eval σ = decide (a.eval σ = b.eval σ) := by rw [BoolT.eval]
@[simp] theorem eval_eqV (σ : Assign V) (a b : BvT V) :
    (BoolT.eqV a b).eval σ = (a.eval σ == b.eval σ) := by rw [BoolT.eval]
@[simp] theorem eval_neV (σ : Assign V) (a b : BvT V) :
    (BoolT.neV a b).eval σ = !(a.eval σ == b.eval σ) := by rw [BoolT.eval]

@[simp] theorem eval_ilit (σ : Assign V) (n : Int) : (IntT.lit n : IntT V).eval σ = n := by rw [IntT.eval]
@[simp] theorem eval_ivar (σ : Assign V) (v : V) : (IntT.var v).eval σ = σ.i v := by rw [IntT.eval]
@[simp] theorem eval_sub (σ : Assign V) (a b : IntT V) :
    (IntT.sub a b).eval σ = a.eval σ - b.eval σ := by rw [IntT.eval]
@[simp] theorem eval_add2 (σ : Assign V) (a b : IntT V) :
    (IntT.add [a, b]).eval σ = a.eval σ + b.eval σ := by
  rw [IntT.eval, IntT.evalSum, IntT.evalSum, IntT.evalSum]; omega

@[simp] theorem eval_vvar (σ : Assign V) (v : V) (w : Nat) : (BvT.var v w).eval σ = fit w (σ.v v) := rfl
@[simp] theorem eval_vlit (σ : Assign V) (b : Bits) : (BvT.lit b : BvT V).eval σ = b := rfl
@[simp] theorem eval_extract (σ : Assign V) (hi lo : Nat) (a : BvT V) :
    (BvT.extract hi lo a).eval σ = ((a.eval σ).drop lo).take (hi + 1 - lo) := rfl
@[simp] theorem eval_xor (σ : Assign V) (a b : BvT V) :
    (BvT.xor a b).eval σ = bxor (a.eval σ) (b.eval σ) := rfl

theorem imp_holds (σ : Assign V) (a b : BoolT V) :
    (BoolT.imp a b).eval σ = true ↔ (a.eval σ = true → b.eval σ = true) := by
  rw [eval_imp]; cases a.eval σ <;> simp

theorem iff_holds (σ : Assign V) (a b : BoolT V) :
    (BoolT.iff a b).eval σ = true ↔ (a.eval σ = true ↔ b.eval σ = true) := by
  rw [eval_iff]; cases a.eval σ <;> cases b.eval σ <;> simp

/-- The hard assertions of `gen I`, family by family. -/
structure Rows (I : Inst) (σ : Assign Var) : Prop where
  task : ∀ t, t < I.nT → ∀ a ∈ I.cTask t, a.eval σ = true
  deps : ∀ c, c < I.nT → ∀ a ∈ I.cDeps c, a.eval σ = true
  pair : ∀ w, w < I.nW → ∀ p ∈ I.pairs, ∀ a ∈ I.cPair w p, a.eval σ = true
  objective : ∀ a ∈ I.cObjective, a.eval σ = true

theorem sat_iff {I : Inst} {σ : Assign Var} : sat σ (gen I) ↔ Rows I σ := by
  simp only [sat, gen, Inst.hard, List.forall_mem_append, List.forall_mem_flatMap, List.mem_range]
  exact ⟨fun ⟨⟨⟨h1, h2⟩, h3⟩, h4⟩ => ⟨h1, h2, h3, h4⟩, fun r => ⟨⟨⟨r.task, r.deps⟩, r.pair⟩, r.objective⟩⟩

theorem fit_length (w : Nat) (l : Bits) : (fit w l).length = w := by
  simp [fit, zeros]

end ErdosVerif.Z3m
