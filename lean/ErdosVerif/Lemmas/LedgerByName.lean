import ErdosVerif.Lemmas.LedgerRefusal
import ErdosVerif.Lemmas.PoolOps
/-!
Per resource *type* (name) accounting, refusals at worker level.
-/
namespace ErdosVerif.Model

def byName : Vec → String → Nat
  | [], _ => 0
  | (r, q) :: t, n => (if r.name = n then q else 0) + byName t n

def pairsByName : List (Res × Nat) → String → Nat
  | [], _ => 0
  | (r, q) :: t, n => (if r.name = n then q else 0) + pairsByName t n

def allocByName : AList Comp (List (Res × Nat)) → String → Nat
  | [], _ => 0
  | (_, l) :: t, n => pairsByName l n + allocByName t n

def sumOver : List Res → (Res → Nat) → Nat
  | [], _ => 0
  | k :: t, f => f k + sumOver t f

theorem sumOver_add (K : List Res) (f g : Res → Nat) :
    sumOver K (fun k => f k + g k) = sumOver K f + sumOver K g := by
  induction K with
  | nil => rfl
  | cons k t ih => simp only [sumOver, ih]; omega

theorem sumOver_congr (K : List Res) (f g : Res → Nat) (h : ∀ k ∈ K, f k = g k) :
    sumOver K f = sumOver K g := by
  induction K with
  | nil => rfl
  | cons k t ih =>
    simp only [sumOver]
    rw [h k (by simp), ih (fun k hk => h k (by simp [hk]))]

theorem sumOver_zero (K : List Res) (f : Res → Nat) (h : ∀ k ∈ K, f k = 0) : sumOver K f = 0 := by
  induction K with
  | nil => rfl
  | cons k t ih => simp only [sumOver]; rw [h k (by simp), ih (fun k hk => h k (by simp [hk]))]

theorem sumOver_single (K : List Res) (r : Res) (v : Nat) (hr : r ∈ K) (hnd : K.Nodup) :
    sumOver K (fun k => if r = k then v else 0) = v := by
  induction K with
  | nil => simp at hr
  | cons k t ih =>
    simp only [List.nodup_cons] at hnd
    simp only [sumOver]
    by_cases h : r = k
    · subst h
      have : sumOver t (fun k => if r = k then v else 0) = 0 :=
        sumOver_zero _ _ (fun k hk => by
          have : ¬ r = k := fun e => hnd.1 (e ▸ hk)
          simp [this])
      simp [this]
    · simp only [h, if_false, Nat.zero_add]
      simp only [List.mem_cons] at hr
      rcases hr with hr | hr
      · exact absurd hr h
      · exact ih hr hnd.2

theorem byName_eq_sumOver (v : Vec) (n : String) (hnd : (AList.keys v).Nodup) :
    byName v n = sumOver (AList.keys v) (fun k => if k.name = n then getQ v k else 0) := by
  induction v with
  | nil => rfl
  | cons p t ih =>
    obtain ⟨r, q⟩ := p
    simp only [AList.keys_cons, List.nodup_cons] at hnd
    simp only [byName, AList.keys_cons, sumOver, getQ_cons, if_true]
    rw [ih hnd.2]
    congr 1
    apply sumOver_congr
    intro k hk
    have : ¬ r = k := fun e => hnd.1 (e ▸ hk)
    simp [this]

theorem pairsByName_eq_sumOver (K : List Res) (hnd : K.Nodup) (l : List (Res × Nat)) (n : String)
    (hl : ∀ p ∈ l, p.1 ∈ K) :
    pairsByName l n = sumOver K (fun k => if k.name = n then pairsAt l k else 0) := by
  induction l with
  | nil => simp [pairsByName, sumOver_zero]
  | cons p t ih =>
    obtain ⟨r, q⟩ := p
    have hr : r ∈ K := hl (r, q) (by simp)
    simp only [pairsByName, pairsAt]
    rw [ih (fun p hp => hl p (by simp [hp]))]
    have : sumOver K (fun k => if k.name = n then (if r = k then q else 0) + pairsAt t k else 0)
        = sumOver K (fun k => (if r = k then (if r.name = n then q else 0) else 0)
            + (if k.name = n then pairsAt t k else 0)) := by
      apply sumOver_congr
      intro k _
      by_cases e : r = k
      · subst e; by_cases hn : r.name = n <;> simp [hn]
      · by_cases hn : k.name = n <;> simp [e, hn]
    rw [this, sumOver_add, sumOver_single K r _ hr hnd]

theorem allocByName_eq_sumOver (K : List Res) (hnd : K.Nodup) (a : AList Comp (List (Res × Nat)))
    (n : String) (ha : ∀ c l, (c, l) ∈ a → ∀ p ∈ l, p.1 ∈ K) :
    allocByName a n = sumOver K (fun k => if k.name = n then allocAt a k else 0) := by
  induction a with
  | nil => simp [allocByName, sumOver_zero]
  | cons p t ih =>
    obtain ⟨c, l⟩ := p
    simp only [allocByName, allocAt]
    rw [ih (fun c' l' hm => ha c' l' (by simp [hm])),
        pairsByName_eq_sumOver K hnd l n (ha c l (by simp)), ← sumOver_add]
    apply sumOver_congr
    intro k _
    by_cases hn : k.name = n <;> simp [hn]

/-- **Conservation per resource type**: available + allocated = total. -/
theorem Resources.conserve_byName (r : Resources) (h : r.Inv) (n : String) :
    byName r.avail n + allocByName r.allocs n = byName r.total n := by
  have hnd : (AList.keys r.avail).Nodup := h.keys_eq ▸ h.nodup
  rw [byName_eq_sumOver r.avail n hnd, byName_eq_sumOver r.total n h.nodup, h.keys_eq,
      allocByName_eq_sumOver _ h.nodup r.allocs n h.known, ← sumOver_add]
  apply sumOver_congr
  intro k _
  have := h.conserve k
  by_cases hn : k.name = n <;> simp [hn]
  exact this

/-- Every pair a scan records `==` the requested key, so it has the key's name. -/
theorem scan_total_byName (k : Res) (v : Vec) (q : Nat) (n : String) :
    pairsByName (Resources.scan k v q).2 n = if k.name = n then pairsSum (Resources.scan k v q).2 else 0 := by
  have hrec := scan_recorded k v q
  generalize (Resources.scan k v q).2 = l at hrec
  induction l with
  | nil => simp [pairsByName, pairsSum]
  | cons p t ih =>
    obtain ⟨r, x⟩ := p
    have hm := (hrec (r, x) (by simp)).2
    have hname : r.name = k.name := by
      simp only [Res.matches, Bool.and_eq_true, beq_iff_eq] at hm; exact hm.1
    simp only [pairsByName, pairsSum, hname]
    rw [ih (fun p hp => hrec p (by simp [hp]))]
    by_cases hn : k.name = n <;> simp [hn]

/-! ### refusals at worker level

Each worker operation stores the result of one `Resources` operation; when that one raises it
has changed nothing, so neither has the worker. -/
namespace Worker

theorem loadProfile_refused (w : Worker) (p : Nat) (s : Strategy) (h : w.res.Inv)
    (hr : (w.loadProfile p s).2 ≠ .ok) : (w.loadProfile p s).1 = w := by
  have hf := Resources.allocateMultiple_refused w.res s.req (.profile p) h
  unfold loadProfile at hr ⊢
  generalize w.res.allocateMultiple s.req (.profile p) = x at hf hr ⊢
  obtain ⟨r, _ | e⟩ := x
  · exact absurd rfl hr
  · obtain rfl : r = w.res := hf (by simp)
    rfl

theorem placeTask_refused (w : Worker) (t : Nat) (s : Strategy) (h : w.res.Inv)
    (hr : (w.placeTask t s).2 ≠ .ok) : (w.placeTask t s).1 = w := by
  rcases placeTask_cases w t s with ⟨e, _⟩ | ⟨c, r, err, hres, e⟩ | ⟨_, r, _, e⟩ | ⟨_, _, r, _, e⟩ | ⟨_, _, _, e⟩
  · exact e
  · obtain rfl : r = w.res := by
      have := Resources.allocateMultiple_refused w.res s.req c h (by rw [hres]; nofun)
      rwa [hres] at this
    rw [e]
  all_goals rw [e] at hr; exact absurd rfl hr

theorem evictProfile_refused (w : Worker) (p : Nat)
    (hr : (w.evictProfile p).2 ≠ .ok) : (w.evictProfile p).1 = w := by
  have hf := Resources.deallocate_refused w.res (.profile p)
  unfold evictProfile at hr ⊢
  split
  · rfl
  · rename_i hp
    rw [if_neg hp] at hr
    generalize w.res.deallocate (.profile p) = x at hf hr ⊢
    obtain ⟨r, _ | e⟩ := x
    · exact absurd (by dsimp only; split <;> rfl) hr
    · obtain rfl : r = w.res := hf (by simp)
      rfl

end Worker

end ErdosVerif.Model
