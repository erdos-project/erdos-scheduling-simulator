import ErdosVerif.Lemmas.SimQueue
/-!
What one iteration of the `simulate()` loop does around `__handle_event`, whatever is being proved about the run:
how far `__step` may go (`StepBy`), what it does to clock, history and queue (`StepOK`), that the event popped after
`__step(head.time - now)` is due exactly now (`StepOK.popped_due`), and the shape of `iter` itself (`iter_triple`):
a development supplies its own specifications of `__step` and `__handle_event` and gets the iteration.
-/
open Std.Do
set_option mvcgen.warning false

namespace ErdosVerif.Model.Sim
open Heap

/-- The parts of the state the event order depends on are unchanged. -/
structure Fr (s0 s : SimS) : Prop where
  queue : s.queue = s0.queue
  now : s.now = s0.now
  log : s.log = s0.log

theorem Fr.congr {s0 s s' : SimS} (h : Fr s0 s) (hq : s'.queue = s.queue) (hn : s'.now = s.now) (hl : s'.log = s.log) :
    Fr s0 s' := ⟨hq.trans h.queue, hn.trans h.now, hl.trans h.log⟩

/-- A successful `step dt` from `s0`; `evs` are the TASK_FINISHED events it creates. -/
structure StepOK (s0 : SimS) (dt : Int) (s : SimS) : Prop where
  nonneg : 0 ≤ dt
  now : s.now = s0.now + dt
  log : s.log = s0.log.push (.clock (s0.now + dt))
  queue : ∃ evs : List SEvent, (∀ e ∈ evs, e.WF ∧ e.ev.time = s0.now + dt) ∧
    s.queue = evs.foldl (heappush SEvent.lt) s0.queue

theorem Fr.push_pending {P : SEvent → Prop} {s0 s s' : SimS} {b : List SEvent} {e : SEvent}
    (h : Fr s0 s ∧ ∀ x ∈ b, P x) (he : P e) (hq : s'.queue = s.queue := by rfl) (hn : s'.now = s.now := by rfl)
    (hl : s'.log = s.log := by rfl) : Fr s0 s' ∧ ∀ x ∈ b ++ [e], P x := by
  refine ⟨h.1.congr hq hn hl, fun x hx => ?_⟩
  rcases List.mem_append.mp hx with hx | hx
  · exact h.2 x hx
  · rw [List.mem_singleton.mp hx]; exact he

attribute [local grind] Fr in
theorem step_rel (dt : Int) (s0 : SimS) :
    ⦃fun s => ⌜s = s0⌝⦄ step dt ⦃post⟨fun _ s => ⌜StepOK s0 dt s⌝, fun _ s => ⌜Fr s0 s⌝⟩⦄ := by
  mvcgen [step, advanceClock, addEvent, getPool, setPool, getTask, getGraph, taskCall, setGraph, raiseTask,
    mkEvent, uniqueName] invariants
  · post⟨fun _ s => ⌜Fr s0 s⌝, fun _ s => ⌜Fr s0 s⌝⟩
  · post⟨fun _ s => ⌜Fr s0 s⌝, fun _ s => ⌜Fr s0 s⌝⟩
  · post⟨fun _ s => ⌜Fr s0 s⌝, fun _ s => ⌜Fr s0 s⌝⟩
  · post⟨fun r s => ⌜Fr s0 s ∧ ∀ e ∈ r.2, e.WF ∧ e.ev.time = s0.now + dt⌝, fun _ s => ⌜Fr s0 s⌝⟩
  · post⟨fun r s => ⌜s.now = s0.now + dt ∧ s.log = s0.log.push (.clock (s0.now + dt)) ∧
      s.queue = r.1.prefix.foldl (heappush SEvent.lt) s0.queue⌝, fun _ s => ⌜Fr s0 s⌝⟩
  with try grind
  -- a TASK_FINISHED event stamped with the new clock joins the pending list
  · subst_vars
    exact Fr.push_pending ‹_› ⟨rfl, rfl⟩
  -- exit of the last loop: its `prefix` is the whole pending list, certified by the loop before
  · rename_i h4 _ _ _ h
    exact ⟨by omega, h.1, h.2.1, _, h4.2, h.2.2⟩

theorem StepOK.root {s0 s : SimS} {dt : Int} (h : StepOK s0 dt s) {y : SEvent} (hy : s.queue[0]? = some y) :
    s0.queue[0]? = some y ∨ y.ev.time = s0.now + dt := by
  obtain ⟨evs, hev, hq⟩ := h.queue
  exact (foldl_heappush_root _ evs _ y (hq ▸ hy)).imp_right fun he => (hev y he).2

/-- After `__step(head.time - now)` the event `heappop` returns is the old head or a TASK_FINISHED event created by this
step, and both carry the new clock value. -/
theorem StepOK.popped_due {s0 s : SimS} {head e : SEvent} {q : Array SEvent} (hh : s0.queue[0]? = some head)
    (hs : StepOK s0 (head.ev.time - s0.now) s) (hp : heappop SEvent.lt s.queue = some (e, q)) : s.now = e.ev.time := by
  obtain ⟨hpos, he⟩ := heappop_fst s.queue e q hp
  rcases hs.root (y := e) (by rw [he, Array.getElem?_eq_getElem hpos]) with h1 | h1
  · rw [hs.now, Option.some.inj (hh.symm.trans h1)]; omega
  · rw [hs.now, h1]

/-- The placed tasks as `iter` reads them (`WorkerPools.get_placed_tasks()`). -/
def placedList (s : SimS) : List TaskId := s.pools.toList.flatMap (fun p => p.placed.map (fun q => ungid q.1))

/-- The smallest collected remaining time (0 when nothing was collected), as `iter` computes it. -/
def minRemOf (rems : List Int) : Int :=
  match rems with
  | [] => 0
  | r :: rs => rs.foldl min r

theorem foldl_min_le (rs : List Int) : ∀ (r0 : Int), ∀ r ∈ r0 :: rs, rs.foldl min r0 ≤ r := by
  induction rs with
  | nil => intro r0 r hr; simp at hr; subst hr; exact Int.le_refl _
  | cons a rs ih =>
    intro r0 r hr
    simp only [List.foldl_cons]
    simp only [List.mem_cons] at hr
    have hm := ih (min r0 a) (min r0 a) (List.mem_cons_self ..)
    rcases hr with rfl | rfl | h
    · omega
    · omega
    · exact ih (min r0 a) r (List.mem_cons_of_mem _ h)

theorem foldl_min_mem (rs : List Int) : ∀ (r0 : Int), rs.foldl min r0 ∈ r0 :: rs := by
  induction rs with
  | nil => intro r0; simp
  | cons a rs ih =>
    intro r0
    simp only [List.foldl_cons]
    rcases List.mem_cons.mp (ih (min r0 a)) with h | h
    · rw [h]
      by_cases hle : r0 ≤ a
      · rw [Int.min_eq_left hle]; simp
      · rw [Int.min_eq_right (by omega)]; simp
    · exact List.mem_cons_of_mem _ (List.mem_cons_of_mem _ h)

/-- What `iter` knows of the `dt` it hands to `__step`. -/
structure StepBy (s : SimS) (head : SEvent) (dt : Int) : Prop where
  root : s.queue[0]? = some head
  le : dt ≤ head.ev.time - s.now
  rems : ∀ t ∈ placedList s, ∀ g x r, s.graphs[t.g]? = some g → g.task? t.t = some x → x.remainingTime = .ok r → dt ≤ r
  short : dt < head.ev.time - s.now →
    ∃ t ∈ placedList s, ∃ g x, s.graphs[t.g]? = some g ∧ g.task? t.t = some x ∧ x.remainingTime = .ok dt

structure Rems (s : SimS) (pref : List TaskId) (rems : List Int) : Prop where
  len : rems.length = pref.length
  mem : ∀ t ∈ pref, ∀ g x r, s.graphs[t.g]? = some g → g.task? t.t = some x → x.remainingTime = .ok r → r ∈ rems
  from_ : ∀ r ∈ rems, ∃ t ∈ pref, ∃ g x, s.graphs[t.g]? = some g ∧ g.task? t.t = some x ∧ x.remainingTime = .ok r

theorem Rems.nil (s : SimS) : Rems s [] [] := ⟨rfl, nofun, nofun⟩

theorem Rems.snoc {s : SimS} {pref : List TaskId} {rems : List Int} {t : TaskId} {g : GraphS} {x : TaskS} {a : Int}
    (h : Rems s pref rems) (hg : s.graphs[t.g]? = some g) (hx : g.task? t.t = some x) (ha : x.remainingTime = .ok a) :
    Rems s (pref ++ [t]) (rems ++ [a]) := by
  refine ⟨by simp [h.len], fun u hu g' y r hg' hy hr => ?_, fun r hr => ?_⟩
  · rcases List.mem_append.mp hu with h1 | h1
    · exact List.mem_append_left _ (h.mem u h1 g' y r hg' hy hr)
    · obtain rfl := List.mem_singleton.mp h1
      obtain rfl := Option.some.inj (hg.symm.trans hg')
      obtain rfl := Option.some.inj (hx.symm.trans hy)
      exact List.mem_append_right _ (List.mem_singleton.mpr (Except.ok.inj (hr.symm.trans ha)))
  · rcases List.mem_append.mp hr with h1 | h1
    · obtain ⟨u, hu, k⟩ := h.from_ r h1
      exact ⟨u, List.mem_append_left _ hu, k⟩
    · obtain rfl := List.mem_singleton.mp h1
      exact ⟨t, by simp, g, x, hg, hx, ha⟩

theorem Rems.le_min {s : SimS} {pref : List TaskId} {rems : List Int} (h : Rems s pref rems) {t : TaskId} (ht : t ∈ pref)
    {g : GraphS} {x : TaskS} {r : Int} (hg : s.graphs[t.g]? = some g) (hx : g.task? t.t = some x)
    (hr : x.remainingTime = .ok r) : minRemOf rems ≤ r := by
  have hm := h.mem t ht g x r hg hx hr
  cases rems with
  | nil => cases hm
  | cons r0 rs => exact foldl_min_le rs r0 r hm

theorem Rems.stepBy {s : SimS} {rems : List Int} {head : SEvent} {dt : Int} (h : Rems s (placedList s) rems)
    (hh : s.queue[0]? = some head) (hne : placedList s ≠ []) (hle : dt ≤ head.ev.time - s.now)
    (hdt : dt = minRemOf rems ∨ (dt = head.ev.time - s.now ∧ dt ≤ minRemOf rems)) : StepBy s head dt := by
  refine ⟨hh, hle, fun t ht g x r hg hx hr => ?_, fun hlt => ?_⟩
  · have := h.le_min ht hg hx hr
    rcases hdt with rfl | ⟨_, h2⟩
    · exact this
    · exact Int.le_trans h2 this
  · obtain rfl : dt = minRemOf rems := hdt.resolve_right fun h2 => by omega
    cases rems with
    | nil => exact absurd (List.eq_nil_of_length_eq_zero h.len.symm) hne
    | cons r rs => exact h.from_ _ (foldl_min_mem rs r)

theorem StepBy.of_empty {s : SimS} {head : SEvent} (hh : s.queue[0]? = some head) (he : placedList s = []) :
    StepBy s head (head.ev.time - s.now) :=
  ⟨hh, Int.le_refl _, fun t ht => (by rw [he] at ht; cases ht), fun h => absurd h (Int.lt_irrefl _)⟩

theorem StepOK.pop_ne_none {s0 s : SimS} {dt : Int} {head : SEvent} (h : StepOK s0 dt s) (hh : s0.queue[0]? = some head) :
    heappop SEvent.lt s.queue ≠ none := by
  obtain ⟨evs, -, hq⟩ := h.queue
  have hpos : 0 < s0.queue.size := (Array.getElem?_eq_some_iff.mp hh).1
  intro hn
  have := (heappop_eq_none_iff (lt := SEvent.lt) s.queue).mp hn
  rw [hq, foldl_heappush_size] at this
  omega

theorem ne_nil_of_not_isEmpty {α} {l : List α} (h : (!l.isEmpty) = true) : l ≠ [] := by
  rintro rfl; cases h

theorem eq_nil_of_isEmpty {α} {l : List α} (h : ¬ (!l.isEmpty) = true) : l = [] := by
  cases l with
  | nil => rfl
  | cons => exact absurd rfl h

section
variable {P W : SimS → Prop} {Q : SimS → Int → SimS → Prop} {H : SEvent → SimS → Prop} {R : Bool → SimS → Prop}

/-- **One iteration of the loop of `simulate()`**, from specifications of `__step` (for the `dt` of `StepBy`) and
`__handle_event`: `__step(minRem)` alone must give the postcondition back (`skip`), and after `__step(head.time - now)`
the popped event, which is due now, must meet the precondition of its handler (`pop`). -/
theorem iter_triple (weak : ∀ s, P s → W s)
    (step_spec : ∀ s0 head dt, P s0 →
      ⦃fun s => ⌜s = s0 ∧ StepBy s0 head dt⌝⦄ step dt ⦃post⟨fun _ s => ⌜Q s0 dt s⌝, fun _ s => ⌜W s⌝⟩⦄)
    (handle_spec : ∀ ev, ⦃fun s => ⌜H ev s⌝⦄ handleEvent ev ⦃post⟨fun b s => ⌜R b s⌝, fun _ s => ⌜W s⌝⟩⦄)
    (skip : ∀ s0 head dt s, P s0 → StepBy s0 head dt → dt < head.ev.time - s0.now → Q s0 dt s → StepOK s0 dt s →
      R false s)
    (pop : ∀ s0 head s e q, P s0 → s0.queue[0]? = some head → Q s0 (head.ev.time - s0.now) s →
      StepOK s0 (head.ev.time - s0.now) s → heappop SEvent.lt s.queue = some (e, q) → s.now = e.ev.time →
      H e { s with queue := q }) :
    ⦃fun s => ⌜P s⌝⦄ iter ⦃post⟨fun b s => ⌜R b s⌝, fun _ s => ⌜W s⌝⟩⦄ := by
  mvcgen [iter]
  split
  · rename_i s0 h0 _ head hh
    have h_step := fun dt => Triple.and (step dt) (step_spec s0 head dt h0) (step_rel dt s0)
    mvcgen [placedTasks, getTask, getGraph, liftE, popEvent, h_step, handle_spec] invariants
    · post⟨fun p s => ⌜s = s0 ∧ Rems s0 p.1.prefix p.2⌝, fun _ s => ⌜W s⌝⟩
    with try first | exact fun h => h.1 | exact ⟨trivial, Rems.nil _⟩
    -- the loop that collects the remaining times leaves the state alone
    · obtain ⟨rfl, hr⟩ := ‹_ ∧ Rems ..›
      exact ⟨rfl, hr.snoc ‹_› ‹_› ‹_›⟩
    · exact ‹_ ∧ Rems ..›.1 ▸ weak _ h0
    · exact ‹_ ∧ Rems ..›.1 ▸ weak _ h0
    · exact ‹_ ∧ Rems ..›.1 ▸ weak _ h0
    -- `__step(minRem)` without a pop
    · have h := ‹_ ∧ Rems ..›
      exact ⟨⟨h.1, h.2.stepBy hh (ne_nil_of_not_isEmpty ‹_›) (Int.le_of_lt ‹_›) (.inl rfl)⟩, h.1⟩
    · have h := ‹_ ∧ StepOK ..›
      exact skip _ head _ _ h0 (‹_ ∧ Rems ..›.2.stepBy hh (ne_nil_of_not_isEmpty ‹_›) (Int.le_of_lt ‹_›) (.inl rfl)) ‹_›
        h.1 h.2
    -- `__step(untilNext)` and the pop, with placed tasks
    · have h := ‹_ ∧ Rems ..›
      exact ⟨⟨h.1, h.2.stepBy hh (ne_nil_of_not_isEmpty ‹_›) (Int.le_refl _) (.inr ⟨rfl, Int.not_lt.mp ‹_›⟩)⟩, h.1⟩
    · exact absurd ‹_ = none› (‹_ ∧ StepOK ..›.2.pop_ne_none hh)
    · have h := ‹_ ∧ StepOK ..›
      exact pop _ head _ _ _ h0 hh h.1 h.2 ‹_› (h.2.popped_due hh ‹_›)
    -- … and without
    · exact ⟨trivial, .of_empty hh (eq_nil_of_isEmpty ‹_›)⟩
    · exact absurd ‹_ = none› (‹_ ∧ StepOK ..›.2.pop_ne_none hh)
    · have h := ‹_ ∧ StepOK ..›
      exact pop _ head _ _ _ h0 hh h.1 h.2 ‹_› (h.2.popped_due hh ‹_›)
  · mvcgen
    exact weak _ ‹_›

end

end ErdosVerif.Model.Sim
