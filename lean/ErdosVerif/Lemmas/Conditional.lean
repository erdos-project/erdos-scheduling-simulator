import ErdosVerif.Lemmas.CancelClosure
/-!
Completion of a conditional task: exactly one child is released, every other
branch is cancelled and the cancellation is closed downstream up to (but
excluding) join tasks that still have a live parent.
-/
namespace ErdosVerif.Model
namespace GraphS

structure SameShape (g g0 : GraphS) : Prop where
  kids : ∀ k, g.kids k = g0.kids k
  pars : ∀ k, g.pars k = g0.pars k
  term : ∀ k, g.terminalOf k = g0.terminalOf k

theorem SameShape.refl (g : GraphS) : SameShape g g := ⟨fun _ => rfl, fun _ => rfl, fun _ => rfl⟩

theorem SameShape.trans {a b c : GraphS} (h₁ : SameShape a b) (h₂ : SameShape b c) : SameShape a c :=
  ⟨fun k => (h₁.kids k).trans (h₂.kids k), fun k => (h₁.pars k).trans (h₂.pars k),
    fun k => (h₁.term k).trans (h₂.term k)⟩

theorem SameShape.setTask {g : GraphS} {c : Nat} {tc t' : TaskS} (htc : g.task? c = some tc)
    (hterm : t'.terminal = tc.terminal) : SameShape (g.setTask c t') g :=
  ⟨fun _ => rfl, fun _ => rfl, fun k => terminalOf_setTask g c k t' tc htc hterm⟩

theorem SameShape.edgesWF {g g0 : GraphS} (h : SameShape g g0) (hwf : g0.EdgesWF) : g.EdgesWF :=
  fun p k hp => h.kids p ▸ hwf p k (h.pars k ▸ hp)

theorem Edit.sameShape {time : Int} {skip : Option Nat} {g g' : GraphS} {l : List Nat}
    (h : Edit time skip g l g') : SameShape g' g := by
  induction h with
  | refl => exact .refl _
  | cancel _ htc hdc ih => exact (SameShape.setTask htc (doCancel_ok _ _ _ hdc).2.1).trans ih
  | @prob _ _ _ tc _ _ htc ih =>
    exact (SameShape.setTask (t' := { tc with prob := 1000 }) htc rfl).trans ih

theorem cancel_structure (g : GraphS) (n : Nat) (time : Int) : SameShape (g.cancel n time).g g :=
  let ⟨_, he, _⟩ := cancel_edit g n time
  he.sameShape

def DownClosed (g0 g : GraphS) (S : List Nat) : Prop :=
  ∀ c ∈ S, ∀ k ∈ g0.kids c,
    g.stateOf k = .cancelled ∨ (g0.terminalOf k = true ∧ ∃ p ∈ g0.pars k, g.stateOf p ≠ .cancelled)

/-- Closure composes over successive cancellations. -/
theorem downClosed_step (g0 g1 : GraphS) (S : List Nat) (n : Nat) (time : Int)
    (hwf : g0.EdgesWF) (hs : SameShape g1 g0)
    (hcl : DownClosed g0 g1 S) (herr : (g1.cancel n time).err = none) :
    DownClosed g0 (g1.cancel n time).g (S ++ (g1.cancel n time).cancelled) := by
  have closed := cancel_closed g1 n time (hs.edgesWF hwf) herr
  have frame := cancel_frame g1 n time herr
  -- closure of the newly cancelled tasks, in terms of g0's structure
  have newc : ∀ c ∈ (g1.cancel n time).cancelled, ∀ k ∈ g0.kids c,
      (g1.cancel n time).g.stateOf k = .cancelled ∨
      (g0.terminalOf k = true ∧ ∃ p ∈ g0.pars k, (g1.cancel n time).g.stateOf p ≠ .cancelled) := by
    intro c hc k hkk
    rcases closed c hc k (hs.kids c ▸ hkk) with q | ⟨q1, _, p, hpp, q3⟩
    · exact Or.inl q
    · exact Or.inr ⟨hs.term k ▸ q1, p, hs.pars k ▸ hpp, q3⟩
  intro c hc k hkk
  rcases List.mem_append.mp hc with hc | hc
  · rcases hcl c hc k hkk with q | ⟨q1, p, hpp, q3⟩
    · exact Or.inl (cancel_mono g1 n time q)
    · by_cases hpc : (g1.cancel n time).g.stateOf p = .cancelled
      · -- that parent was cancelled by this call: use its closure
        rcases frame p with q | ⟨hin, _, _⟩
        · rw [q] at hpc; exact absurd hpc q3
        · exact newc p hin k (hwf p k hpp)
      · exact Or.inr ⟨q1, p, hpp, hpc⟩
  · exact newc c hc k hkk

theorem cancelBranches_spec (g0 : GraphS) (finish : Int) (skip : Option Nat) (hwf : g0.EdgesWF) :
    ∀ (kids : List Nat) (g : GraphS) (acc : List Nat), SameShape g g0 →
      DownClosed g0 g acc →
      (cancelBranches g finish skip kids acc).2.2 = none →
      DownClosed g0 (cancelBranches g finish skip kids acc).1 (cancelBranches g finish skip kids acc).2.1 ∧
      (∀ c ∈ kids, some c ≠ skip → (cancelBranches g finish skip kids acc).1.stateOf c = .cancelled) := by
  intro kids
  induction kids with
  | nil => intro g acc _ hcl _; exact ⟨by simpa [cancelBranches] using hcl, by simp⟩
  | cons c rest ih =>
    intro g acc hs hcl herr
    simp only [cancelBranches] at herr ⊢
    -- every listed branch but the skipped one ends up cancelled, once that holds of the head `c`
    have hcons : ∀ {g' : GraphS}, (some c = skip ∨ g'.stateOf c = .cancelled) →
        (∀ x ∈ rest, some x ≠ skip → g'.stateOf x = .cancelled) →
        ∀ x ∈ c :: rest, some x ≠ skip → g'.stateOf x = .cancelled := by
      intro g' hc h x hx hne
      rcases List.mem_cons.mp hx with rfl | hx
      · exact hc.resolve_left hne
      · exact h x hx hne
    by_cases hsk : some c = skip
    · simp only [hsk, beq_self_eq_true, if_true] at herr ⊢
      cases htc : g.task? c with
      | none =>
        simp only [htc] at herr ⊢
        obtain ⟨i1, i2⟩ := ih g acc hs hcl herr
        exact ⟨i1, hcons (.inl hsk) i2⟩
      | some tc =>
        simp only [htc] at herr ⊢
        -- only the probability of the chosen child changes
        have hst : ∀ k, (g.setTask c { tc with prob := 1000 }).stateOf k = g.stateOf k := fun k =>
          (((Edit.refl g).prob (time := finish) hsk.symm htc).stateOf k).resolve_right (by simp)
        have hcl' : DownClosed g0 (g.setTask c { tc with prob := 1000 }) acc := by
          simpa only [DownClosed, hst] using hcl
        obtain ⟨i1, i2⟩ := ih (g.setTask c { tc with prob := 1000 }) acc
          ((SameShape.setTask (t' := { tc with prob := 1000 }) htc rfl).trans hs) hcl' herr
        exact ⟨i1, hcons (.inl hsk) i2⟩
    · have hs' : (some c == skip) = false := by simpa using hsk
      simp only [hs', Bool.false_eq_true, if_false] at herr ⊢
      cases he : (g.cancel c finish).err with
      | some e => simp [he] at herr
      | none =>
        simp only [he] at herr ⊢
        obtain ⟨i1, i2⟩ := ih (g.cancel c finish).g (acc ++ (g.cancel c finish).cancelled)
          ((cancel_structure g c finish).trans hs) (downClosed_step g0 g acc c finish hwf hs hcl he) herr
        -- `c` is CANCELLED after its own walk, and the later walks keep it so
        obtain ⟨_, hrest, _⟩ := cancelBranches_edit finish skip rest (g.cancel c finish).g
          (acc ++ (g.cancel c finish).cancelled)
        exact ⟨i1, hcons (.inr (hrest.cancelled_mono (cancel_walk g c finish (hs.edgesWF hwf) he).2)) i2⟩

/-- **Completion of a conditional task**: the child drawn by `random.choices` is
the only task released; every other child ends up CANCELLED and the set of
cancelled tasks is closed downstream (up to joins that still have a live
parent); exactly one draw is consumed. -/
theorem conditional_completion (g : GraphS) (n : Nat) (finish : Int) (tape tape' : List Draw) (t : TaskS)
    (i chosen : Nat) (hwf : g.EdgesWF) (ht : g.task? n = some t) (hc : t.isComplete = true)
    (hcond : t.conditional = true)
    (hp : ((g.kids n).map (fun c => ((g.task? c).map (·.prob)).getD 0)).all (· ≤ 0) = false)
    (hsum : ((g.kids n).map (fun c => ((g.task? c).map (·.prob)).getD 0)).foldl (· + ·) 0 = 1000)
    (htape : tape = .choices i :: tape') (hch : (g.kids n)[i]? = some chosen)
    (herr : (g.notifyCompletion n finish tape).err = none) :
    (g.notifyCompletion n finish tape).released = [chosen] ∧
    (g.notifyCompletion n finish tape).tape = tape' ∧
    (∀ c ∈ g.kids n, c ≠ chosen → (g.notifyCompletion n finish tape).g.stateOf c = .cancelled) ∧
    DownClosed g (g.notifyCompletion n finish tape).g (g.notifyCompletion n finish tape).cancelled := by
  subst htape
  unfold notifyCompletion at herr ⊢
  simp only [ht, hc, hcond, Bool.not_true, Bool.false_eq_true, if_false, if_true, hp, hsum, bne_self_eq_false,
    hch] at herr ⊢
  split at herr
  · simp at herr
  · rename_i hst
    simp only [hst, Bool.false_eq_true, if_false]
    cases hcb : cancelBranches g finish (some chosen) (g.kids n) [] with
    | mk g' rest =>
      obtain ⟨cancelled, e⟩ := rest
      simp only [hcb] at herr ⊢
      cases e with
      | some e => simp at herr
      | none =>
        simp only []
        have spec := cancelBranches_spec g finish (some chosen) hwf (g.kids n) g []
          (.refl g) (by intro c hc; simp at hc) (by rw [hcb])
        rw [hcb] at spec
        simp only at spec
        refine ⟨trivial, trivial, ?_, spec.1⟩
        intro c hc hne
        exact spec.2 c hc (by simpa using hne)

end GraphS
end ErdosVerif.Model
