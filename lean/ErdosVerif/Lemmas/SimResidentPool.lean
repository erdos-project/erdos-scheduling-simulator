import ErdosVerif.Lemmas.SimResidentDefs
import ErdosVerif.Lemmas.LedgerResident
/-!
How the worker-pool operations the simulator uses change the residency views
(`Pool.view`, `Pool.placed`).
-/
namespace ErdosVerif.Model

/-- Keys after `d[k] = v`. -/
def addKey (ks : List Nat) (k : Nat) : List Nat := if k ∈ ks then ks else ks ++ [k]

theorem AList.keys_set {υ : Type} (l : AList Nat υ) (k : Nat) (v : υ) :
    AList.keys (AList.set l k v) = addKey (AList.keys l) k := by
  unfold addKey
  split
  · rename_i h; exact AList.keys_set_of_mem l k v h
  · rename_i h; exact AList.keys_set_of_not_mem l k v h

theorem list_set_same {α : Type} (l : List α) (i : Nat) (a : α) (h : l[i]? = some a) : l.set i a = l := by
  obtain ⟨hlt, rfl⟩ := List.getElem?_eq_some_iff.mp h
  exact List.set_getElem_self hlt

namespace Worker

theorem removeTask_placed (w : Worker) (t : Nat) :
    ((w.removeTask t).2 = .ok ∧ (w.removeTask t).1.placed = w.placed.erase t) ∨
    ((w.removeTask t).2 ≠ .ok ∧ (w.removeTask t).1.placed = w.placed) := by
  rcases removeTask_cases w t with
    ⟨e, hne⟩ | ⟨s, hs, ⟨hb, r, hd, e⟩ | ⟨hb, r, err, hd, e⟩ | ⟨hb, ms, hms, hc, ⟨hne', e⟩ | ⟨hlast, bt, r, hbt, hd, e⟩ | ⟨hlast, hbt, e⟩ | ⟨hlast, bt, r, err, hbt, hd, e⟩⟩⟩
  · exact .inr ⟨hne, by rw [e]⟩
  all_goals rw [e]
  iterate 6 first | exact .inl ⟨rfl, rfl⟩ | exact .inr ⟨nofun, rfl⟩

theorem removeTask_ok_mem (w : Worker) (t : Nat) (h : (w.removeTask t).2 = .ok) : t ∈ AList.keys w.placed := by
  rcases removeTask_cases w t with ⟨_, hne⟩ | ⟨s, hs, _⟩
  · exact absurd h hne
  · exact AList.mem_keys_of_get?_some _ _ _ hs

end Worker

namespace Pool

theorem view_setWorker (p : Pool) (i : Nat) (w' : Worker) :
    (p.setWorker i w').view = p.view.set i (AList.keys w'.placed) := by
  simp [view, setWorker, List.map_set]

theorem view_getElem? (p : Pool) (i : Nat) : p.view[i]? = (p.workers[i]?).map (fun w => AList.keys w.placed) := by
  simp [view]

theorem view_setWorker_same (p : Pool) (i : Nat) (w w' : Worker) (hw : p.workers[i]? = some w)
    (h : w'.placed = w.placed) : (p.setWorker i w').view = p.view := by
  rw [view_setWorker, h]
  exact list_set_same _ _ _ (by rw [view_getElem?, hw]; rfl)

theorem placeTask_view (p : Pool) (t : Nat) (strats : List Strategy) (s? : Option Strategy) (wid? : Option Nat) :
    ((p.placeTask t strats s? wid?).2 = .ok true ∧
        ∃ i ks, p.view[i]? = some ks ∧ (p.placeTask t strats s? wid?).1.view = p.view.set i (addKey ks t) ∧
          (p.placeTask t strats s? wid?).1.placed = p.placed.set t i) ∨
    ((p.placeTask t strats s? wid?).2 ≠ .ok true ∧ (p.placeTask t strats s? wid?).1.view = p.view ∧
        (p.placeTask t strats s? wid?).1.placed = p.placed) := by
  rcases placeTask_cases p t strats s? wid? with ⟨e, hne, _⟩ | ⟨i, w, s, hw, _, _, ⟨hok, e⟩ | ⟨err, he, e⟩⟩
  · exact Or.inr ⟨hne, by rw [e], by rw [e]⟩
  all_goals
    have hpl := Worker.placeTask_placed w t s
    rw [e]
  · rw [if_pos hok] at hpl
    exact Or.inl ⟨rfl, i, AList.keys w.placed, by rw [view_getElem?, hw]; rfl,
      by show (p.setWorker i _).view = _; rw [view_setWorker, hpl, AList.keys_set], rfl⟩
  · rw [if_neg (by rw [he]; nofun)] at hpl
    exact Or.inr ⟨nofun, view_setWorker_same p i w _ hw hpl, rfl⟩

theorem removeTask_view (p : Pool) (t : Nat) :
    ((p.removeTask t).2 = .ok ∧
        ∃ i ks, p.placed.get? t = some i ∧ p.view[i]? = some ks ∧ t ∈ ks ∧
          (p.removeTask t).1.view = p.view.set i (ks.erase t) ∧ (p.removeTask t).1.placed = p.placed.erase t) ∨
    ((p.removeTask t).2 ≠ .ok ∧ (p.removeTask t).1.view = p.view ∧ (p.removeTask t).1.placed = p.placed) := by
  rcases removeTask_cases p t with ⟨e, hne⟩ | ⟨i, w, hi, hw, ⟨hok, e⟩ | ⟨hno, e⟩⟩
  · exact Or.inr ⟨hne, by rw [e], by rw [e]⟩
  all_goals
    rw [e]
    rcases Worker.removeTask_placed w t with ⟨h1, hpl⟩ | ⟨h1, hpl⟩
  · exact Or.inl ⟨rfl, i, AList.keys w.placed, hi, by rw [view_getElem?, hw]; rfl, Worker.removeTask_ok_mem w t hok,
      by show (p.setWorker i _).view = _; rw [view_setWorker, hpl, AList.keys_erase], rfl⟩
  · exact absurd hok h1
  · exact absurd h1 hno
  · exact Or.inr ⟨hno, view_setWorker_same p i w _ hw hpl, rfl⟩

theorem view_stepProfiles (p : Pool) (dt : Int) : (p.stepProfiles dt).view = p.view := by
  simp [view, stepProfiles, Worker.stepProfiles, List.map_map, Function.comp_def]

theorem placed_stepProfiles (p : Pool) (dt : Int) : (p.stepProfiles dt).placed = p.placed := rfl

theorem loadProfile_placed (w : Worker) (pr : Nat) (s : Strategy) : (w.loadProfile pr s).1.placed = w.placed := by
  unfold Worker.loadProfile
  cases h : w.res.allocateMultiple s.req (.profile pr) with
  | mk r o => cases o <;> rfl

theorem evictProfile_placed (w : Worker) (pr : Nat) : (w.evictProfile pr).1.placed = w.placed := by
  unfold Worker.evictProfile
  split
  · rfl
  · cases h : w.res.deallocate (.profile pr) with
    | mk r o =>
      cases o with
      | ok => simp only []; split <;> rfl
      | raised e => rfl

theorem getAllocated_placed (w : Worker) (t : Nat) : (w.getAllocated t).1.placed = w.placed := by
  unfold Worker.getAllocated
  split
  · rfl
  · split
    · split
      · rfl
      · rfl
    · rfl

theorem Upd.view {f : Worker → Worker} {p p' : Pool} (hf : ∀ w, (f w).placed = w.placed) (h : Upd f p p') :
    p'.view = p.view ∧ p'.placed = p.placed := by
  refine ⟨?_, h.placed⟩
  induction h with
  | refl => rfl
  | step hw _ ih => exact ih.trans (view_setWorker_same _ _ _ _ hw (hf _))

theorem loadProfile_view (p : Pool) (prof : Nat) (s : Strategy) (wid? : Option Nat) :
    (p.loadProfile prof s wid?).1.view = p.view ∧ (p.loadProfile prof s wid?).1.placed = p.placed :=
  (loadProfile_upd p prof s wid?).view fun w => loadProfile_placed w prof s

theorem evictProfile_view (p : Pool) (prof : Nat) (wid? : Option Nat) :
    (p.evictProfile prof wid?).1.view = p.view ∧ (p.evictProfile prof wid?).1.placed = p.placed :=
  (evictProfile_upd p prof wid?).view fun w => evictProfile_placed w prof

theorem onWorker'_view (p : Pool) (wi t : Nat) :
    (p.onWorker' wi t).1.view = p.view ∧ (p.onWorker' wi t).1.placed = p.placed :=
  (onWorker'_upd p wi t).view fun w => getAllocated_placed w t

end Pool

theorem views_set (ps : Array Pool) (pi : Nat) (p' : Pool) :
    views (ps.setIfInBounds pi p') = (views ps).set pi p'.view := by
  simp [views, Array.toList_setIfInBounds, List.map_set]

theorem pmaps_set (ps : Array Pool) (pi : Nat) (p' : Pool) :
    pmaps (ps.setIfInBounds pi p') = (pmaps ps).set pi p'.placed := by
  simp [pmaps, Array.toList_setIfInBounds, List.map_set]

theorem views_getElem? (ps : Array Pool) (pi : Nat) : (views ps)[pi]? = (ps[pi]?).map Pool.view := by
  simp [views]

theorem pmaps_getElem? (ps : Array Pool) (pi : Nat) : (pmaps ps)[pi]? = (ps[pi]?).map (·.placed) := by
  simp [pmaps]

theorem views_set_same (ps : Array Pool) (pi : Nat) (p p' : Pool) (hp : ps[pi]? = some p)
    (hv : p'.view = p.view) (hm : p'.placed = p.placed) :
    views (ps.setIfInBounds pi p') = views ps ∧ pmaps (ps.setIfInBounds pi p') = pmaps ps := by
  rw [views_set, pmaps_set]
  exact ⟨list_set_same _ _ _ (by rw [views_getElem?, hp, hv]; rfl),
         list_set_same _ _ _ (by rw [pmaps_getElem?, hp, hm]; rfl)⟩

end ErdosVerif.Model
