import ErdosVerif.Lemmas.GreedyFit
import ErdosVerif.Lemmas.GreedySort
/-!
Facts about one loop iteration (`step`), the loop (`run`) and `schedule` of the greedy
policies: shape of every decision, the virtual cluster only loses availability and keeps the
ledger invariant, a prefix of the processing order determines its decisions, and the
virtual cluster is exactly the reported placements charged to the copy of the live cluster.
Core Lean only.
-/
namespace ErdosVerif.Model.Greedy

theorem firstPool_some (s : Strategy) (V : List Pool) (k i : Nat) (h : firstPool s V k = some i) :
    ∃ j p, i = k + j ∧ V[j]? = some p ∧ p.canAccommodate s = true ∧
      ∀ j' p', j' < j → V[j']? = some p' → p'.canAccommodate s = false := by
  induction V generalizing k with
  | nil => simp [firstPool] at h
  | cons p r ih =>
    simp only [firstPool] at h
    split at h
    · rename_i hc
      cases h
      exact ⟨0, p, rfl, rfl, hc, fun j' _ hj => absurd hj (Nat.not_lt_zero _)⟩
    · rename_i hc
      obtain ⟨j, q, hi, hq, hcq, hfirst⟩ := ih (k + 1) h
      refine ⟨j + 1, q, by omega, by simpa using hq, hcq, ?_⟩
      intro j' p' hj hp'
      cases j' with
      | zero => simp at hp'; subst hp'; simpa using hc
      | succ j'' => exact hfirst j'' p' (by omega) (by simpa using hp')

theorem firstPool_none (s : Strategy) (V : List Pool) (k : Nat) (h : firstPool s V k = none) :
    fitsSomewhere V s = false := by
  induction V generalizing k with
  | nil => rfl
  | cons p r ih =>
    simp only [firstPool] at h
    split at h
    · cases h
    · rename_i hc
      simp only [fitsSomewhere, List.any_cons, Bool.or_eq_false_iff]
      exact ⟨by simpa using hc, ih (k + 1) h⟩

theorem fitsSomewhere_false_iff (V : List Pool) (s : Strategy) :
    fitsSomewhere V s = false ↔ ∀ p ∈ V, ∀ w ∈ p.workers, w.canAccommodate s = false := by
  simp [fitsSomewhere, Pool.canAccommodate]

/-- `choose` returns the first strategy (in list order) that fits anywhere, with the first pool
that accommodates it; every earlier strategy fits nowhere. -/
theorem choose_some (V : List Pool) (strats : List Strategy) (s : Strategy) (i : Nat)
    (h : choose V strats = some (s, i)) :
    ∃ a b p, strats = a ++ s :: b ∧ (∀ s' ∈ a, fitsSomewhere V s' = false) ∧
      V[i]? = some p ∧ p.canAccommodate s = true := by
  induction strats with
  | nil => simp [choose] at h
  | cons x r ih =>
    simp only [choose] at h
    split at h
    · rename_i j hj
      cases h
      obtain ⟨j', p, hij, hp, hc, _⟩ := firstPool_some _ V 0 _ hj
      exact ⟨[], r, p, rfl, by simp, by simpa [hij] using hp, hc⟩
    · rename_i hj
      obtain ⟨a, b, p, hab, ha, hp⟩ := ih h
      refine ⟨x :: a, b, p, by simp [hab], ?_, hp⟩
      intro s' hs'
      rcases List.mem_cons.mp hs' with rfl | hs'
      · exact firstPool_none _ V 0 hj
      · exact ha s' hs'

theorem choose_none (V : List Pool) (strats : List Strategy) (h : choose V strats = none) :
    ∀ s ∈ strats, fitsSomewhere V s = false := by
  induction strats with
  | nil => simp
  | cons x r ih =>
    simp only [choose] at h
    split at h
    · cases h
    · rename_i hj
      intro s hs
      rcases List.mem_cons.mp hs with rfl | hs
      · exact firstPool_none _ V 0 hj
      · exact ih h s hs

theorem step_cases (cfg : Cfg) (V : List Pool) (o : Offered) (d : PlacementS) (V' : List Pool)
    (h : step cfg V o = .ok (d, V')) :
    (hopeless cfg o = .ok true ∧ d = cancelP o ∧ V' = V) ∨
    (hopeless cfg o = .ok false ∧ choose V o.task.strategies = none ∧ d = unplacedP o ∧ V' = V) ∨
    (∃ s i p p' b, hopeless cfg o = .ok false ∧ choose V o.task.strategies = some (s, i) ∧
      V[i]? = some p ∧ p.placeTask o.lid o.task.strategies (passed cfg s) none = (p', .ok b) ∧
      d = placedP cfg o i s ∧ V' = V.set i p') := by
  unfold step at h
  split at h
  · cases h
  · rename_i hh
    cases h
    exact .inl ⟨hh, rfl, rfl⟩
  · rename_i hh
    split at h
    · rename_i hc
      cases h
      exact .inr (.inl ⟨hh, hc, rfl, rfl⟩)
    · rename_i s i hc
      split at h
      · cases h
      · rename_i p hp
        split at h
        · rename_i p' b hpl
          cases h
          exact .inr (.inr ⟨s, i, p, p', b, hh, hc, hp, hpl, rfl, rfl⟩)
        · cases h

theorem step_task (cfg : Cfg) (V : List Pool) (o : Offered) (d : PlacementS) (V' : List Pool)
    (h : step cfg V o = .ok (d, V')) : d.task = o.id := by
  rcases step_cases cfg V o d V' h with ⟨_, rfl, _⟩ | ⟨_, _, rfl, _⟩ | ⟨s, i, p, p', b, _, _, _, _, rfl, _⟩ <;> rfl

theorem step_length (cfg : Cfg) (V : List Pool) (o : Offered) (d : PlacementS) (V' : List Pool)
    (h : step cfg V o = .ok (d, V')) : V'.length = V.length := by
  rcases step_cases cfg V o d V' h with ⟨_, _, rfl⟩ | ⟨_, _, _, rfl⟩ | ⟨s, i, p, p', b, _, _, _, _, _, rfl⟩ <;> simp

theorem step_le (cfg : Cfg) (V : List Pool) (o : Offered) (d : PlacementS) (V' : List Pool)
    (hinv : ClusterInv V) (h : step cfg V o = .ok (d, V')) : ClusterInv V' ∧ ClusterLe V' V := by
  rcases step_cases cfg V o d V' h with ⟨_, _, rfl⟩ | ⟨_, _, _, rfl⟩ | ⟨s, i, p, p', b, _, _, hp, hpl, _, rfl⟩
  · exact ⟨hinv, ClusterLe.refl _⟩
  · exact ⟨hinv, ClusterLe.refl _⟩
  · have hpinv : p.Inv := hinv p (List.mem_of_getElem? hp)
    have h1 := Pool.inv_placeTask p o.lid o.task.strategies (passed cfg s) none hpinv
    have h2 := Pool.placeTask_le p o.lid o.task.strategies (passed cfg s) none hpinv
    rw [hpl] at h1 h2
    exact ⟨ClusterInv.set V i p' hinv h1, ClusterLe.set V i p p' hp h2⟩

theorem run_cons (cfg : Cfg) (V : List Pool) (o : Offered) (rest : List Offered)
    (ds : List PlacementS) (Vf : List Pool) (h : run cfg V (o :: rest) = .ok (ds, Vf)) :
    ∃ d V' ds', step cfg V o = .ok (d, V') ∧ run cfg V' rest = .ok (ds', Vf) ∧ ds = d :: ds' := by
  simp only [run] at h
  split at h
  · cases h
  · rename_i d V' hs
    split at h
    · cases h
    · rename_i ds' V'' hr
      cases h
      exact ⟨d, V', ds', hs, hr, rfl⟩

theorem run_cons_intro (cfg : Cfg) (V V' Vf : List Pool) (o : Offered) (rest : List Offered)
    (d : PlacementS) (ds' : List PlacementS) (hs : step cfg V o = .ok (d, V'))
    (hr : run cfg V' rest = .ok (ds', Vf)) : run cfg V (o :: rest) = .ok (d :: ds', Vf) := by
  simp only [run, hs, hr]

theorem run_append (cfg : Cfg) (V : List Pool) (a b : List Offered) (ds : List PlacementS)
    (Vf : List Pool) (h : run cfg V (a ++ b) = .ok (ds, Vf)) :
    ∃ da Va db, run cfg V a = .ok (da, Va) ∧ run cfg Va b = .ok (db, Vf) ∧ ds = da ++ db ∧
      da.length = a.length := by
  induction a generalizing V ds with
  | nil => exact ⟨[], V, ds, rfl, h, rfl, rfl⟩
  | cons o rest ih =>
    obtain ⟨d, V', ds', hs, hr, rfl⟩ := run_cons cfg V o (rest ++ b) ds Vf h
    obtain ⟨da, Va, db, h1, h2, rfl, hl⟩ := ih V' ds' hr
    exact ⟨d :: da, Va, db, run_cons_intro cfg V V' Va o rest d da hs h1, h2, rfl, by simp [hl]⟩

theorem run_split (cfg : Cfg) (V : List Pool) (pre : List Offered) (t : Offered) (post : List Offered)
    (ds : List PlacementS) (Vf : List Pool) (h : run cfg V (pre ++ t :: post) = .ok (ds, Vf)) :
    ∃ dpre Vpre d Vt dpost, run cfg V pre = .ok (dpre, Vpre) ∧ step cfg Vpre t = .ok (d, Vt) ∧
      run cfg Vt post = .ok (dpost, Vf) ∧ ds = dpre ++ d :: dpost ∧ dpre.length = pre.length := by
  obtain ⟨dpre, Vpre, db, h1, h2, rfl, hl⟩ := run_append cfg V pre (t :: post) ds Vf h
  obtain ⟨d, Vt, dpost, hs, hr, rfl⟩ := run_cons cfg Vpre t post db Vf h2
  exact ⟨dpre, Vpre, d, Vt, dpost, h1, hs, hr, rfl, hl⟩

theorem run_length (cfg : Cfg) (V : List Pool) (os : List Offered) (ds : List PlacementS)
    (Vf : List Pool) (h : run cfg V os = .ok (ds, Vf)) : ds.length = os.length := by
  obtain ⟨da, Va, db, _, h2, rfl, hl⟩ := run_append cfg V os [] ds Vf (by simpa using h)
  simp only [run] at h2
  cases h2
  simpa using hl

theorem run_zip (cfg : Cfg) (V : List Pool) (os : List Offered) (ds : List PlacementS)
    (Vf : List Pool) (h : run cfg V os = .ok (ds, Vf)) :
    ∀ o d, (o, d) ∈ os.zip ds → ∃ Vb Va, Vb.length = V.length ∧ step cfg Vb o = .ok (d, Va) := by
  induction os generalizing V ds with
  | nil => intro o d hm; simp at hm
  | cons x rest ih =>
    obtain ⟨d0, V', ds', hs, hr, rfl⟩ := run_cons cfg V x rest ds Vf h
    intro o d hm
    simp only [List.zip_cons_cons, List.mem_cons, Prod.mk.injEq] at hm
    rcases hm with ⟨rfl, rfl⟩ | hm
    · exact ⟨V, V', rfl, hs⟩
    · exact step_length cfg V x d0 V' hs ▸ ih V' ds' hr o d hm

theorem run_tasks (cfg : Cfg) (V : List Pool) (os : List Offered) (ds : List PlacementS)
    (Vf : List Pool) (h : run cfg V os = .ok (ds, Vf)) : ds.map (·.task) = os.map (·.id) := by
  induction os generalizing V ds with
  | nil => simp only [run] at h; cases h; rfl
  | cons x rest ih =>
    obtain ⟨d0, V', ds', hs, hr, rfl⟩ := run_cons cfg V x rest ds Vf h
    simp only [List.map_cons, step_task cfg V x d0 V' hs, ih V' ds' hr]

theorem run_le (cfg : Cfg) (V : List Pool) (os : List Offered) (ds : List PlacementS)
    (Vf : List Pool) (hinv : ClusterInv V) (h : run cfg V os = .ok (ds, Vf)) :
    ClusterInv Vf ∧ ClusterLe Vf V := by
  induction os generalizing V ds with
  | nil => simp only [run] at h; cases h; exact ⟨hinv, ClusterLe.refl _⟩
  | cons x rest ih =>
    obtain ⟨d0, V', ds', hs, hr, rfl⟩ := run_cons cfg V x rest ds Vf h
    have h1 := step_le cfg V x d0 V' hinv hs
    have h2 := ih V' ds' h1.1 hr
    exact ⟨h2.1, ClusterLe.trans h2.2 h1.2⟩

theorem copyPools_ok (live V0 : List Pool) (h : copyPools live = .ok V0) :
    V0 = live.map (·.copy.1) ∧ ∀ p ∈ live, p.copy.2 = .ok := by
  induction live generalizing V0 with
  | nil => simp only [copyPools] at h; cases h; simp
  | cons p r ih =>
    simp only [copyPools] at h
    split at h
    · rename_i c hc
      split at h
      · rename_i cs hcs
        cases h
        obtain ⟨rfl, hall⟩ := ih cs hcs
        simpa [hc] using hall
      · cases h
    · cases h

theorem copyPools_inv (live V0 : List Pool) (hinv : ClusterInv live) (h : copyPools live = .ok V0) :
    ClusterInv V0 := by
  obtain ⟨rfl, _⟩ := copyPools_ok live V0 h
  intro x hx
  obtain ⟨p, hp, rfl⟩ := List.mem_map.mp hx
  exact Pool.inv_copy p (hinv p hp)

theorem copyPools_length (live V0 : List Pool) (h : copyPools live = .ok V0) : V0.length = live.length := by
  rw [(copyPools_ok live V0 h).1, List.length_map]

/-- A copy has as many workers as the original, so a bound on the pools' sizes carries over. -/
theorem copyPools_workers (live V0 : List Pool) (h : copyPools live = .ok V0) (n : Nat)
    (hn : ∀ p ∈ live, p.workers.length ≤ n) : ∀ p ∈ V0, p.workers.length ≤ n := by
  obtain ⟨rfl, _⟩ := copyPools_ok live V0 h
  intro x hx
  obtain ⟨p, hp, rfl⟩ := List.mem_map.mp hx
  have hlen : p.copy.1.workers.length = p.workers.length := by
    simp only [Pool.copy]; split <;> simp
  exact hlen ▸ hn p hp

theorem schedule_ok (cfg : Cfg) (offer : List Offered) (live : List Pool) (r : Result)
    (h : schedule cfg offer live = .ok r) :
    copyPools live = .ok r.virt0 ∧ keyError? cfg offer = none ∧ r.order = order cfg offer ∧
    run cfg r.virt0 r.order = .ok (r.placements, r.virt) := by
  unfold schedule at h
  split at h
  · cases h
  · rename_i V0 hc
    split at h
    · cases h
    · rename_i hk
      split at h
      · cases h
      · rename_i ds V hr
        cases h
        exact ⟨hc, hk, rfl, hr⟩

theorem schedule_tasks_perm {cfg : Cfg} {offer : List Offered} {live : List Pool} {r : Result}
    (h : schedule cfg offer live = .ok r) : (r.placements.map (·.task)).Perm (offer.map (·.id)) := by
  obtain ⟨_, _, ho, hr⟩ := schedule_ok cfg offer live r h
  rw [run_tasks cfg _ _ _ _ hr, ho]
  exact (sortBy_perm offer).map _

/-- "Not placed": no strategy of the task fitted anywhere. -/
theorem step_unplaced {cfg : Cfg} {V V' : List Pool} {o : Offered} {d : PlacementS}
    (h : step cfg V o = .ok (d, V')) (hk : d.kind = .place) (hp : d.pool = none) :
    ∀ s ∈ o.task.strategies, fitsSomewhere V s = false := by
  rcases step_cases cfg V o d V' h with ⟨_, rfl, _⟩ | ⟨_, hc, _, _⟩ | ⟨s', i, p, p', b, _, _, _, _, rfl, _⟩
  · cases hk
  · exact choose_none V _ hc
  · cases hp

theorem step_placed {cfg : Cfg} {V V' : List Pool} {o : Offered} {d : PlacementS} {i : Nat} {s : Strategy}
    (h : step cfg V o = .ok (d, V')) (hp : d.pool = some i) (hs : d.strat = some s) :
    s ∈ o.task.strategies ∧ ∃ p, V[i]? = some p ∧ p.canAccommodate s = true := by
  rcases step_cases cfg V o d V' h with ⟨_, rfl, _⟩ | ⟨_, _, rfl, _⟩ | ⟨s', i', p, p', b, _, hc, _, _, rfl, _⟩
  · cases hp
  · cases hp
  · cases hp; cases hs
    obtain ⟨a, b, q, hab, _, hq, hcq⟩ := choose_some V _ s i hc
    exact ⟨hab ▸ by simp, q, hq, hcq⟩

/-- The iteration that decided on `t`: the run before it, its step, the run after it. -/
theorem schedule_at {cfg : Cfg} {offer : List Offered} {live : List Pool} {r : Result}
    (h : schedule cfg offer live = .ok r) {pre post : List Offered} {t : Offered}
    (hsplit : r.order = pre ++ t :: post) :
    ∃ dpre Vpre d Vt dpost, run cfg r.virt0 pre = .ok (dpre, Vpre) ∧ step cfg Vpre t = .ok (d, Vt) ∧
      run cfg Vt post = .ok (dpost, r.virt) ∧ r.placements = dpre ++ d :: dpost ∧ dpre.length = pre.length ∧
      r.placements[pre.length]? = some d ∧ r.placements.take pre.length = dpre := by
  obtain ⟨dpre, Vpre, d, Vt, dpost, h1, hst, h2, hds, hl⟩ :=
    run_split cfg r.virt0 pre t post _ _ (hsplit ▸ (schedule_ok cfg offer live r h).2.2.2)
  exact ⟨dpre, Vpre, d, Vt, dpost, h1, hst, h2, hds, hl, by simp [hds, ← hl], by simp [hds, ← hl]⟩

theorem account_cancel (V : List Pool) (o : Offered) : account V o.lid o.task.strategies (cancelP o) = V := rfl
theorem account_unplaced (V : List Pool) (o : Offered) : account V o.lid o.task.strategies (unplacedP o) = V := rfl

theorem account_placed (cfg : Cfg) (V : List Pool) (o : Offered) (i : Nat) (s : Strategy) (p : Pool)
    (hp : V[i]? = some p) :
    account V o.lid o.task.strategies (placedP cfg o i s)
      = V.set i (p.placeTask o.lid o.task.strategies (some s) none).1 := by
  simp only [account, placedP, hp]

/-- Every policy hands the strategy it has tested to `WorkerPool.place_task`. -/
theorem passed_eq (cfg : Cfg) (s : Strategy) : passed cfg s = some s := by
  cases cfg with | mk p _ _ => cases p <;> rfl

theorem step_account (cfg : Cfg) (V : List Pool) (o : Offered) (d : PlacementS) (V' : List Pool)
    (h : step cfg V o = .ok (d, V')) : account V o.lid o.task.strategies d = V' := by
  rcases step_cases cfg V o d V' h with ⟨_, rfl, rfl⟩ | ⟨_, _, rfl, rfl⟩ | ⟨s, i, p, p', b, _, _, hp, hpl, rfl, rfl⟩
  · rfl
  · rfl
  · rw [account_placed cfg V o i s p hp, ← passed_eq cfg s, hpl]

theorem run_account (cfg : Cfg) (V : List Pool) (os : List Offered) (ds : List PlacementS)
    (Vf : List Pool) (h : run cfg V os = .ok (ds, Vf)) : accountAll V os ds = Vf := by
  induction os generalizing V ds with
  | nil => simp only [run] at h; cases h; rfl
  | cons x rest ih =>
    obtain ⟨d0, V', ds', hs, hr, rfl⟩ := run_cons cfg V x rest ds Vf h
    simp only [accountAll, step_account cfg V x d0 V' hs]
    exact ih V' ds' hr

/-! ### `WorkerPool.place_task` without a strategy

What the pool charges when the policy does not hand the tested strategy over (LSF before
/repo 366b4de, finding D13) is the tested strategy when the task has a single strategy, or the
pool a single worker. -/

/-- The pool-level choice when no strategy is given, for a single strategy: the same worker
as when that strategy is given. -/
theorem pickAny_single (ws : List Worker) (s : Strategy) (i : Nat) :
    Pool.placeTask.pickAny ws [s] i = (Pool.findIdx.go (·.canAccommodate s) ws i).map (·, some s) := by
  induction ws generalizing i with
  | nil => rfl
  | cons w r ih =>
    simp only [Pool.placeTask.pickAny, Pool.findIdx.go, List.find?]
    by_cases hc : w.canAccommodate s = true
    · simp [hc]
    · have hc : w.canAccommodate s = false := by simpa using hc
      simp [hc, ih]

theorem placeTask_none_single (p : Pool) (t : Nat) (s : Strategy) :
    p.placeTask t [s] none none = p.placeTask t [s] (some s) none := by
  unfold Pool.placeTask
  simp only [pickAny_single, Pool.findIdx]

/-- On a one-worker pool the pool's own choice is the first strategy of the list that fits
that worker. -/
theorem placeTask_none_oneWorker (p : Pool) (w : Worker) (t : Nat) (a b : List Strategy) (s : Strategy)
    (hw : p.workers = [w]) (ha : ∀ s' ∈ a, w.canAccommodate s' = false) (hs : w.canAccommodate s = true) :
    p.placeTask t (a ++ s :: b) none none = p.placeTask t (a ++ s :: b) (some s) none := by
  have hfind : (a ++ s :: b).find? w.canAccommodate = some s := by
    induction a with
    | nil => simp [hs]
    | cons x r ih =>
      have hx := ha x (List.mem_cons_self ..)
      simp only [List.cons_append, List.find?, hx]
      exact ih (fun s' hs' => ha s' (List.mem_cons_of_mem _ hs'))
  unfold Pool.placeTask
  simp only [hw, Pool.placeTask.pickAny, hfind, Pool.findIdx, Pool.findIdx.go, hs, if_true, Option.map]

end ErdosVerif.Model.Greedy
