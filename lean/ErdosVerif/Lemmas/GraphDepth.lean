/-
`get_node_depth` and `are_dependent` meet their definitions, given that
`topological_sort` returned a topological order (proved in `GraphTopo.lean`) and
that `depth_first(n)` yields exactly the nodes reachable from `n` (proved in
`GraphDfs.lean`); both facts enter as hypotheses here and are discharged in
`Props/C17.lean`.
-/
import ErdosVerif.Lemmas.GraphBasic

namespace ErdosVerif.Model.Graph

/-- One iteration of the loop body (without the early return). -/
def depthStep (g : Graph) (useMin : Bool) (d : Dict Nat) (n : Nat) : Dict Nat :=
  if (g.parentsOf n).isEmpty then d
  else Dict.set d n (aggregate useMin ((g.parentsOf n).map (fun p => (List.lookup p d).getD 1)) + 1)

/-- The value `node_to_depth[n]` after the whole order has been processed. -/
def depthVal (g : Graph) (useMin : Bool) (order : List Nat) (n : Nat) : Nat :=
  (List.lookup n (order.foldl (depthStep g useMin) [])).getD 1

theorem lookup_depthStep_ne (g : Graph) (useMin : Bool) (d : Dict Nat) {n k : Nat} (h : k ≠ n) :
    List.lookup k (depthStep g useMin d n) = List.lookup k d := by
  unfold depthStep
  split
  · rfl
  · exact Dict.lookup_set_ne d _ h

theorem depthStep_of_isEmpty (g : Graph) (useMin : Bool) (d : Dict Nat) {n : Nat}
    (h : (g.parentsOf n).isEmpty = true) : depthStep g useMin d n = d := by
  unfold depthStep; simp [h]

theorem lookup_depthStep_self (g : Graph) (useMin : Bool) (d : Dict Nat) {n : Nat}
    (h : ¬ (g.parentsOf n).isEmpty = true) :
    List.lookup n (depthStep g useMin d n) =
      some (aggregate useMin ((g.parentsOf n).map (fun p => (List.lookup p d).getD 1)) + 1) := by
  unfold depthStep; simp only [h]; exact Dict.lookup_set_self ..

theorem lookup_foldl_depthStep (g : Graph) (useMin : Bool) (l : List Nat) (d : Dict Nat) {k : Nat}
    (h : k ∉ l) : List.lookup k (l.foldl (depthStep g useMin) d) = List.lookup k d := by
  induction l generalizing d with
  | nil => rfl
  | cons a l ih =>
    simp only [List.mem_cons, not_or] at h
    simp only [List.foldl_cons]
    rw [ih _ h.2, lookup_depthStep_ne g useMin d h.1]

theorem depthLoop_not_mem (g : Graph) (useMin : Bool) (t : Nat) (l : List Nat) (d : Dict Nat)
    (h : t ∉ l) : depthLoop g useMin t l d = none := by
  induction l generalizing d with
  | nil => rfl
  | cons a l ih =>
    simp only [List.mem_cons, not_or] at h
    unfold depthLoop
    have : ¬ a = t := fun e => h.1 e.symm
    simp only [this, if_false]
    exact ih _ h.2

theorem depthLoop_split (g : Graph) (useMin : Bool) (t : Nat) (pre post : List Nat) (d : Dict Nat)
    (h : t ∉ pre) :
    depthLoop g useMin t (pre ++ t :: post) d =
      some ((List.lookup t (depthStep g useMin (pre.foldl (depthStep g useMin) d) t)).getD 1) := by
  induction pre generalizing d with
  | nil =>
    simp only [List.nil_append, List.foldl_nil]
    unfold depthLoop
    simp only [if_true]
    rfl
  | cons a pre ih =>
    simp only [List.mem_cons, not_or] at h
    simp only [List.cons_append, List.foldl_cons]
    unfold depthLoop
    have : ¬ a = t := fun e => h.1 e.symm
    simp only [this, if_false]
    exact ih _ h.2

theorem le_foldl_max (l : List Nat) (a : Nat) :
    a ≤ l.foldl (fun a b => Nat.max a b) a ∧ ∀ x ∈ l, x ≤ l.foldl (fun a b => Nat.max a b) a := by
  induction l generalizing a with
  | nil => simp
  | cons b l ih =>
    simp only [List.foldl_cons, List.mem_cons]
    obtain ⟨h1, h2⟩ := ih (Nat.max a b)
    refine ⟨Nat.le_trans (Nat.le_max_left a b) h1, ?_⟩
    rintro x (rfl | hx)
    · exact Nat.le_trans (Nat.le_max_right a x) h1
    · exact h2 x hx

theorem le_aggregate_max {l : List Nat} {x : Nat} (h : x ∈ l) : x ≤ aggregate false l := by
  cases l with
  | nil => cases h
  | cons a l =>
    unfold aggregate
    simp only [Bool.false_eq_true, if_false]
    obtain ⟨h1, h2⟩ := le_foldl_max l a
    rcases List.mem_cons.mp h with rfl | hx
    · exact h1
    · exact h2 x hx

structure TopoOrder (g : Graph) (order : List Nat) : Prop where
  nodup : order.Nodup
  parentsFirst : ∀ p n, p ∈ g.parentsOf n → n ∈ order → Before order p n

/-- In a duplicate-free order, the final value of `n` is the one assigned when the loop
reaches `n`, and the values read at that point are final if they come from earlier nodes. -/
theorem depthVal_split (g : Graph) (useMin : Bool) {pre post : List Nat} {n : Nat}
    (hnd : (pre ++ n :: post).Nodup) :
    depthVal g useMin (pre ++ n :: post) n
        = (List.lookup n (depthStep g useMin (pre.foldl (depthStep g useMin) []) n)).getD 1 ∧
      ∀ k ∈ pre, depthVal g useMin (pre ++ n :: post) k
        = (List.lookup k (pre.foldl (depthStep g useMin) [])).getD 1 := by
  obtain ⟨-, hpost, hdisj⟩ := List.nodup_append.mp hnd
  have hnpost : n ∉ post := (List.nodup_cons.mp hpost).1
  unfold depthVal
  refine ⟨?_, fun k hk => ?_⟩
  · rw [List.foldl_append, List.foldl_cons, lookup_foldl_depthStep g useMin post _ hnpost]
  · rw [List.foldl_append, List.foldl_cons,
      lookup_foldl_depthStep g useMin post _ (fun h => hdisj k hk k (List.mem_cons_of_mem _ h) rfl),
      lookup_depthStep_ne g useMin _ (fun e => hdisj k hk n (List.mem_cons_self ..) e)]

theorem depthVal_eq {g : Graph} {order : List Nat} (ho : TopoOrder g order) (useMin : Bool)
    {n : Nat} (hn : n ∈ order) :
    depthVal g useMin order n =
      if (g.parentsOf n).isEmpty then 1
      else aggregate useMin ((g.parentsOf n).map (depthVal g useMin order)) + 1 := by
  obtain ⟨pre, post, rfl⟩ := List.append_of_mem hn
  obtain ⟨hself, hval⟩ := depthVal_split g useMin ho.nodup
  have hpre : n ∉ pre := not_mem_of_nodup_append_cons ho.nodup
  rw [hself]
  by_cases hemp : (g.parentsOf n).isEmpty = true
  · rw [depthStep_of_isEmpty g useMin _ hemp, lookup_foldl_depthStep g useMin pre [] hpre]
    simp [hemp]
  · rw [lookup_depthStep_self g useMin _ hemp]
    simp only [Option.getD_some, hemp]
    congr 2
    apply List.map_congr_left
    intro p hp
    -- a parent comes before `n`, so its value is final when `n` is processed
    have hppre : p ∈ pre := (ho.parentsFirst p n hp hn).mem_of_idxOf_le
      (by rw [List.idxOf_append, if_neg hpre, List.idxOf_cons_self]; omega)
    rw [hval p hppre]

theorem getNodeDepth_eq {g : Graph} {order : List Nat} (htopo : g.topologicalSort = .ok order)
    (ho : TopoOrder g order) (useMin : Bool) {n : Nat} (hn : g.hasNode n = true) (hmem : n ∈ order) :
    g.getNodeDepth n useMin = .ok (some (depthVal g useMin order n)) := by
  unfold getNodeDepth
  simp only [hn, if_true, htopo]
  obtain ⟨pre, post, rfl⟩ := List.append_of_mem hmem
  have hpre : n ∉ pre := not_mem_of_nodup_append_cons ho.nodup
  rw [depthLoop_split g useMin n pre post [] hpre, (depthVal_split g useMin ho.nodup).1]

theorem TopoOrder.of_topo {g : Graph} (wf : g.WF) {order : List Nat} (hperm : order.Perm g.getNodes)
    (hfwd : ∀ u v, g.Edge u v → Before order u v) :
    TopoOrder g order ∧ ∀ k, g.hasNode k = true → k ∈ order :=
  ⟨⟨hperm.nodup_iff.mpr wf.nodupKeys, fun p m hp _ => hfwd p m (wf.mem_parentsOf.mp hp)⟩,
    fun k hk => hperm.mem_iff.mpr ((hasNode_iff_mem_getNodes g k).mp hk)⟩

/-- `depth_spec`: depth 1 for a node without parents, otherwise one more than the
max (min) of the parents' depths — stated through the public function only. -/
theorem depth_spec_of_topo {g : Graph} (wf : g.WF) {order : List Nat}
    (htopo : g.topologicalSort = .ok order) (hperm : order.Perm g.getNodes)
    (hfwd : ∀ u v, g.Edge u v → Before order u v) (useMin : Bool)
    {n : Nat} (hn : g.hasNode n = true) :
    ∃ d, g.getNodeDepth n useMin = .ok (some d) ∧
      (g.parentsOf n = [] → d = 1) ∧
      (g.parentsOf n ≠ [] → ∃ f : Nat → Nat,
        (∀ p ∈ g.parentsOf n, g.getNodeDepth p useMin = .ok (some (f p))) ∧
        d = aggregate useMin ((g.parentsOf n).map f) + 1) := by
  obtain ⟨ho, hmem⟩ := TopoOrder.of_topo wf hperm hfwd
  refine ⟨depthVal g useMin order n, getNodeDepth_eq htopo ho useMin hn (hmem n hn), ?_, ?_⟩
  · intro he
    rw [depthVal_eq ho useMin (hmem n hn), he]; rfl
  · intro hne
    refine ⟨depthVal g useMin order, fun p hp => ?_, ?_⟩
    · have hpn : g.hasNode p = true := (wf.mem_parentsOf.mp hp).left_hasNode
      exact getNodeDepth_eq htopo ho useMin hpn (hmem p hpn)
    · rw [depthVal_eq ho useMin (hmem n hn), if_neg (by simpa using hne)]

theorem depthVal_lt_of_edge {g : Graph} (wf : g.WF) {order : List Nat} (ho : TopoOrder g order)
    (hmem : ∀ k, g.hasNode k = true → k ∈ order) {u v : Nat} (e : g.Edge u v) :
    depthVal g false order u < depthVal g false order v := by
  have hp : u ∈ g.parentsOf v := wf.mem_parentsOf.mpr e
  rw [depthVal_eq ho false (hmem v (wf.closed u v e)),
    if_neg (by simpa using List.ne_nil_of_mem hp)]
  have := le_aggregate_max (List.mem_map.mpr ⟨u, hp, rfl⟩ : depthVal g false order u ∈ _)
  omega

theorem depthVal_lt_of_reach {g : Graph} (wf : g.WF) {order : List Nat} (ho : TopoOrder g order)
    (hmem : ∀ k, g.hasNode k = true → k ∈ order) {u v : Nat} (r : g.Reach u v) (hne : u ≠ v) :
    depthVal g false order u < depthVal g false order v :=
  (r.eq_or_lt fun _ _ e => depthVal_lt_of_edge wf ho hmem e).resolve_left hne

/-- `dependent_iff_reach`, with the two facts about `topological_sort` and
`depth_first` as hypotheses. -/
theorem dependent_spec_of {g : Graph} (wf : g.WF) {order : List Nat}
    (htopo : g.topologicalSort = .ok order) (hperm : order.Perm g.getNodes)
    (hfwd : ∀ u v, g.Edge u v → Before order u v)
    (hdfs : ∀ n, g.hasNode n = true →
      (g.depthFirst (some n)).2 = none ∧ ∀ m, m ∈ (g.depthFirst (some n)).1 ↔ g.Reach n m)
    {a b : Nat} (ha : g.hasNode a = true) (hb : g.hasNode b = true) :
    ∃ r, g.areDependent a b = .ok r ∧ (r = true ↔ a ≠ b ∧ (g.Reach a b ∨ g.Reach b a)) := by
  obtain ⟨ho, hmem⟩ := TopoOrder.of_topo wf hperm hfwd
  have hlt := fun {u v : Nat} (r : g.Reach u v) (hne : u ≠ v) => depthVal_lt_of_reach wf ho hmem r hne
  unfold areDependent
  rw [getNodeDepth_eq htopo ho false ha (hmem a ha), getNodeDepth_eq htopo ho false hb (hmem b hb)]
  simp only
  by_cases heq : depthVal g false order a = depthVal g false order b
  · simp only [heq, if_true]
    refine ⟨false, rfl, ?_⟩
    simp only [Bool.false_eq_true, false_iff, not_and, not_or]
    intro hne
    exact ⟨fun r => by have := hlt r hne; omega, fun r => by have := hlt r (Ne.symm hne); omega⟩
  · simp only [heq, if_false]
    -- different depths: the search starts from the shallower node `top`
    obtain ⟨top, bot, hsel, htop, hdep, hpair⟩ : ∃ top bot,
        (if depthVal g false order a > depthVal g false order b then (b, a) else (a, b)) = (top, bot) ∧
        g.hasNode top = true ∧ depthVal g false order top < depthVal g false order bot ∧
        (g.Reach a b ∨ g.Reach b a ↔ g.Reach top bot ∨ g.Reach bot top) := by
      by_cases hgt : depthVal g false order a > depthVal g false order b
      · exact ⟨b, a, by simp [hgt], hb, hgt, or_comm⟩
      · exact ⟨a, b, by simp [hgt], ha, by omega, Iff.rfl⟩
    obtain ⟨herr, hm⟩ := hdfs top htop
    rw [hsel]
    simp only [herr]
    refine ⟨(g.depthFirst (some top)).1.contains bot, ?_, ?_⟩
    · cases (g.depthFirst (some top)).1.contains bot <;> rfl
    · rw [List.contains_iff_mem, hm bot, hpair]
      have hab : a ≠ b := fun e => heq (by rw [e])
      refine ⟨fun r => ⟨hab, .inl r⟩, ?_⟩
      rintro ⟨-, r | r⟩
      · exact r
      · -- the deeper node does not reach the shallower one
        have := hlt r (fun e => by rw [e] at hdep; omega)
        omega

end ErdosVerif.Model.Graph
