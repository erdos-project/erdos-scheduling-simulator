/-
C15 (Clockwork model), part 3: admission (`add_task`, `Models.add_task`, `run_admission`)
preserves the invariant; cancellation of hopeless requests.
-/
import ErdosVerif.Lemmas.Clockwork
import ErdosVerif.Lemmas.MinLoop

namespace ErdosVerif.Clockwork

theorem insort_perm (r : Req) (q : List Req) : (insort r q).Perm (r :: q) := by
  induction q with
  | nil => exact .refl _
  | cons y ys ih =>
    unfold insort
    split
    · exact .refl _
    · exact (ih.cons y).trans (.swap r y ys)

theorem mem_insort {r x : Req} {q : List Req} : x ∈ insort r q ↔ x = r ∨ x ∈ q :=
  (insort_perm r q).mem_iff.trans List.mem_cons

theorem insort_sorted {r : Req} {q : List Req} (h : SortedQ q) : SortedQ (insort r q) := by
  induction q with
  | nil => simp [insort, SortedQ]
  | cons y ys ih =>
    unfold insort
    have hy := List.pairwise_cons.mp h
    split
    · refine List.pairwise_cons.mpr ⟨fun x hx => ?_, h⟩
      rcases List.mem_cons.mp hx with rfl | hx
      · omega
      · have := hy.1 x hx; omega
    · refine List.pairwise_cons.mpr ⟨fun x hx => ?_, ih hy.2⟩
      rcases mem_insort.mp hx with rfl | hx
      · omega
      · exact hy.1 x hx

/-- Distinctness of ids does not depend on the position of the new request. -/
theorem insort_nodup {r : Req} {q : List Req} (h : NodupQ q) (hr : ∀ x ∈ q, x.tid ≠ r.tid) :
    NodupQ (insort r q) :=
  ((insort_perm r q).pairwise_iff Ne.symm).mpr
    (List.pairwise_cons.mpr ⟨fun x hx => (hr x hx).symm, h⟩)

theorem addTask_mid (s : MState) (tid : Nat) (d : Int) : (s.addTask tid d).mid = s.mid := by
  unfold MState.addTask; split <;> rfl

theorem addTask_taskIds (s : MState) (tid : Nat) (d : Int) :
    ∀ x ∈ taskIds (s.addTask tid d), x ∈ taskIds s ∨ x = tid := by
  unfold MState.addTask; split
  · intro x hx; exact Or.inl hx
  · intro x hx
    simp only [taskIds, List.map_append, List.map_cons, List.map_nil, List.mem_append,
      List.mem_singleton] at hx
    exact hx

theorem MInv.addTask {c : Cfg} {s : MState} (h : MInv c s) {tid : Nat} {t : TaskCfg}
    (ht : c.tasks[tid]? = some t) (hm : t.model = s.mid) : MInv c (s.addTask tid t.deadline) := by
  unfold MState.addTask
  split
  · exact h
  · rename_i hnot
    have hnotin : tid ∉ taskIds s := fun hin => hnot (any_tid_iff.mpr hin)
    have hfresh : ∀ q ∈ s.queues, ∀ x ∈ q, x.tid ≠ tid := fun q hq x hx e =>
      hnotin (e ▸ h.qsub q hq x hx)
    have htids : taskIds { s with
        tasks := s.tasks ++ [{ tid := tid, deadline := t.deadline, cnt := (s.queues.length : Int) }],
        queues := s.queues.map (insort { tid := tid, deadline := t.deadline }) } = taskIds s ++ [tid] := by
      simp [taskIds]
    refine ⟨?_, ?_, ?_, ?_, ?_, ?_, ?_⟩
    · intro q' hq'
      obtain ⟨q, hq, rfl⟩ := List.mem_map.mp hq'
      exact insort_sorted (h.qsorted q hq)
    · intro q' hq'
      obtain ⟨q, hq, rfl⟩ := List.mem_map.mp hq'
      exact insort_nodup (h.qnodup q hq) (hfresh q hq)
    · intro q' hq' r hr
      obtain ⟨q, hq, rfl⟩ := List.mem_map.mp hq'
      rw [htids]
      rcases mem_insort.mp hr with rfl | hr
      · simp
      · exact List.mem_append_left _ (h.qsub q hq r hr)
    · rw [htids]
      exact nodup_concat h.tnodup hnotin
    · intro q' hq' r hr
      obtain ⟨q, hq, rfl⟩ := List.mem_map.mp hq'
      rcases mem_insort.mp hr with rfl | hr
      · exact ⟨t, ht, hm, rfl⟩
      · exact h.qcfg q hq r hr
    · intro x hx
      rw [htids] at hx
      rcases List.mem_append.mp hx with hx | hx
      · exact h.tcfg x hx
      · simp only [List.mem_singleton] at hx; subst hx; exact ⟨t, ht, hm⟩
    · simpa using h.qlen

theorem newModel_inv (c : Cfg) (m : Nat) : MInv c (newModel c m) := by
  have hq : ∀ q ∈ (newModel c m).queues, q = [] := by simp [newModel]
  refine ⟨?_, ?_, ?_, List.nodup_nil, ?_, ?_, by simp [newModel]⟩
  · exact fun q h => hq q h ▸ List.Pairwise.nil
  · exact fun q h => hq q h ▸ List.Pairwise.nil
  · exact fun q h r hr => absurd (hq q h ▸ hr) List.not_mem_nil
  · exact fun q h r hr => absurd (hq q h ▸ hr) List.not_mem_nil
  · exact fun tid h => absurd h List.not_mem_nil

theorem addModel_spec {c : Cfg} {st : SState} (h : SInv c st) (m : Nat) :
    SStep c st (addModel c st m) [] ∧ hasModel (addModel c st m) m = true := by
  unfold addModel
  split
  · rename_i hh; exact ⟨.refl h _, hh⟩
  · rename_i hno
    have hnot : m ∉ st.map (·.mid) := by simpa [hasModel] using hno
    refine ⟨⟨⟨?_, ?_⟩, ?_⟩, ?_⟩
    · intro s hs
      rcases List.mem_append.mp hs with hs | hs
      · exact h.1 s hs
      · simp only [List.mem_singleton] at hs; subst hs; exact newModel_inv c m
    · rw [List.map_append]
      exact nodup_concat h.2 hnot
    · intro tid htid
      obtain ⟨s, hs, ht⟩ := mem_allTids.mp htid
      rcases List.mem_append.mp hs with hs | hs
      · exact .inl (mem_allTids.mpr ⟨s, hs, ht⟩)
      · simp only [List.mem_singleton] at hs; subst hs; simp [newModel, taskIds] at ht
    · simp [hasModel, newModel]

theorem updModel_addTask_spec {c : Cfg} {st : SState} (h : SInv c st) {tid : Nat} {t : TaskCfg}
    (ht : c.tasks[tid]? = some t) :
    SStep c st (updModel st t.model (fun s => s.addTask tid t.deadline)) [tid] := by
  refine .map h fun s hs => ?_
  split
  · rename_i hm
    exact ⟨(h.1 s hs).addTask ht (by simpa using hm : s.mid = t.model).symm, addTask_mid ..,
      fun x hx => (addTask_taskIds s tid t.deadline x hx).imp_right List.mem_singleton.mpr⟩
  · exact ⟨h.1 s hs, rfl, fun _ hx => .inl hx⟩

/-- The request cannot meet its deadline even with the fastest strategy of its model. -/
def Hopeless (c : Cfg) (now : Int) (tid : Nat) : Prop :=
  ∃ t f, c.tasks[tid]? = some t ∧ fastest (c.strategiesOf t.model) = some f ∧ t.deadline < now + f

theorem admitOne_spec {c : Cfg} (now : Int) {st : SState} (h : SInv c st) (tid : Nat) :
    SStep c st (admitOne c now st tid).1 [tid] ∧
    ((admitOne c now st tid).2.2 = none →
      (Hopeless c now tid → (admitOne c now st tid).2.1 = some tid) ∧
      (∀ x, (admitOne c now st tid).2.1 = some x → x = tid ∧ Hopeless c now tid)) := by
  unfold admitOne
  split
  · exact ⟨.refl h _, by simp⟩
  · rename_i t ht
    split
    · exact ⟨.refl h _, by simp⟩
    · rename_i f hf
      split
      · rename_i hlt
        refine ⟨.refl h _, fun _ => ⟨fun _ => rfl, ?_⟩⟩
        intro x hx
        simp only [Option.some.injEq] at hx
        exact ⟨hx.symm, t, f, ht, hf, hlt⟩
      · rename_i hge
        have hnh : ¬ Hopeless c now tid := by
          rintro ⟨t', f', e1, e2, e3⟩
          rw [ht] at e1; cases e1
          rw [hf] at e2; cases e2
          exact hge e3
        have ham := (addModel_spec h t.model).1
        simp only []
        split
        · exact ⟨ham.trans (.refl ham.sinv _), fun _ => ⟨fun hh => absurd hh hnh, by simp⟩⟩
        · split
          · exact ⟨ham.trans (.refl ham.sinv _), by simp⟩
          · exact ⟨ham.trans (updModel_addTask_spec ham.sinv ht), fun _ => ⟨fun hh => absurd hh hnh, by simp⟩⟩

theorem admitAll_spec {c : Cfg} (now : Int) (offered : List Nat) {st : SState} (h : SInv c st) :
    SStep c st (admitAll c now st offered).1 offered ∧
    ((admitAll c now st offered).2.2 = none →
      (∀ tid ∈ offered, Hopeless c now tid → tid ∈ (admitAll c now st offered).2.1) ∧
      (∀ x ∈ (admitAll c now st offered).2.1, x ∈ offered ∧ Hopeless c now x)) := by
  induction offered generalizing st with
  | nil => exact ⟨.refl h _, by simp [admitAll]⟩
  | cons tid rest ih =>
    obtain ⟨h1, h1c⟩ := admitOne_spec now h tid
    unfold admitAll
    split
    · rename_i st1 cn e heq
      rw [heq] at h1
      exact ⟨h1.trans (.refl h1.sinv rest), by simp⟩
    · rename_i st1 cn heq
      rw [heq] at h1 h1c
      simp only [] at h1 h1c ⊢
      obtain ⟨hr, hrc⟩ := ih h1.sinv
      refine ⟨h1.trans hr, fun hnone => ?_⟩
      · replace h1c := h1c trivial
        replace hrc := hrc hnone
        refine ⟨?_, ?_⟩
        · intro t' ht' hh
          rcases List.mem_cons.mp ht' with rfl | ht'
          · have := h1c.1 hh
            simp [this]
          · exact List.mem_append_right _ (hrc.1 t' ht' hh)
        · intro x hx
          rcases List.mem_append.mp hx with hx | hx
          · cases cn with
            | none => simp at hx
            | some y =>
              simp only [List.mem_singleton] at hx
              subst hx
              obtain ⟨e1, e2⟩ := h1c.2 x rfl
              subst e1
              exact ⟨List.mem_cons_self, e2⟩
          · exact ⟨List.mem_cons_of_mem _ (hrc.2 x hx).1, (hrc.2 x hx).2⟩

theorem fastest_le {l : List Strategy} {f : Int} (h : fastest l = some f) :
    ∀ s ∈ l, f ≤ s.runtime := by
  cases l with
  | nil => simp [fastest] at h
  | cons a as =>
    simp only [fastest, Option.some.injEq] at h
    subst h
    -- the loop over the strategies is the `min` loop over their runtimes
    have := (Model.Heap.foldl_min_key id (as.map (·.runtime)) a.runtime).2
    simp only [List.foldl_map, id, ← List.map_cons] at this
    exact fun s hs => this _ (List.mem_map_of_mem hs)

end ErdosVerif.Clockwork
