import ErdosVerif.Lemmas.LedgerInv
/-!
What a pool operation is in terms of worker operations: `place_task` and `remove_task` leave the pool
as it was or store the result of the worker operation at one index (`placeTask_cases`,
`removeTask_cases`); the operations that visit workers (`load_profile`, `evict_profile`, the read
`get_allocated_resources`, `onWorker`) replace workers by the result of one worker operation
(`Pool.Upd`). Core Lean only.
-/
namespace ErdosVerif.Model

namespace Worker

/-- `Worker.place_task`, by outcome: refused before the ledger is asked; refused by the ledger (the worker keeps what
`allocate_multiple` left of it); a plain task; the first member of a batch; a further member. -/
theorem placeTask_cases (w : Worker) (t : Nat) (s : Strategy) :
    ((w.placeTask t s).1 = w ∧ (w.placeTask t s).2 ≠ .ok) ∨
    (∃ c r e, w.res.allocateMultiple s.req c = (r, .raised e) ∧ w.placeTask t s = ({ w with res := r }, .raised e)) ∨
    (s.isBatch = false ∧ ∃ r, w.res.allocateMultiple s.req (.task t) = (r, .ok) ∧
        w.placeTask t s = ({ w with res := r, placed := w.placed.set t s }, .ok)) ∨
    (s.isBatch = true ∧ AList.get? w.batches s.sid = none ∧
      ∃ r, w.res.allocateMultiple s.req (.batch w.fresh) = (r, .ok) ∧
        w.placeTask t s = ({ w with res := r, batches := w.batches.set s.sid [t], placed := w.placed.set t s,
                                    batchTask := w.batchTask.set s.sid (.batch w.fresh), fresh := w.fresh + 1 }, .ok)) ∨
    (s.isBatch = true ∧ ∃ ms, AList.get? w.batches s.sid = some ms ∧
        w.placeTask t s = ({ w with batches := w.batches.set s.sid (if ms.contains t then ms else ms ++ [t]),
                                    placed := w.placed.set t s }, .ok)) := by
  -- the cases are numbered in the order of the branches of `Worker.placeTask` (Model/Ledger.lean); the ones not named
  -- are refusals that leave the worker as it was
  fun_cases placeTask w t s
  case case2 hb hnone _ r hres => exact .inr (.inr (.inr (.inl ⟨hb, hnone, r, hres, rfl⟩)))
  case case5 hb ms hms _ _ => exact .inr (.inr (.inr (.inr ⟨hb, ms, hms, rfl⟩)))
  case case6 hb r hres => exact .inr (.inr (.inl ⟨by simpa using hb, r, hres, rfl⟩))
  case case3 r o ho hres | case7 r o ho hres =>
    cases o with
    | ok => exact absurd rfl ho
    | raised e => exact .inr (.inl ⟨_, r, e, hres, rfl⟩)
  all_goals exact .inl ⟨rfl, nofun⟩
/-- `Worker.remove_task`, by outcome. A refusal leaves the worker as it was, except where the batch
bookkeeping is broken half-way (`members'` already stored): the last two refusals. -/
theorem removeTask_cases (w : Worker) (t : Nat) :
    ((w.removeTask t).1 = w ∧ (w.removeTask t).2 ≠ .ok) ∨
    ∃ s, AList.get? w.placed t = some s ∧
      ((s.isBatch = false ∧ ∃ r, w.res.deallocate (.task t) = (r, .ok) ∧
          w.removeTask t = ({ w with res := r, placed := w.placed.erase t }, .ok)) ∨
       (s.isBatch = false ∧ ∃ r e, w.res.deallocate (.task t) = (r, .raised e) ∧
          w.removeTask t = ({ w with res := r }, .raised e)) ∨
       (s.isBatch = true ∧ ∃ ms, AList.get? w.batches s.sid = some ms ∧ ms.contains t = true ∧
          ((ms.erase t ≠ [] ∧ w.removeTask t =
              ({ w with batches := w.batches.set s.sid (ms.erase t), placed := w.placed.erase t }, .ok)) ∨
           (ms.erase t = [] ∧ ∃ bt r, AList.get? w.batchTask s.sid = some bt ∧ w.res.deallocate bt = (r, .ok) ∧
              w.removeTask t = ({ w with res := r, batches := (w.batches.set s.sid (ms.erase t)).erase s.sid,
                                         batchTask := w.batchTask.erase s.sid, placed := w.placed.erase t }, .ok)) ∨
           (ms.erase t = [] ∧ AList.get? w.batchTask s.sid = none ∧ w.removeTask t =
              ({ w with batches := w.batches.set s.sid (ms.erase t) }, .raised .runtimeError)) ∨
           (ms.erase t = [] ∧ ∃ bt r e, AList.get? w.batchTask s.sid = some bt ∧ w.res.deallocate bt = (r, .raised e) ∧
              w.removeTask t = ({ w with res := r, batches := w.batches.set s.sid (ms.erase t) }, .raised e))))) := by
  -- likewise, in the order of the branches of `Worker.removeTask`
  fun_cases removeTask w t
  case case4 s hs hb ms hms hc _ _ hlen hbt =>
    exact .inr ⟨s, hs, .inr (.inr ⟨hb, ms, hms, by simpa using hc, .inr (.inr (.inl
      ⟨List.length_eq_zero_iff.mp hlen, hbt, rfl⟩))⟩)⟩
  case case5 s hs hb ms hms hc _ _ hlen bt hbt r hd =>
    exact .inr ⟨s, hs, .inr (.inr ⟨hb, ms, hms, by simpa using hc, .inr (.inl
      ⟨List.length_eq_zero_iff.mp hlen, bt, r, hbt, hd, rfl⟩)⟩)⟩
  case case6 s hs hb ms hms hc _ _ hlen bt hbt r e he hd =>
    cases e with
    | ok => exact absurd rfl he
    | raised e => exact .inr ⟨s, hs, .inr (.inr ⟨hb, ms, hms, by simpa using hc, .inr (.inr (.inr
        ⟨List.length_eq_zero_iff.mp hlen, bt, r, e, hbt, hd, rfl⟩))⟩)⟩
  case case7 s hs hb ms hms hc _ _ hlen =>
    exact .inr ⟨s, hs, .inr (.inr ⟨hb, ms, hms, by simpa using hc, .inl
      ⟨fun e => hlen (List.length_eq_zero_iff.mpr e), rfl⟩⟩)⟩
  case case8 s hs hb r hd => exact .inr ⟨s, hs, .inl ⟨by simpa using hb, r, hd, rfl⟩⟩
  case case9 s hs hb r e he hd =>
    cases e with
    | ok => exact absurd rfl he
    | raised e => exact .inr ⟨s, hs, .inr (.inl ⟨by simpa using hb, r, e, hd, rfl⟩)⟩
  all_goals exact .inl ⟨rfl, nofun⟩
end Worker

namespace Pool

/-- `p'` is `p` with the workers at some indices replaced, each by `f` of what stood there. -/
inductive Upd (f : Worker → Worker) : Pool → Pool → Prop
  | refl (p : Pool) : Upd f p p
  | step {p p' : Pool} {i : Nat} {w : Worker} :
      p.workers[i]? = some w → Upd f (p.setWorker i (f w)) p' → Upd f p p'

namespace Upd
variable {f : Worker → Worker} {p p' : Pool}

theorem one {i : Nat} {w : Worker} (hw : p.workers[i]? = some w) : Upd f p (p.setWorker i (f w)) :=
  .step hw (.refl _)

theorem all {Q : Worker → Prop} (hf : ∀ w, Q w → Q (f w)) (h : Upd f p p') (hp : ∀ w ∈ p.workers, Q w) :
    ∀ w ∈ p'.workers, Q w := by
  induction h with
  | refl => exact hp
  | step hw _ ih =>
    refine ih fun x hx => ?_
    rcases List.mem_or_eq_of_mem_set hx with hx | rfl
    · exact hp x hx
    · exact hf _ (hp _ (List.mem_of_getElem? hw))

theorem placed (h : Upd f p p') : p'.placed = p.placed := by
  induction h with
  | refl => rfl
  | step _ _ ih => exact ih

end Upd

theorem onWorker_upd (p : Pool) (i : Nat) (f : Worker → Worker × Outcome) :
    Upd (fun w => (f w).1) p (p.onWorker i f).1 := by
  unfold onWorker
  split
  · exact .refl p
  · exact .one ‹_›

theorem onWorker'_upd (p : Pool) (wi t : Nat) : Upd (fun w => (w.getAllocated t).1) p (p.onWorker' wi t).1 := by
  unfold onWorker'
  split
  · exact .refl p
  · exact .one ‹_›

theorem loadProfile_go_upd (prof : Nat) (s : Strategy) (p : Pool) (n i : Nat) :
    Upd (fun w => (w.loadProfile prof s).1) p (loadProfile.go p prof s n i).1 := by
  fun_induction loadProfile.go p prof s n i with
  | case1 p => exact .refl p
  | case2 p => exact .refl p
  | case3 p n i w hw w' hres ih => exact .step hw (by rw [hres]; exact ih)
  | case4 p n i w hw w' e _ hres => exact (show (w.loadProfile prof s).1 = w' by rw [hres]) ▸ .one hw

theorem loadProfile_upd (p : Pool) (prof : Nat) (s : Strategy) (wid? : Option Nat) :
    Upd (fun w => (w.loadProfile prof s).1) p (p.loadProfile prof s wid?).1 := by
  unfold loadProfile
  split
  · split
    · exact .refl p
    · exact .one ‹_›
  · exact loadProfile_go_upd ..

theorem evictProfile_go_upd (prof : Nat) (p : Pool) (n i : Nat) :
    Upd (fun w => (w.evictProfile prof).1) p (evictProfile.go p prof n i).1 := by
  fun_induction evictProfile.go p prof n i with
  | case1 p => exact .refl p
  | case2 p => exact .refl p
  | case3 p n i w hw w' hres ih => exact .step hw (by rw [hres]; exact ih)
  | case4 p n i w hw w' e _ hres => exact (show (w.evictProfile prof).1 = w' by rw [hres]) ▸ .one hw

theorem evictProfile_upd (p : Pool) (prof : Nat) (wid? : Option Nat) :
    Upd (fun w => (w.evictProfile prof).1) p (p.evictProfile prof wid?).1 := by
  unfold evictProfile
  split
  · split
    · exact .refl p
    · exact .one ‹_›
  · exact evictProfile_go_upd ..

theorem findIdx_go_some (f : Worker → Bool) (ws : List Worker) (k i : Nat)
    (h : Pool.findIdx.go f ws k = some i) : ∃ j w, i = k + j ∧ ws[j]? = some w ∧ f w = true := by
  induction ws generalizing k with
  | nil => simp [Pool.findIdx.go] at h
  | cons w r ih =>
    simp only [Pool.findIdx.go] at h
    split at h
    · rename_i hf
      cases h
      exact ⟨0, w, rfl, rfl, hf⟩
    · obtain ⟨j, w', hi, hw', hf'⟩ := ih (k + 1) h
      exact ⟨j + 1, w', by omega, by simpa using hw', hf'⟩

theorem pickAny_some (ws : List Worker) (strats : List Strategy) (k i : Nat) (x : Option Strategy)
    (h : Pool.placeTask.pickAny ws strats k = some (i, x)) :
    ∃ j w s, i = k + j ∧ x = some s ∧ s ∈ strats ∧ ws[j]? = some w ∧ w.canAccommodate s = true := by
  induction ws generalizing k with
  | nil => simp [Pool.placeTask.pickAny] at h
  | cons w r ih =>
    simp only [Pool.placeTask.pickAny] at h
    split at h
    · rename_i s hs
      cases h
      exact ⟨0, w, s, rfl, rfl, List.mem_of_find?_eq_some hs, rfl, by simpa using List.find?_some hs⟩
    · obtain ⟨j, w', s, hi, hx, hs, hw', hc⟩ := ih (k + 1) h
      exact ⟨j + 1, w', s, by omega, hx, hs, by simpa using hw', hc⟩

/-- `WorkerPool.place_task`: nothing happens and the answer is not `True` (without a worker id it is `False`), or
the worker operation runs on one worker that accommodates the strategy — the one given, or one of the task's —;
the pool records the task where that one succeeds. -/
theorem placeTask_cases (p : Pool) (t : Nat) (strats : List Strategy) (s? : Option Strategy) (wid? : Option Nat) :
    ((p.placeTask t strats s? wid?).1 = p ∧ (p.placeTask t strats s? wid?).2 ≠ .ok true ∧
      (wid? = none → (p.placeTask t strats s? wid?).2 = .ok false)) ∨
    ∃ i w s, p.workers[i]? = some w ∧ w.canAccommodate s = true ∧ (s? = some s ∨ s ∈ strats) ∧
      (((w.placeTask t s).2 = .ok ∧ p.placeTask t strats s? wid? =
          ({ (p.setWorker i (w.placeTask t s).1) with placed := p.placed.set t i }, .ok true)) ∨
       ∃ e, (w.placeTask t s).2 = .raised e ∧
          p.placeTask t strats s? wid? = (p.setWorker i (w.placeTask t s).1, .error e)) := by
  unfold placeTask
  simp only []
  -- each branch knows what the choice was (`heq`); a choice without a worker id names a worker and a strategy
  split
  · rename_i e heq
    exact .inl ⟨rfl, nofun, fun hn => by subst hn; cases s? <;> simp at heq⟩
  · exact .inl ⟨rfl, nofun, fun _ => rfl⟩
  · rename_i i heq
    refine .inl ⟨rfl, nofun, fun hn => ?_⟩
    subst hn
    cases s? with
    | some s' => simp at heq
    | none =>
      obtain ⟨_, _, _, _, hx, _⟩ := pickAny_some p.workers strats 0 i none (by simpa using heq)
      cases hx
  · rename_i i s heq
    obtain ⟨w, hw, hc, hm⟩ : ∃ w, p.workers[i]? = some w ∧ w.canAccommodate s = true ∧ (s? = some s ∨ s ∈ strats) := by
      cases wid? with
      | some i' =>
        cases hw' : p.workers[i']? with
        | none => simp [hw'] at heq
        | some w' =>
          simp only [hw'] at heq
          cases s? with
          | some s' =>
            simp only at heq
            split at heq
            · cases heq
            · rename_i hc; cases heq; exact ⟨w', hw', by simpa using hc, .inl rfl⟩
          | none =>
            simp only [Except.ok.injEq, Option.some.injEq, Prod.mk.injEq] at heq
            obtain ⟨rfl, hf⟩ := heq
            exact ⟨w', hw', by simpa using List.find?_some hf, .inr (List.mem_of_find?_eq_some hf)⟩
      | none =>
        cases s? with
        | some s' =>
          simp only [Except.ok.injEq, Option.map_eq_some_iff, Prod.mk.injEq, Option.some.injEq] at heq
          obtain ⟨a, hf, rfl, rfl⟩ := heq
          obtain ⟨j, w, hi, hw, hc⟩ := findIdx_go_some _ p.workers 0 a hf
          obtain rfl : j = a := by omega
          exact ⟨w, hw, hc, .inl rfl⟩
        | none =>
          simp only [Except.ok.injEq] at heq
          obtain ⟨j, w, s1, hi, hx, hsm, hw, hc⟩ := pickAny_some p.workers strats 0 i _ heq
          obtain rfl : j = i := by omega
          cases hx
          exact ⟨w, hw, hc, .inr hsm⟩
    refine .inr ⟨i, w, s, hw, hc, hm, ?_⟩
    simp only [hw]
    split
    · rename_i hres; rw [hres]; exact .inl ⟨rfl, rfl⟩
    · rename_i hres; rw [hres]; exact .inr ⟨_, rfl, rfl⟩

theorem removeTask_cases (p : Pool) (t : Nat) :
    ((p.removeTask t).1 = p ∧ (p.removeTask t).2 ≠ .ok) ∨
    ∃ i w, p.placed.get? t = some i ∧ p.workers[i]? = some w ∧
      (((w.removeTask t).2 = .ok ∧ p.removeTask t =
          ({ (p.setWorker i (w.removeTask t).1) with placed := p.placed.erase t }, .ok)) ∨
       ((w.removeTask t).2 ≠ .ok ∧ p.removeTask t = (p.setWorker i (w.removeTask t).1, (w.removeTask t).2))) := by
  unfold removeTask
  split
  · exact .inl ⟨rfl, nofun⟩
  · rename_i i hi
    split
    · exact .inl ⟨rfl, nofun⟩
    · rename_i w hw
      refine .inr ⟨i, w, hi, hw, ?_⟩
      split
      · rename_i hres; rw [hres]; exact .inl ⟨rfl, rfl⟩
      · rename_i hne hres; rw [hres]; exact .inr ⟨hne, rfl⟩

end Pool
end ErdosVerif.Model
