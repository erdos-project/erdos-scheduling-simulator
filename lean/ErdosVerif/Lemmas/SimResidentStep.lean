import ErdosVerif.Lemmas.SimResidentInv
import ErdosVerif.Lemmas.SimResidentActs
import ErdosVerif.Lemmas.SimEvents
/-!
`__step(dt)` keeps the residency / exact-runtime invariant (`step_rspec`): every RUNNING task
is stepped (through the worker it is resident on), `start + remaining-at-start = now + remaining`
is restored when the clock advances, the TASK_FINISHED events of the tasks that ran out of work
are due now.
-/
namespace ErdosVerif.Model.Sim

/-- `dt` does not overshoot any RUNNING task (the simulator steps by at most the smallest
remaining time of the placed tasks). -/
def DtOK (s : SimS) (dt : Int) : Prop :=
  ∀ t x, taskAt s.graphs t = some x → x.state = .running → ∀ r, x.remaining = some r → dt ≤ r

def SteppedAt (s : SimS) (m : Int) (t : TaskId) : Prop :=
  ∀ x, taskAt s.graphs t = some x → x.state = .running → x.lastStep = m

def FinAt (s : SimS) (m : Int) (t : TaskId) : Prop :=
  ∃ x, taskAt s.graphs t = some x ∧ x.state = .running ∧ x.remaining = some 0 ∧ x.lastStep = m

theorem doStep_mid (x : TaskS) (now dt : Int) (log : List LogE) (t : TaskId) (hs : x.state = .running) (hdt : 0 ≤ dt)
    (h : RunMid dt now log t x) :
    (x.doStep now dt).1.state = .running ∧ (x.doStep now dt).1.pre = x.pre ∧
    RunMid dt now log t (x.doStep now dt).1 ∧ (x.doStep now dt).1.lastStep = now + dt ∧
    ∃ r r', x.remaining = some r ∧ (x.doStep now dt).1.remaining = some r' ∧
      (x.doStep now dt).1.lastStep + r' = x.lastStep + r ∧ ((x.doStep now dt).2 = true → r' = 0) := by
  obtain ⟨r, hr, hr0, hst, ⟨r0, pid, hlog, hsum⟩, hls⟩ := h
  have hst' : x.start ≤ now + dt := by omega
  by_cases hz : r = 0
  · subst hz
    rw [TaskS.doStep_running x now dt 0 hs hst' hr, if_pos rfl]
    have hl : x.lastStep = now + dt := by
      rcases hls with ⟨h1, h2⟩ | h1
      · omega
      · exact h1
    exact ⟨hs, rfl, ⟨0, hr, hr0, hst, ⟨r0, pid, hlog, hsum⟩, Or.inr hl⟩, hl, 0, 0, hr, hr, rfl, fun _ => rfl⟩
  · by_cases hfin : r - (now + dt - x.lastStep) ≤ 0
    · rw [TaskS.doStep_running x now dt r hs hst' hr, if_neg hz, if_pos hfin]
      have hrd : r = dt ∧ x.lastStep = now := by
        rcases hls with ⟨h2, h3⟩ | h2
        · omega
        · omega
      refine ⟨hs, rfl, ⟨0, rfl, Int.le_refl _, hst, ⟨r0, pid, hlog, ?_⟩, Or.inr ?_⟩, ?_, r, 0, hr, rfl, ?_, fun _ => rfl⟩
      · show x.start + r0 = now + r + 0; omega
      · show now + r = now + dt; omega
      · show now + r = now + dt; omega
      · show now + r + 0 = x.lastStep + r; omega
    · rw [TaskS.doStep_running x now dt r hs hst' hr, if_neg hz, if_neg hfin]
      refine ⟨hs, rfl, ⟨r - (now + dt - x.lastStep), rfl, by omega, hst, ⟨r0, pid, hlog, ?_⟩, Or.inr rfl⟩, rfl, r,
        r - (now + dt - x.lastStep), hr, rfl, ?_, fun hc => by cases hc⟩
      · show x.start + r0 = now + dt + (r - (now + dt - x.lastStep)); omega
      · show now + dt + (r - (now + dt - x.lastStep)) = x.lastStep + r; omega

theorem AP.enterStep {ex : List SEvent} {s : SimS} {dt : Int} (h : AP RunOK ex s) (hd : DtOK s dt) :
    AP (RunMid dt) ex s := by
  refine { h with core := h.core.mono_P ?_ }
  intro t x ht hs ⟨r, hr, hr0, hls, hst, r0, pid, hlog, hsum⟩
  exact ⟨r, hr, hr0, hst, ⟨r0, pid, hlog, by omega⟩, Or.inl ⟨hls, hd t x ht hs r hr⟩⟩

theorem AP.stepTask {ex : List SEvent} {dt : Int} {s : SimS} (h : AP (RunMid dt) ex s) (hdt : 0 ≤ dt)
    (t : TaskId) (g : GraphS) (x : TaskS) (hg : s.graphs[t.g]? = some g) (hx : g.task? t.t = some x)
    (hrun : x.state = .running) (s' : SimS)
    (hs' : s' = { s with graphs := s.graphs.setIfInBounds t.g (g.setTask t.t (x.doStep s.now dt).1) }) :
    AP (RunMid dt) ex s' ∧ SteppedAt s' (s.now + dt) t ∧
    (∀ u, SteppedAt s (s.now + dt) u → SteppedAt s' (s.now + dt) u) ∧
    (∀ u, FinAt s (s.now + dt) u → FinAt s' (s.now + dt) u) ∧
    ((x.doStep s.now dt).2 = true → FinAt s' (s.now + dt) t) := by
  subst hs'
  have hT : taskAt s.graphs t = some x := taskAt_of _ _ g x hg hx
  obtain ⟨k1, k2, k3, k4, r, r', hr, hr', hsum, hfin⟩ :=
    doStep_mid x s.now dt s.log.toList t hrun hdt (h.core.run t x hT hrun)
  obtain ⟨hT't, hT'o⟩ := taskAt_setTask s.graphs t g x (x.doStep s.now dt).1 hg hx
  have hpre : (x.doStep s.now dt).1.PreOK := by
    have := h.core.preOK t x hT
    simpa [TaskS.PreOK, k2] using this
  refine ⟨⟨?_, h.log, h.eids, h.allQ, h.tmplQ, h.loaderOf hg _ rfl⟩, ?_, ?_, ?_, ?_⟩
  · exact h.core.update_running t x _ r r' hT hrun hT't hT'o k1 hpre k3 hr hr' hsum
  · intro y hy _
    rw [hT't] at hy; cases hy; exact k4
  · intro u hu y hy hs
    by_cases hut : u = t
    · subst hut
      rw [hT't] at hy; cases hy; exact k4
    · rw [hT'o u hut] at hy; exact hu y hy hs
  · rintro u ⟨y, hy, h1, h2, h3⟩
    by_cases hut : u = t
    · subst hut
      rw [hT] at hy; cases hy
      -- a task with no work left is not changed by `step`
      have : (x.doStep s.now dt).1 = x := by
        rcases TaskS.doStep_cases x s.now dt with ⟨_, e⟩ | ⟨r, _, _, hr, hr0, _⟩
        · rw [e]
        · exact absurd (Option.some.inj (hr.symm.trans h2)) hr0
      exact ⟨x, by rw [hT't, this], h1, h2, h3⟩
    · exact ⟨y, by rw [hT'o u hut]; exact hy, h1, h2, h3⟩
  · intro hf
    exact ⟨_, hT't, k1, by rw [hr', hfin hf], k4⟩

theorem AP.leaveStep {ex : List SEvent} {dt : Int} {s : SimS} (h : AP (RunMid dt) ex s) (hdt : 0 ≤ dt)
    (hall : ∀ t, SteppedAt s (s.now + dt) t) :
    AP RunOK ex { s with now := s.now + dt, log := s.log.push (.clock (s.now + dt)) } := by
  refine ⟨?_, ?_, h.eids, h.allQ, h.tmplQ, h.loader⟩
  · refine h.core.mono_P ?_
    intro t x ht hs ⟨r, hr, hr0, hst, ⟨r0, pid, hlg, hsum⟩, _⟩
    have hls := hall t x ht hs
    show RunOK (s.now + dt) (s.log.push _).toList t x
    exact ⟨r, hr, hr0, hls, by omega, r0, pid, by simp [hlg], by omega⟩
  · show LogOK (s.log.push _).toList
    rw [Array.toList_push]
    apply LogOK.push _ _ h.log
    intro t τ he; cases he

/-- The TASK_FINISHED event `__step` creates for a task that ran out of work (not queued yet). -/
theorem AP.mkFin {P : Int → List LogE → TaskId → TaskS → Prop} {ex : List SEvent} {s : SimS} (h : AP P ex s)
    (e : SEvent) (t : TaskId) (m : Int) (hfin : FinAt s m t) (htid : e.tid = some t) (htime : e.ev.time = m)
    (heid : e.ev.eid = s.nextEid) : AP P (ex ++ [e]) { s with nextEid := s.nextEid + 1 } := by
  obtain ⟨x, hx, hrun, hr, hls⟩ := hfin
  refine h.finEvent hx hrun (fun r hr' => ?_) htid heid fun e' he' => ?_
  · rw [hr] at hr'; cases hr'
    rw [htime, hls]; simp
  · rw [← List.append_assoc, List.mem_append, List.mem_singleton] at he'
    exact he'

/-- What holds in `__step(dt)` until the clock moves, relative to the entry state `s0`: the
residents (of `s0`) in `done` have been stepped, the tasks in `fin` ran out of work, the
TASK_FINISHED events `ex` have been created and are not queued yet. -/
structure StepI (dt : Int) (s0 : SimS) (ex : List SEvent) (done : Nat → Prop) (fin : List TaskId) (s : SimS) :
    Prop where
  ap : AP (RunMid dt) ex s
  now : s.now = s0.now
  dtnn : 0 ≤ dt
  pools : views s.pools = views s0.pools
  fin : ∀ u ∈ fin, FinAt s (s0.now + dt) u
  stepped : ∀ m, done m → SteppedAt s (s0.now + dt) (ungid m)

/-- The residents the three stepping loops have visited: those of the pools `pref`, of the
workers `wpref` of the current pool, and the entries `epref` of the current worker. -/
def Visited (s0 : SimS) (pref : List Nat) (wpref : List Worker) (epref : List (Nat × Strategy)) (m : Nat) : Prop :=
  (∃ pj ∈ pref, ∃ i, At (views s0.pools) pj i m) ∨ (∃ w ∈ wpref, m ∈ AList.keys w.placed) ∨ m ∈ AList.keys epref

theorem Visited.entry {s0 : SimS} {pref : List Nat} {wpref : List Worker} {epref : List (Nat × Strategy)}
    {cur : Nat × Strategy} {m : Nat} (h : Visited s0 pref wpref (epref ++ [cur]) m) :
    Visited s0 pref wpref epref m ∨ m = cur.1 := by
  rcases h with h | h | h
  · exact Or.inl (Or.inl h)
  · exact Or.inl (Or.inr (Or.inl h))
  · rw [AList.keys, List.map_append, List.mem_append] at h
    rcases h with h | h
    · exact Or.inl (Or.inr (Or.inr h))
    · exact Or.inr (List.mem_singleton.mp h)

theorem Visited.worker {s0 : SimS} {pref : List Nat} {wpref : List Worker} {w : Worker} {m : Nat}
    (h : Visited s0 pref (wpref ++ [w]) [] m) : Visited s0 pref wpref w.placed m := by
  rcases h with h | ⟨w', hw', hm⟩ | h
  · exact Or.inl h
  · rcases List.mem_append.mp hw' with h1 | h1
    · exact Or.inr (Or.inl ⟨w', h1, hm⟩)
    · exact Or.inr (Or.inr (List.mem_singleton.mp h1 ▸ hm))
  · cases h

theorem Visited.pool {s0 s : SimS} {pref : List Nat} {pi : Nat} {pool : Pool} {m : Nat}
    (hv : views s.pools = views s0.pools) (hp : s.pools[pi]? = some pool)
    (h : Visited s0 (pref ++ [pi]) [] [] m) : Visited s0 pref pool.workers [] m := by
  rcases h with ⟨pj, hpj, i, hat⟩ | ⟨_, hw, _⟩ | h
  · rcases List.mem_append.mp hpj with h1 | h1
    · exact Or.inl ⟨pj, h1, i, hat⟩
    · rw [List.mem_singleton.mp h1] at hat
      obtain ⟨v, ks, hv', hk, hmem⟩ := hat
      rw [← hv, views_getElem?, hp] at hv'
      cases hv'
      rw [Pool.view_getElem?] at hk
      cases hwk : pool.workers[i]? with
      | none => simp [hwk] at hk
      | some w =>
        simp only [hwk, Option.map_some, Option.some.injEq] at hk
        exact Or.inr (Or.inl ⟨w, List.mem_of_getElem? hwk, hk ▸ hmem⟩)
  · cases hw
  · cases h

namespace StepI
variable {dt : Int} {s0 s : SimS} {ex : List SEvent} {done done' : Nat → Prop} {fin : List TaskId}

theorem weak (h : StepI dt s0 ex done fin s) : WInv s := h.ap.weak

theorem mono (h : StepI dt s0 ex done fin s) (hd : ∀ m, done' m → done m) : StepI dt s0 ex done' fin s :=
  { h with stepped := fun m hm => h.stepped m (hd m hm) }

theorem enter (hdt : ¬ dt < 0) (h : AP RunOK [] s) (hd : DtOK s dt) : StepI dt s [] (Visited s [] [] []) [] s := by
  refine ⟨h.enterStep hd, rfl, by omega, rfl, ?_, ?_⟩
  · intro u hu; cases hu
  · rintro m (⟨_, h, _⟩ | ⟨_, h, _⟩ | h) <;> cases h

theorem setPool (h : StepI dt s0 ex done fin s) {pi : Nat} {pool : Pool} (hpool : s.pools[pi]? = some pool) :
    StepI dt s0 ex done fin { s with pools := s.pools.setIfInBounds pi (pool.stepProfiles dt) } := by
  obtain ⟨hv, hm⟩ := views_set_same s.pools pi pool (pool.stepProfiles dt) hpool (Pool.view_stepProfiles pool dt)
    (Pool.placed_stepProfiles pool dt)
  exact { h with
    ap := AP.frame (logMono_RunMid dt) s _ h.ap (fun _ he => he) hv hm rfl rfl rfl rfl rfl rfl rfl rfl rfl rfl
    pools := hv.trans h.pools }

theorem skip (h : StepI dt s0 ex done fin s) (m : Nat) (g : GraphS) (x : TaskS)
    (hg : s.graphs[(ungid m).g]? = some g) (hx : g.task? (ungid m).t = some x)
    (hnr : (x.state != .running) = true) (hd : ∀ k, done' k → done k ∨ k = m) : StepI dt s0 ex done' fin s := by
  refine { h with stepped := fun k hk => ?_ }
  rcases hd k hk with h1 | rfl
  · exact h.stepped k h1
  · intro y hy hs
    rw [taskAt_of _ _ g x hg hx] at hy
    cases hy
    simp [hs] at hnr

/-- The simulator looks the task up twice, to read its state (`g1`, `x1`) and to write it back
(`g2`, `x2`). -/
theorem step {fin' : List TaskId} (h : StepI dt s0 ex done fin s) (m : Nat) (g1 g2 : GraphS) (x1 x2 : TaskS)
    (hrun : ¬ (x1.state != .running) = true)
    (hx1 : g1.task? (ungid m).t = some x1) (hg1 : s.graphs[(ungid m).g]? = some g1)
    (hg2 : s.graphs[(ungid m).g]? = some g2) (hx2 : g2.task? (ungid m).t = some x2)
    (hd : ∀ k, done' k → done k ∨ k = m)
    (hfin' : fin' = fin ∨ (fin' = fin ++ [ungid m] ∧ (x1.doStep s0.now dt).2 = true)) (s' : SimS)
    (hs' : s' = { s with graphs :=
      s.graphs.setIfInBounds (ungid m).g (g2.setTask (ungid m).t (x2.call (.step s0.now dt)).1) }) :
    StepI dt s0 ex done' fin' s' := by
  cases hg1.symm.trans hg2
  cases hx1.symm.trans hx2
  have hrun' : x1.state = .running := by simpa using hrun
  obtain ⟨hap, hst, hpres, hfpres, hnew⟩ :=
    h.ap.stepTask h.dtnn (ungid m) g1 x1 hg1 hx1 hrun' s' (by rw [hs', h.now]; rfl)
  rw [h.now] at hst hpres hfpres hnew
  subst hs'
  refine ⟨hap, h.now, h.dtnn, h.pools, ?_, ?_⟩
  · intro u hu
    rcases hfin' with rfl | ⟨rfl, hd⟩
    · exact hfpres u (h.fin u hu)
    · rcases List.mem_append.mp hu with h1 | h1
      · exact hfpres u (h.fin u h1)
      · rw [List.mem_singleton.mp h1]; exact hnew hd
  · intro k hk
    rcases hd k hk with h1 | rfl
    · exact hpres _ (h.stepped k h1)
    · exact hst

theorem mkFin (h : StepI dt s0 ex done fin s) (t : TaskId) (ht : ∃ pref suff, fin = pref ++ t :: suff)
    (name : Option String) :
    StepI dt s0 (ex ++ [{ ev := ⟨s.nextEid, s0.now + dt, ET.taskFinished, name⟩, tid := some t }]) done fin
      { s with nextEid := s.nextEid + 1 } := by
  have ht : t ∈ fin := by obtain ⟨_, _, rfl⟩ := ht; simp
  exact { h with ap := h.ap.mkFin _ t _ (h.fin t ht) rfl rfl rfl }

/-- A RUNNING task is resident somewhere, so the stepping loops have visited it. -/
theorem allStepped (h : StepI dt s0 ex (Visited s0 (List.range s0.pools.size) [] []) fin s) (t : TaskId) :
    SteppedAt s (s0.now + dt) t := by
  intro x hx hs
  obtain ⟨pj, i, hat⟩ := h.ap.core.runRes t x hx hs
  rw [h.pools] at hat
  have hlt : pj < s0.pools.size := by
    obtain ⟨v, ks, hv, _, _⟩ := hat
    simpa [views] using (List.getElem?_eq_some_iff.mp hv).1
  have := h.stepped _ (Or.inl ⟨pj, List.mem_range.mpr hlt, i, hat⟩)
  rw [ungid_gid t (h.ap.core.small t x hx)] at this
  exact this x hx hs

theorem leave {n : Int} {evs : List SEvent} (h0 : s0.now = n)
    (h : StepI dt s0 evs (Visited s0 (List.range s0.pools.size) [] []) fin s) :
    AP RunOK evs { s with now := s.now + dt, log := s.log.push (.clock (s.now + dt)) } ∧ s.now + dt = n + dt :=
  ⟨h.ap.leaveStep h.dtnn (by rw [h.now]; exact h.allStepped), by rw [h.now, h0]⟩

end StepI

theorem AP.queued {rest : List SEvent} {s : SimS} {e : SEvent} (h : AP RunOK (e :: rest) s) :
    AP RunOK rest { s with queue := Heap.heappush SEvent.lt s.queue e } :=
  AP.frame logMono_RunOK s _ h (fun _ he' => (perm_add _ e [] rest).subset he') rfl rfl rfl rfl rfl rfl rfl rfl rfl rfl rfl rfl

open Std.Do
set_option mvcgen.warning false

theorem step_rspec (n dt : Int) :
    ⦃fun s => ⌜(AP RunOK [] s ∧ s.now = n) ∧ DtOK s dt⌝⦄ step dt
    ⦃post⟨fun _ s' => ⌜AP RunOK [] s' ∧ s'.now = n + dt⌝, fun _ s => ⌜WInv s⌝⟩⦄ := by
  mvcgen [step, getPool, setPool, getTask, getGraph, taskCall, setGraph, raiseTask, mkEvent, uniqueName, advanceClock,
    addEvent] invariants
  -- over the pools, the workers of a pool, the tasks placed on a worker (`s0`: the entry state)
  · by rename_i s0 _ _ _
       exact post⟨fun p s => ⌜StepI dt s0 [] (Visited s0 p.1.prefix [] []) p.2 s⌝, fun _ s => ⌜WInv s⌝⟩
  · by rename_i s0 _ _ _ pref _ _ _ _ _ _ _ _ _
       exact post⟨fun p s => ⌜StepI dt s0 [] (Visited s0 pref p.1.prefix []) p.2 s⌝, fun _ s => ⌜WInv s⌝⟩
  · by rename_i s0 _ _ _ pref _ _ _ _ _ _ _ _ _ wpref _ _ _ _ _ _
       exact post⟨fun p s => ⌜StepI dt s0 [] (Visited s0 pref wpref p.1.prefix) p.2 s⌝, fun _ s => ⌜WInv s⌝⟩
  -- the TASK_FINISHED events are created, the clock moves, the events are queued
  · by rename_i s0 _ _ _ fin _ _ _
       exact post⟨fun p s => ⌜StepI dt s0 p.2 (Visited s0 (List.range s0.pools.size) [] []) fin s⌝,
         fun _ s => ⌜WInv s⌝⟩
  · post⟨fun p s => ⌜AP RunOK p.1.suffix s ∧ s.now = n + dt⌝, fun _ s => ⌜WInv s⌝⟩
  -- the raise points inside the loops
  with try exact StepI.weak ‹_›
  · rename_i h; exact h.1.1.weak
  · exact StepI.skip ‹_› _ _ _ ‹_› ‹_› ‹_› fun _ => Visited.entry
  · exact StepI.step ‹_› _ _ _ _ _ ‹_› ‹_› ‹_› ‹_› ‹_› (fun _ => Visited.entry) (Or.inr ⟨rfl, ‹_›⟩) _ rfl
  · exact StepI.step ‹_› _ _ _ _ _ ‹_› ‹_› ‹_› ‹_› ‹_› (fun _ => Visited.entry) (Or.inl rfl) _ rfl
  · exact StepI.mono ‹_› fun _ => Visited.worker
  · exact StepI.setPool ‹_› ‹_›
  · rename_i h1 _ hp _ _ _ h
    exact h.mono fun _ => Visited.pool h1.pools hp
  · have h := ‹(AP RunOK [] _ ∧ _) ∧ _›
    exact StepI.enter ‹_› h.1.1 h.2
  · exact StepI.mkFin ‹_› _ ⟨_, _, ‹_›⟩ _
  · exact ⟨AP.queued ‹_ ∧ _›.1, ‹_ ∧ _›.2⟩
  · exact StepI.leave ‹(AP RunOK [] _ ∧ _) ∧ _›.1.2 ‹_›

end ErdosVerif.Model.Sim
