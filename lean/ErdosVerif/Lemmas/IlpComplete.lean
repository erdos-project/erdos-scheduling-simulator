/-
Completeness of the model w.r.t. its *as-coded* semantic reading: a full plan (a start for
every task with variables, placed or not, plus an optional (worker, strategy)) that satisfies
the start bounds, the deadline rows, the precedence rows, the all-parents rule and the
pairwise capacity rows extends to a feasible point of `gen inst` (all auxiliary variables —
all_parents_placed, starts_after / ends_before / Overlap, task and graph rewards — can be
chosen consistently); conversely every feasible point reads as such a plan (`validFull_of_sat`).
-/
import ErdosVerif.Props.C12_Ilp
namespace ErdosVerif.Ilp
open ErdosVerif.Mip

structure FullPlan where
  start : Nat → Int
  place : Nat → Option (Nat × Nat)

namespace FullPlan

def svalF (I : Inst) (fp : FullPlan) (t : Nat) : Int := if I.running t then I.now else fp.start t

def xF (I : Inst) (fp : FullPlan) (t w s : Nat) : Int :=
  if I.running t then (if w = (I.task t).prevW ∧ s = (I.task t).prevS then 1 else 0)
  else if fp.place t = some (w, s) then 1 else 0

def placedB (I : Inst) (fp : FullPlan) (t : Nat) : Bool := I.running t || (fp.place t).isSome
def placedI (I : Inst) (fp : FullPlan) (t : Nat) : Int := if placedB I fp t then 1 else 0

def durF (I : Inst) (fp : FullPlan) (t : Nat) : Int :=
  if I.running t then I.runtime t (I.task t).prevS
  else match fp.place t with
    | some ws => I.runtime t ws.2
    | none => 0

def afterF (I : Inst) (fp : FullPlan) (a b : Nat) : Prop := svalF I fp a - svalF I fp b - durF I fp b ≥ 1
def beforeF (I : Inst) (fp : FullPlan) (a b : Nat) : Prop := svalF I fp a + durF I fp a - svalF I fp b ≤ -1
instance (I : Inst) (fp : FullPlan) (a b : Nat) : Decidable (afterF I fp a b) := by unfold afterF; infer_instance
instance (I : Inst) (fp : FullPlan) (a b : Nat) : Decidable (beforeF I fp a b) := by unfold beforeF; infer_instance

/-- Closed intervals meet and the tasks are not ancestor/descendant. -/
def ovF (I : Inst) (fp : FullPlan) (a b : Nat) : Int :=
  if I.dependent a b then 0 else if afterF I fp a b ∨ beforeF I fp a b then 0 else 1

def allParentsF (I : Inst) (fp : FullPlan) (c : Nat) : Bool :=
  (I.parentVars c).all (placedB I fp) && decide ((I.parentVars c).length = I.nParents c)

def graphDone (I : Inst) (fp : FullPlan) (gi : Nat) : Bool :=
  (I.rewardTasks (I.graphs.getD gi "")).all (placedB I fp)

def sigmaOf (I : Inst) (fp : FullPlan) : Var → Int
  | .start t => fp.start t
  | .x t w s => if fp.place t = some (w, s) then 1 else 0
  | .allParents c => if allParentsF I fp c then 1 else 0
  | .after a b => if afterF I fp a b then 1 else 0
  | .before a b => if beforeF I fp a b then 1 else 0
  | .overlap a b => ovF I fp a b
  | .greward g => if graphDone I fp g then 1 else 0
  | .treward t => placedI I fp t

def dF (I : Inst) (fp : FullPlan) (t w : Nat) (r : String) : Int :=
  isum ((I.stratsNeeding t r).map (fun s => (qreq I t s r : Int) * xF I fp t w s))

/-- The as-coded semantic reading of `gen inst`. -/
structure ValidFull (I : Inst) (fp : FullPlan) : Prop where
  placeWf : ∀ t w s, t < I.nT → I.running t = false → fp.place t = some (w, s) →
    w < I.nW ∧ s < (I.task t).nS ∧ compatible (I.worker w) ((I.task t).strat s) = true
  startLb : ∀ t, t < I.nT → I.running t = false → I.startLb t ≤ fp.start t
  deadline : ∀ t, t < I.nT → I.running t = false → I.enforce t = true →
    fp.start t + durF I fp t ≤ (I.task t).deadline
  required : ∀ t, t < I.nT → I.running t = false → (I.task t).state = .scheduled → I.retract = false →
    (fp.place t).isSome = true
  prec : ∀ c p w s, c < I.nT → I.running c = false → p ∈ I.parentVars c → w < I.nW → s < (I.task p).nS →
    svalF I fp p + (I.runtime p s + 1) * xF I fp p w s ≤ fp.start c
  parents : ∀ c, c < I.nT → I.running c = false → (I.parentVars c).isEmpty = false →
    (fp.place c).isSome = true → allParentsF I fp c = true
  capacity : ∀ t1 w r, t1 < I.nT → w < I.nW → I.skipOn t1 w = false → r ∈ (I.worker w).types →
    dF I fp t1 w r + isum ((I.others t1 w).map (fun t2 => dF I fp t2 w r * ovF I fp t1 t2)) ≤
      (qty (I.worker w).res r : Nat)

def fpOf (I : Inst) (σ : Var → Int) : FullPlan := ⟨fun t => σ (.start t), fun t => I.chosen σ t⟩

theorem durF_nonneg (I : Inst) (fp : FullPlan) (t : Nat) : 0 ≤ durF I fp t := by
  unfold durF
  split
  · exact runtime_nonneg ..
  · split
    · exact runtime_nonneg ..
    · exact Int.le_refl 0

theorem placedI_01 (I : Inst) (fp : FullPlan) (t : Nat) : placedI I fp t = 0 ∨ placedI I fp t = 1 := by
  unfold placedI; split <;> simp

theorem ovF_01 (I : Inst) (fp : FullPlan) (a b : Nat) : ovF I fp a b = 0 ∨ ovF I fp a b = 1 := by
  unfold ovF; split
  · simp
  · split <;> simp

/-- `σ` gives the start and the placement expressions of task `t` the values of the plan. -/
structure Agrees (I : Inst) (σ : Var → Int) (fp : FullPlan) (t : Nat) : Prop where
  start : σ (.start t) = fp.start t
  inRange : I.running t = false → ∀ w s, fp.place t = some (w, s) → w < I.nW ∧ s < (I.task t).nS
  x : ∀ w s, w < I.nW → s < (I.task t).nS → xval I σ t w s = xF I fp t w s

section
variable {I : Inst} {σ : Var → Int} {fp : FullPlan} {t : Nat}

/-- Weighted sum of the placement values of a task: only the selected pair contributes. -/
theorem isum_keys_xF (hin : I.running t = false → ∀ w s, fp.place t = some (w, s) → w < I.nW ∧ s < (I.task t).nS)
    (hwr : I.wfRunning = true) (ht : t < I.nT) (g : Nat → Int) :
    isum ((I.keys t).map (fun k => g k.2 * xF I fp t k.1 k.2)) =
      if I.running t then g (I.task t).prevS
      else match fp.place t with
        | some ws => g ws.2
        | none => 0 := by
  have key : ∀ w0 s0, w0 < I.nW → s0 < (I.task t).nS →
      isum ((I.keys t).map fun k => g k.2 * (if k.1 = w0 ∧ k.2 = s0 then 1 else 0)) = g s0 := by
    intro w0 s0 hw hs
    rw [isum_map_eq (g := fun k => if k.1 = w0 ∧ k.2 = s0 then g s0 else 0) (fun k _ => by split <;> simp [*]),
      isum_keys_indicator, if_pos ⟨hw, hs⟩]
  unfold xF
  cases hr : I.running t with
  | true =>
    have hw := wfRunning_spec hwr ht hr
    simpa using key _ _ hw.1 hw.2
  | false =>
    cases hp : fp.place t with
    | none => exact isum_map_zero fun k _ => by simp
    | some ws =>
      have hw := hin hr ws.1 ws.2 hp
      simpa [Prod.ext_iff, eq_comm] using key _ _ hw.1 hw.2

theorem Agrees.sval (ha : Agrees I σ fp t) : sval I σ t = svalF I fp t := by
  unfold svalF
  cases hr : I.running t with
  | true => simpa using sval_running hr
  | false => simpa [ha.start] using sval_var (σ := σ) hr

theorem Agrees.weighted (ha : Agrees I σ fp t) (g : Nat → Int) :
    isum ((I.keys t).map fun k => g k.2 * xval I σ t k.1 k.2) =
      isum ((I.keys t).map fun k => g k.2 * xF I fp t k.1 k.2) :=
  isum_map_eq fun k hk => by
    have hk' := mem_keys.mp (by simpa using hk : (k.1, k.2) ∈ I.keys t)
    rw [ha.x k.1 k.2 hk'.1 hk'.2]

theorem Agrees.psum (ha : Agrees I σ fp t) (hwr : I.wfRunning = true) (ht : t < I.nT) :
    psum I σ t = placedI I fp t := by
  have := (ha.weighted fun _ => 1).trans (isum_keys_xF ha.inRange hwr ht fun _ => 1)
  simp only [Int.one_mul] at this
  unfold Ilp.psum placedI placedB
  rw [this]
  cases I.running t <;> cases fp.place t <;> rfl

theorem Agrees.dur (ha : Agrees I σ fp t) (hwr : I.wfRunning = true) (ht : t < I.nT) :
    dur I σ t = durF I fp t :=
  (ha.weighted (I.runtime t)).trans (isum_keys_xF ha.inRange hwr ht (I.runtime t))

theorem Agrees.dval (ha : Agrees I σ fp t) {w : Nat} (hw : w < I.nW) (r : String) :
    dval I σ t w r = dF I fp t w r :=
  isum_map_eq fun s hs => by rw [ha.x w s hw (mem_stratsNeeding.mp hs).1]

theorem agrees_sigmaOf (hv : ValidFull I fp) (ht : t < I.nT) : Agrees I (sigmaOf I fp) fp t where
  start := rfl
  inRange hr w s hp := ⟨(hv.placeWf t w s ht hr hp).1, (hv.placeWf t w s ht hr hp).2.1⟩
  x w s _ _ := by
    unfold xval xF Inst.xE
    cases hr : I.running t with
    | true => simp
    | false =>
      by_cases hc : compatible (I.worker w) ((I.task t).strat s) = true
      · simp [hc, sigmaOf]
      · have : fp.place t ≠ some (w, s) := fun hp => hc (hv.placeWf t w s ht hr hp).2.2
        simp [hc, this]

theorem agrees_fpOf (h : sat σ (gen I)) (ht : t < I.nT) : Agrees I σ (fpOf I σ) t where
  start := rfl
  inRange _ w s hp := ⟨(chosen_spec hp).1, (chosen_spec hp).2.1⟩
  x w s hw hs := by
    unfold xF
    cases hr : I.running t with
    | true => simp [xval_running hr]
    | false =>
      simp only [Bool.false_eq_true, if_false]
      by_cases hp : (fpOf I σ).place t = some (w, s)
      · rw [if_pos hp]; exact chosen_xval hp
      · rw [if_neg hp]
        refine (xval_binary h ht hw hs).resolve_right fun h1 => ?_
        -- at most one pair has value 1 (`Σ x ≤ 1`): it is the chosen one
        obtain ⟨ws, hc⟩ := Option.isSome_iff_exists.mp (chosen_isSome_of_xval hr hw hs h1)
        have hcs := chosen_spec (w := ws.1) (s := ws.2) hc
        have hps : isum ((I.keys t).map fun k => xval I σ t k.1 k.2) ≤ 1 := psum_le_one h ht hr
        have hx : 1 ≤ xval I σ t ws.1 ws.2 := Int.le_of_eq (chosen_xval hc).symm
        exact hp (hc.trans (congrArg some (eq_of_isum_le_one (xval_key_nonneg h ht) hps (a := ws) (b := (w, s))
          (mem_keys.mpr ⟨hcs.1, hcs.2.1⟩) (mem_keys.mpr ⟨hw, hs⟩) hx (Int.le_of_eq h1.symm))))

end

section
variable {I : Inst} {fp : FullPlan}

theorem vars_ok (hv : ValidFull I fp) : ∀ d ∈ I.vars, d.ok (sigmaOf I fp) := by
  have ite01 : ∀ (p : Prop) [Decidable p], (if p then (1 : Int) else 0) = 0 ∨ (if p then (1 : Int) else 0) = 1 :=
    fun p _ => by split <;> simp
  exact holds_vars_iff.mpr ⟨fun t ht => hv.startLb t (mem_nonRunning.mp ht).1 (mem_nonRunning.mp ht).2,
    fun _ _ _ _ _ => ite01 _, fun _ _ _ => ite01 _, fun p _ => ovF_01 I fp p.1 p.2,
    fun _ _ _ => ⟨ite01 _, ite01 _⟩, fun _ _ _ t _ => placedI_01 I fp t⟩

theorem constrs_hold (hv : ValidFull I fp) (hwr : I.wfRunning = true) (hwp : I.wfParents = true) :
    ∀ c ∈ I.constrs, c.holds (sigmaOf I fp) := by
  have ag := fun {t : Nat} (ht : t < I.nT) => agrees_sigmaOf hv ht
  have nr := fun {t : Nat} (ht : t ∈ I.nonRunning) => mem_nonRunning.mp ht
  have sv : ∀ {t}, I.running t = false → svalF I fp t = fp.start t := fun hr => by simp [svalF, hr]
  refine holds_constrs_iff.mpr ⟨fun t ht he => ?_, fun t ht => ?_, fun c hc hne => ⟨fun p hp w s hw hs => ?_, ?_⟩,
    fun p hp => ?_, fun t1 ht1 w hw hskip r hr => ?_, fun _ gi _ => ⟨fun t ht => ?_, ?_⟩⟩
  · rw [(ag (nr ht).1).sval, (ag (nr ht).1).dur hwr (nr ht).1, sv (nr ht).2]
    exact hv.deadline t (nr ht).1 (nr ht).2 he
  · rw [(ag (nr ht).1).psum hwr (nr ht).1]
    refine ⟨by have := placedI_01 I fp t; omega, fun hs hre => ?_⟩
    simp [placedI, placedB, hv.required t (nr ht).1 (nr ht).2 hs hre]
  · have hpt := (mem_parentVars.mp hp).1
    rw [(ag hpt).sval, (ag hpt).x w s hw hs, (ag (nr hc).1).sval, sv (nr hc).2]
    exact hv.prec c p w s (nr hc).1 (nr hc).2 hp hw hs
  · -- the all-parents indicator is 1 iff all parents with variables are placed and none is missing
    obtain ⟨hcn, hr⟩ := nr hc
    have hpe : isum ((I.parentVars c).map (psum I (sigmaOf I fp))) = ((I.parentVars c).filter (placedB I fp)).length := by
      rw [← isum_indicator_length]
      exact isum_map_eq fun p hp => (ag (mem_parentVars.mp hp).1).psum hwr (mem_parentVars.mp hp).1
    have hapf : (allParentsF I fp c = true → ((I.parentVars c).filter (placedB I fp)).length = I.nParents c) ∧
        (allParentsF I fp c = false → ((I.parentVars c).filter (placedB I fp)).length < I.nParents c) := by
      have hk := List.length_filter_le (placedB I fp) (I.parentVars c)
      have hall := List.length_filter_eq_length_iff (p := placedB I fp) (l := I.parentVars c)
      rw [← List.all_eq_true] at hall
      have hlen := wfParents_spec hwp hcn
      unfold allParentsF
      cases hap : (I.parentVars c).all (placedB I fp)
      · have := mt hall.mp (by simp [hap])
        simp; omega
      · have := hall.mpr hap
        simp; omega
    rw [hpe, (ag hcn).psum hwr hcn]
    refine ⟨fun h0 => ?_, fun h0 => ?_, fun h0 => ?_⟩ <;> simp [sigmaOf] at h0
    · have := hapf.2 h0; omega
    · have := hapf.1 h0; omega
    · -- an unplaced task: a placed one has all parents placed
      cases hp : (fp.place c).isSome with
      | false => simp [placedI, placedB, hr, hp]
      | true => rw [hv.parents c hcn hr (by simpa using hne) hp] at h0; cases h0
  · -- each row speaks of the values `if … then 1 else 0` of the three indicators: linear arithmetic
    have hp' := mem_pairs.mp (by simpa using hp : (p.1, p.2) ∈ I.pairs)
    rw [(ag hp'.1).sval, (ag hp'.2.1).sval, (ag hp'.1).dur hwr hp'.1, (ag hp'.2.1).dur hwr hp'.2.1]
    have d1 := durF_nonneg I fp p.1
    have d2 := durF_nonneg I fp p.2
    cases hd : I.dependent p.1 p.2 <;> simp only [sigmaOf, ovF, hd, afterF, beforeF, Bool.false_eq_true, if_false, if_true]
    refine ⟨?_, ?_, ?_, ?_, ?_⟩ <;> omega
  · have : isum ((I.others t1 w).map (fun t2 => dval I (sigmaOf I fp) t2 w r * sigmaOf I fp (.overlap t1 t2))) =
        isum ((I.others t1 w).map (fun t2 => dF I fp t2 w r * ovF I fp t1 t2)) :=
      isum_map_eq fun t2 ht2 => by
        rw [(ag (List.mem_range.mp (List.mem_filter.mp ht2).1)).dval hw]; rfl
    rw [(ag ht1).dval hw, this]
    exact hv.capacity t1 w r ht1 hw hskip hr
  · exact ((ag (mem_rewardTasks_lt ht)).psum hwr (mem_rewardTasks_lt ht)).symm
  · simp [sigmaOf, graphDone, placedI]

end

section
variable {I : Inst} {σ : Var → Int}

theorem overlap_eq_ovF (h : sat σ (gen I)) (hwr : I.wfRunning = true) {a b : Nat}
    (hp : (a, b) ∈ I.pairs) : σ (.overlap a b) = ovF I (fpOf I σ) a b := by
  have hp' := mem_pairs.mp hp
  unfold ovF afterF beforeF
  cases hd : I.dependent a b with
  | true => simpa [hd] using (rows h).overlap _ hp
  | false =>
    rw [overlap_value h hp hd, (agrees_fpOf h hp'.1).sval, (agrees_fpOf h hp'.2.1).sval,
      (agrees_fpOf h hp'.1).dur hwr hp'.1, (agrees_fpOf h hp'.2.1).dur hwr hp'.2.1]
    simp

/-- **The feasible set of `gen inst` is exactly the as-coded reading** (soundness half). -/
theorem validFull_of_sat (h : sat σ (gen I)) (hwr : I.wfRunning = true) (hwp : I.wfParents = true) :
    ValidFull I (fpOf I σ) := by
  have ag := fun {t : Nat} (ht : t < I.nT) => agrees_fpOf h ht
  refine ⟨fun t w s _ _ hp => ?_, fun t ht hr => start_lb h ht hr, fun t ht hr he => ?_,
    fun t ht hr hs hre => ?_, fun c p w s hc hr hp hw hs => ?_, fun c hc hr hne hpl => ?_,
    fun t1 w r ht1 hw hskip hr => ?_⟩
  · have := chosen_spec hp
    exact ⟨this.1, this.2.1, (hasVar_compatible this.2.2.1).2⟩
  · rw [← (ag ht).dur hwr ht]
    exact C12_Ilp.deadline_row h ht hr he
  · exact (chosen_isSome_iff h ht hr).mpr (Int.le_of_eq (psum_eq_one_of_scheduled h ht hr hs hre).symm)
  · have := start_after_row h hc hr hp hw hs
    rwa [(ag (mem_parentVars.mp hp).1).sval, (ag (mem_parentVars.mp hp).1).x w s hw hs] at this
  · -- the placed child has all parents with variables placed, and their number is that of ALL parents
    have h1 : psum I σ c ≠ 0 := by have := (chosen_isSome_iff h hc hr).mp hpl; omega
    have hcnt := placed_child_counts h hwr hc hr (by simpa using hne) h1
    have := wfParents_spec hwp hc
    simp only [allParentsF, Bool.and_eq_true, List.all_eq_true, decide_eq_true_eq]
    refine ⟨fun p hp => ?_, by omega⟩
    have := hcnt.2 this p hp
    rw [(ag (mem_parentVars.mp hp).1).psum hwr (mem_parentVars.mp hp).1] at this
    simpa [placedI] using this
  · have hrow := (rows h).resource t1 ht1 w hw hskip r hr
    rw [(ag ht1).dval hw] at hrow
    have : isum ((I.others t1 w).map (fun t2 => dval I σ t2 w r * σ (.overlap t1 t2))) =
        isum ((I.others t1 w).map (fun t2 => dF I (fpOf I σ) t2 w r * ovF I (fpOf I σ) t1 t2)) :=
      isum_map_eq fun t2 ht2 => by
        simp only [Inst.others, List.mem_filter, List.mem_range, Bool.and_eq_true, bne_iff_ne] at ht2
        rw [(ag ht2.1).dval hw, overlap_eq_ovF h hwr (mem_pairs.mpr ⟨ht1, ht2.1, ht2.2.1⟩)]
    rwa [this] at hrow

end

end FullPlan
end ErdosVerif.Ilp
