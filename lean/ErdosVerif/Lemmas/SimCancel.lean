import ErdosVerif.Lemmas.SimStatesRun
import ErdosVerif.Lemmas.SimAct
import ErdosVerif.Lemmas.SimEvents
/-!
The cancelled-task counter against the `.cancel` history entries: the invariant, and what each
kind of write of the simulator model does to it.

`CC.Inv ex s` (`ex` = events that exist but are not in the queue at the moment: the popped
event being handled, events collected in a local list before they are queued):

* number of `.cancel` entries of the history = `cancelledTasks` + number of TASK_CANCEL
  events in `queue ++ ex`: every `.cancel` entry has exactly one TASK_CANCEL event, which is
  pending or handled (and counted);
* the event ids cached in `_future_placement_events` are below the id counter, every pending
  TASK_CANCEL event has an id below the counter, and no cached id is the id of a pending
  TASK_CANCEL event — so `remove_event(cached id)` never removes a TASK_CANCEL event.

`CC.W s` (`cancelledTasks ≤ #.cancel`) is what also holds at the raise point of an aborted run.

The lemmas `Inv.*` have the state after the write as a free variable `s'`, with one equation for
each of the five fields the invariant reads (history, counter, queue, id counter, cached ids). The equations
have the default `rfl`, so a call names only what changed; `Inv.remove` takes all of them explicitly.
-/
namespace ErdosVerif.Model.Sim.CC
open Heap

def isTC (e : SEvent) : Bool := e.ev.etype == ET.taskCancel

abbrev tcN (l : List SEvent) : Nat := l.countP isTC

structure Inv (ex : List SEvent) (s : SimS) : Prop where
  acct : cancelLogN s = s.cancelledTasks + tcN (s.queue.toList ++ ex)
  futLt : ∀ p ∈ s.future, p.2 < s.nextEid
  tcLt : ∀ e ∈ s.queue.toList ++ ex, isTC e = true → e.ev.eid < s.nextEid
  tcNotFut : ∀ e ∈ s.queue.toList ++ ex, isTC e = true → ∀ p ∈ s.future, p.2 ≠ e.ev.eid

def W (s : SimS) : Prop := s.cancelledTasks ≤ cancelLogN s

theorem Inv.weak {ex : List SEvent} {s : SimS} (h : Inv ex s) : W s := by
  have := h.acct; unfold W; omega

theorem inv_initial (s0 : SimS) (hl : cancelLogN s0 = 0) (hc : s0.cancelledTasks = 0)
    (hq : ∀ e ∈ s0.queue.toList, isTC e = false) (hf : ∀ p ∈ s0.future, p.2 < s0.nextEid) : Inv [] s0 := by
  have hno : ∀ e ∈ s0.queue.toList ++ [], isTC e = true → False := by
    intro e he ht
    rw [List.append_nil] at he
    rw [hq e he] at ht; cases ht
  have hn : tcN (s0.queue.toList ++ []) = 0 := List.countP_eq_zero.2 fun e he ht => hno e he ht
  exact ⟨by rw [hl, hc, hn], hf, fun e he ht => (hno e he ht).elim, fun e he ht => (hno e he ht).elim⟩

theorem isTC_false {e : SEvent} (h : e.ev.etype ≠ ET.taskCancel) : isTC e = false := beq_false_of_ne h

theorem cancelLogN_pushes (s s' : SimS) (es : List LogE) (hl : s'.log = es.foldl Array.push s.log) :
    cancelLogN s' = cancelLogN s + es.countP isCancelLog := by
  unfold cancelLogN
  rw [hl]
  simp

theorem W.log {s s' : SimS} (h : W s) (es : List LogE) (hl : s'.log = es.foldl Array.push s.log := by rfl)
    (hc : s'.cancelledTasks = s.cancelledTasks := by rfl) : W s' := by
  have := cancelLogN_pushes s s' es hl
  unfold W at *
  omega

theorem Inv.events {ex ex' : List SEvent} {s s' : SimS} (h : Inv ex s)
    (hcnt : tcN (s'.queue.toList ++ ex') = tcN (s.queue.toList ++ ex))
    (hmem : ∀ e ∈ s'.queue.toList ++ ex', isTC e = true →
      ∃ e0 ∈ s.queue.toList ++ ex, isTC e0 = true ∧ e0.ev.eid = e.ev.eid)
    (hl : cancelLogN s' = cancelLogN s := by rfl) (hc : s'.cancelledTasks = s.cancelledTasks := by rfl)
    (hn : s'.nextEid = s.nextEid := by rfl) (hf : ∀ p ∈ s'.future, p ∈ s.future := by exact fun _ h => h) :
    Inv ex' s' := by
  obtain ⟨a, b, c, d⟩ := h
  refine ⟨by rw [hl, hc, hcnt, a], fun p hp => hn ▸ b p (hf p hp), ?_, ?_⟩
  · intro e he ht
    obtain ⟨e0, he0, h0, hid⟩ := hmem e he ht
    rw [hn, ← hid]; exact c e0 he0 h0
  · intro e he ht p hp
    obtain ⟨e0, he0, h0, hid⟩ := hmem e he ht
    rw [← hid]; exact d e0 he0 h0 p (hf p hp)

theorem Inv.perm {ex ex' : List SEvent} {s s' : SimS} (h : Inv ex s)
    (hp : (s'.queue.toList ++ ex').Perm (s.queue.toList ++ ex)) (hl : cancelLogN s' = cancelLogN s := by rfl)
    (hc : s'.cancelledTasks = s.cancelledTasks := by rfl) (hn : s'.nextEid = s.nextEid := by rfl)
    (hf : ∀ p ∈ s'.future, p ∈ s.future := by exact fun _ h => h) : Inv ex' s' :=
  h.events (hp.countP_eq _) (fun e he ht => ⟨e, hp.mem_iff.mp he, ht, rfl⟩) hl hc hn hf

theorem Inv.congr {ex : List SEvent} {s s' : SimS} (h : Inv ex s) (hq : s'.queue = s.queue := by rfl)
    (hl : cancelLogN s' = cancelLogN s := by rfl) (hc : s'.cancelledTasks = s.cancelledTasks := by rfl)
    (hn : s'.nextEid = s.nextEid := by rfl) (hf : s'.future = s.future := by rfl) : Inv ex s' :=
  h.perm (by rw [hq]) hl hc hn (by rw [hf]; exact fun _ h => h)

theorem Inv.log {ex : List SEvent} {s s' : SimS} (h : Inv ex s) (es : List LogE)
    (hes : es.countP isCancelLog = 0 := by rfl) (hl : s'.log = es.foldl Array.push s.log := by rfl)
    (hq : s'.queue = s.queue := by rfl) (hc : s'.cancelledTasks = s.cancelledTasks := by rfl)
    (hn : s'.nextEid = s.nextEid := by rfl) (hf : s'.future = s.future := by rfl) : Inv ex s' :=
  h.congr hq (by rw [cancelLogN_pushes s s' es hl, hes]; rfl) hc hn hf

theorem Inv.fresh {ex ex' : List SEvent} {s s' : SimS} {r : SEvent} (h : Inv ex s) (hr : isTC r = false)
    (hp : (s'.queue.toList ++ ex').Perm (r :: (s.queue.toList ++ ex)))
    (hf : ∀ p ∈ s'.future, p ∈ s.future ∨ p.2 = s.nextEid := by exact fun _ => .inl)
    (hl : cancelLogN s' = cancelLogN s := by rfl) (hc : s'.cancelledTasks = s.cancelledTasks := by rfl)
    (hn : s'.nextEid = s.nextEid + 1 := by rfl) : Inv ex' s' := by
  obtain ⟨a, b, c, d⟩ := h
  have hmem : ∀ e ∈ s'.queue.toList ++ ex', isTC e = true → e ∈ s.queue.toList ++ ex := by
    intro e he ht
    rcases List.mem_cons.mp (hp.mem_iff.mp he) with h1 | h1
    · subst h1; rw [hr] at ht; cases ht
    · exact h1
  refine ⟨?_, ?_, ?_, ?_⟩
  · rw [hl, hc, a]; unfold tcN; rw [hp.countP_eq, List.countP_cons, hr]; simp
  · intro p hp'; rw [hn]
    rcases hf p hp' with h1 | h1
    · have := b p h1; omega
    · omega
  · intro e he ht; rw [hn]; have := c e (hmem e he ht) ht; omega
  · intro e he ht p hp'
    rcases hf p hp' with h1 | h1
    · exact d e (hmem e he ht) ht p h1
    · have := c e (hmem e he ht) ht; omega

theorem Inv.freshTC {ex ex' : List SEvent} {s s' : SimS} {r : SEvent} {t : TaskId} {tm : Int} (h : Inv ex s)
    (hp : (s'.queue.toList ++ ex').Perm (r :: (s.queue.toList ++ ex)))
    (hr : isTC r = true := by rfl) (hid : r.ev.eid = s.nextEid := by rfl)
    (hl : s'.log = s.log.push (.cancel t tm) := by rfl) (hc : s'.cancelledTasks = s.cancelledTasks := by rfl)
    (hn : s'.nextEid = s.nextEid + 1 := by rfl) (hf : s'.future = s.future := by rfl) : Inv ex' s' := by
  have hcl : cancelLogN s' = cancelLogN s + 1 := cancelLogN_pushes s s' [.cancel t tm] hl
  obtain ⟨a, b, c, d⟩ := h
  have hmem : ∀ e ∈ s'.queue.toList ++ ex', e = r ∨ e ∈ s.queue.toList ++ ex := by
    intro e he
    exact List.mem_cons.mp (hp.mem_iff.mp he)
  refine ⟨?_, ?_, ?_, ?_⟩
  · rw [hcl, hc, a]; unfold tcN; rw [hp.countP_eq, List.countP_cons, hr]; simp; omega
  · intro p hp'; rw [hn]; rw [hf] at hp'; have := b p hp'; omega
  · intro e he ht; rw [hn]
    rcases hmem e he with h1 | h1
    · subst h1; omega
    · have := c e h1 ht; omega
  · intro e he ht p hp'
    rw [hf] at hp'
    rcases hmem e he with h1 | h1
    · subst h1; have := b p hp'; omega
    · exact d e h1 ht p hp'

theorem Inv.count {ex : List SEvent} {s s' : SimS} {ev : SEvent} (h : Inv (ev :: ex) s) (hev : isTC ev = true)
    (hq : s'.queue = s.queue := by rfl) (hl : s'.log = s.log := by rfl)
    (hc : s'.cancelledTasks = s.cancelledTasks + 1 := by rfl) (hn : s'.nextEid = s.nextEid := by rfl)
    (hf : s'.future = s.future := by rfl) : Inv ex s' := by
  obtain ⟨a, b, c, d⟩ := h
  have hsub : ∀ e ∈ s.queue.toList ++ ex, e ∈ s.queue.toList ++ ev :: ex := by grind
  refine ⟨?_, ?_, ?_, ?_⟩
  · unfold cancelLogN at *; rw [hl, hc, hq, a]; unfold tcN
    simp only [List.countP_append, List.countP_cons, hev]; simp; omega
  · rw [hn, hf]; exact b
  · rw [hn, hq]; exact fun e he ht => c e (hsub e he) ht
  · rw [hq, hf]; exact fun e he ht => d e (hsub e he) ht

/-- `remove_event(eid)` for a cached id: the removed event is not a TASK_CANCEL event. -/
theorem Inv.remove {ex : List SEvent} (s s' : SimS) (eid i : Nat) (t : TaskId) (h : Inv ex s)
    (hi : s.queue.findIdx? (fun e => e.ev.eid == eid) = some i) (hfut : s.future.get? t = some eid)
    (hq : s'.queue = heapify SEvent.lt (s.queue.eraseIdxIfInBounds i)) (hl : cancelLogN s' = cancelLogN s)
    (hc : s'.cancelledTasks = s.cancelledTasks) (hn : s'.nextEid = s.nextEid)
    (hf : ∀ p ∈ s'.future, p ∈ s.future) : Inv ex s' := by
  obtain ⟨hlt, hid, -⟩ := Array.findIdx?_eq_some_iff_getElem.mp hi
  have hp := perm_unqueue s.queue i hlt ex
  have hnot : isTC s.queue[i] = false := by
    cases hx : isTC s.queue[i] with
    | false => rfl
    | true =>
      exact absurd (eq_of_beq hid).symm
        (h.tcNotFut _ (hp.subset List.mem_cons_self) hx _ (AList.mem_of_get?_some _ _ _ hfut))
  refine h.events ?_ (fun e he ht => ⟨e, hp.subset (List.mem_cons_of_mem _ (hq ▸ he)), ht, rfl⟩) hl hc hn hf
  have := hp.countP_eq isTC
  rw [List.countP_cons, hnot] at this
  rw [hq]; exact this

theorem edit_ok (eid : Nat) (f : SEvent → SEvent) (hf : Retimes f) (e : SEvent) :
    isTC (editAt eid f e) = isTC e ∧ (editAt eid f e).ev.eid = e.ev.eid := by
  unfold editAt
  split
  · rw [hf e]; exact ⟨rfl, rfl⟩
  · exact ⟨rfl, rfl⟩

end ErdosVerif.Model.Sim.CC
