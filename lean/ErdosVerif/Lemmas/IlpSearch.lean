/-
The executable plan checker and the exhaustive search of `Model/IlpSpec.lean` against the
specification: `validPlanB` decides `ValidPlan` (capacity at every instant follows from
capacity at the start instants), and `optGoodput` is the maximum goodput over valid plans
when every deadline is enforced.
-/
import ErdosVerif.Lemmas.IlpCapacity
namespace ErdosVerif.IlpSpec
open ErdosVerif.Ilp

theorem nsum_map_le {α : Type} {l : List α} {f g : α → Nat} (h : ∀ a ∈ l, f a ≤ g a) :
    nsum (l.map f) ≤ nsum (l.map g) := by
  induction l with
  | nil => simp [nsum]
  | cons x xs ih =>
    have h1 := h x (by simp)
    have h2 := ih (fun a ha => h a (by simp [ha]))
    simp [nsum]; omega

theorem exists_max (l : List Int) (h : l ≠ []) : ∃ m ∈ l, ∀ a ∈ l, a ≤ m := by
  cases hm : l.max? with
  | none => exact absurd (List.max?_eq_none_iff.mp hm) h
  | some m => exact ⟨m, (List.max?_eq_some_iff.mp hm).1, (List.max?_eq_some_iff.mp hm).2⟩

theorem mem_placedStarts {I : Inst} {plan : Plan} {t : Nat} {pl : Place} (ht : t < I.nT)
    (h : plan.get t = some pl) : pl.start ∈ placedStarts I plan := by
  simp only [placedStarts, List.mem_filterMap, List.mem_range]
  exact ⟨t, ht, by simp [h]⟩

/-- The load at any instant is dominated by the load at the latest start that is not after it:
every task that occupies `τ` started by then, and still runs. -/
theorem load_le_at_start (I : Inst) (plan : Plan) (w : Nat) (r : String) (τ : Int)
    (hpos : load I plan w r τ ≠ 0) :
    ∃ τ' ∈ placedStarts I plan, load I plan w r τ ≤ load I plan w r τ' := by
  have hstart : ∀ {t pl}, t ∈ List.range I.nT → plan.get t = some pl → occupies I t pl τ →
      pl.start ∈ (placedStarts I plan).filter (· ≤ τ) := fun ht hg hocc =>
    List.mem_filter.mpr ⟨mem_placedStarts (List.mem_range.mp ht) hg, by simpa using hocc.1⟩
  have hne : (placedStarts I plan).filter (· ≤ τ) ≠ [] := by
    intro hL
    refine hpos (nsum_eq_zero fun a ha => ?_)
    obtain ⟨t, ht, rfl⟩ := List.mem_map.mp ha
    refine Classical.byContradiction fun hd => ?_
    obtain ⟨pl, hg, _, hocc, _⟩ := demandAt_pos hd
    have := hstart ht hg hocc
    rw [hL] at this; cases this
  obtain ⟨m, hm, hmax⟩ := exists_max _ hne
  obtain ⟨hm1, hm2⟩ := List.mem_filter.mp hm
  have hmτ : m ≤ τ := by simpa using hm2
  refine ⟨m, hm1, nsum_map_le fun t ht => ?_⟩
  by_cases hd : demandAt I plan w r τ t = 0
  · omega
  · obtain ⟨pl, hg, hw, hocc, he⟩ := demandAt_pos hd
    have : pl.w = w ∧ occupies I t pl m := ⟨hw, hmax _ (hstart ht hg hocc), Int.le_trans hmτ hocc.2⟩
    rw [he]; simp [demandAt, hg, this, qreq]

/-- `localB` at task `t` is the `running`, `wf`, `deadline` and `required` clauses of `ValidPlan` at `t`. -/
theorem localB_iff {I : Inst} {plan : Plan} {t : Nat} : localB I plan t = true ↔
    (I.running t = true → plan.get t = some (runningPlace I t)) ∧
    (∀ pl, I.running t = false → plan.get t = some pl →
      (pl.w < I.nW ∧ pl.s < (I.task t).nS ∧ compatible (I.worker pl.w) ((I.task t).strat pl.s) = true ∧
        I.startLb t ≤ pl.start) ∧ (I.enforce t = true → finish I t pl ≤ (I.task t).deadline)) ∧
    (I.running t = false → (I.task t).state = .scheduled → I.retract = false → (plan.get t).isSome = true) := by
  unfold localB
  cases hr : I.running t
  · cases plan.get t with
    | none => simp [Decidable.imp_iff_not_or]
    | some pl => cases I.enforce t <;> simp [and_assoc]
  · simp

/-- `precB` at task `c` is the `prec` clause of `ValidPlan` at `c`. -/
theorem precB_iff {I : Inst} {plan : Plan} {c : Nat} : precB I plan c = true ↔
    ∀ plc, I.running c = false → plan.get c = some plc → ∀ p ∈ I.parentVars c,
      ∃ plp, plan.get p = some plp ∧ finish I p plp + 1 ≤ plc.start := by
  unfold precB
  cases hr : I.running c
  · cases plan.get c with
    | none => simp
    | some plc =>
      simp only [Bool.false_eq_true, if_false, List.all_eq_true, Option.some.injEq, forall_eq', true_implies]
      refine forall₂_congr fun p _ => ?_
      cases plan.get p <;> simp
  · simp

theorem placed_compatible {I : Inst} {plan : Plan} (hwr : I.wfRunning = true)
    (hloc : ∀ t, t < I.nT → localB I plan t = true) {t : Nat} (ht : t < I.nT) {pl : Place}
    (hg : plan.get t = some pl) : compatible (I.worker pl.w) ((I.task t).strat pl.s) = true := by
  have hl := localB_iff.mp (hloc t ht)
  cases hr : I.running t with
  | true =>
    have := hl.1 hr
    rw [hg] at this; cases this
    exact (wfRunning_compat hwr ht hr).1
  | false => exact (hl.2.1 pl hr hg).1.2.2.1

theorem load_zero_of_absent {I : Inst} {plan : Plan} (hwr : I.wfRunning = true)
    (hloc : ∀ t, t < I.nT → localB I plan t = true) (w : Nat) {r : String}
    (h0 : qty (I.worker w).res r = 0) (τ : Int) : load I plan w r τ = 0 :=
  nsum_eq_zero fun a ha => by
    obtain ⟨t, ht, rfl⟩ := List.mem_map.mp ha
    refine Classical.byContradiction fun hd => ?_
    obtain ⟨pl, hg, rfl, _, he⟩ := demandAt_pos hd
    exact hd (he.trans (compat_qty_zero (placed_compatible hwr hloc (List.mem_range.mp ht) hg) h0))

theorem validPlanB_sound {I : Inst} {plan : Plan} (hwr : I.wfRunning = true)
    (h : validPlanB I plan = true) : ValidPlan I plan := by
  simp only [validPlanB, Bool.and_eq_true, beq_iff_eq, List.all_eq_true, List.mem_range] at h
  obtain ⟨⟨hlen, hall⟩, hcap⟩ := h
  have hl := fun t ht => localB_iff.mp (hall t ht).1
  refine ⟨hlen, fun t ht => (hl t ht).1, fun t pl ht hr hg => ((hl t ht).2.1 pl hr hg).1,
    fun t pl ht hr he hg => ((hl t ht).2.1 pl hr hg).2 he,
    fun t ht hs hre => (hl t ht).2.2 (running_eq_false_of_scheduled hs) hs hre,
    fun c plc hc hr hg => precB_iff.mp (hall c hc).2 plc hr hg, fun w hw r τ => ?_⟩
  by_cases hz : load I plan w r τ = 0
  · omega
  · by_cases hr : r ∈ (I.worker w).types
    · obtain ⟨τ', hτ', hle⟩ := load_le_at_start I plan w r τ hz
      simp only [capacityB, List.all_eq_true, List.mem_range, decide_eq_true_eq] at hcap
      have := hcap w hw r hr τ' hτ'
      omega
    · exact absurd (load_zero_of_absent hwr (fun t ht => (hall t ht).1) w
        (qty_eq_zero_of_not_mem (by simpa [WorkerI.types, List.mem_eraseDups] using hr)) τ) hz

theorem validPlanB_complete {I : Inst} {plan : Plan} (h : ValidPlan I plan) :
    validPlanB I plan = true := by
  simp only [validPlanB, Bool.and_eq_true, beq_iff_eq, List.all_eq_true, List.mem_range]
  refine ⟨⟨h.len, fun t ht => ⟨localB_iff.mpr ⟨h.running t ht,
    fun pl hr hg => ⟨h.wf t pl ht hr hg, fun he => h.deadline t pl ht hr he hg⟩, fun _ => h.required t ht⟩,
    precB_iff.mpr fun plc => h.prec t plc ht⟩⟩, ?_⟩
  simp only [capacityB, List.all_eq_true, List.mem_range, decide_eq_true_eq]
  exact fun w hw r _ τ _ => h.capacity w hw r τ

theorem validPlanB_iff {I : Inst} {plan : Plan} (hwr : I.wfRunning = true) :
    validPlanB I plan = true ↔ ValidPlan I plan :=
  ⟨validPlanB_sound hwr, validPlanB_complete⟩

theorem omax_ge_right {a b : Option Nat} {v : Nat} (h : b = some v) : ∃ m, omax a b = some m ∧ v ≤ m := by
  subst h
  cases a with
  | none => exact ⟨v, rfl, Nat.le_refl _⟩
  | some x => exact ⟨max x v, rfl, Nat.le_max_right _ _⟩

theorem omax_ge_left {a b : Option Nat} {v : Nat} (h : a = some v) : ∃ m, omax a b = some m ∧ v ≤ m := by
  subst h
  cases b with
  | none => exact ⟨v, rfl, Nat.le_refl _⟩
  | some x => exact ⟨max v x, rfl, Nat.le_max_left _ _⟩

theorem omax_eq_some {a b : Option Nat} {m : Nat} (h : omax a b = some m) : a = some m ∨ b = some m := by
  cases a with
  | none => right; simpa [omax] using h
  | some x =>
    cases b with
    | none => left; simpa [omax] using h
    | some y =>
      simp only [omax, Option.some.injEq] at h
      by_cases hxy : x ≤ y
      · right; rw [← h, Nat.max_eq_right hxy]
      · left; rw [← h, Nat.max_eq_left (by omega)]

/-- The fold of one search level, abstractly. -/
def level {α : Type} (skip : α → Bool) (f : α → Option Nat) (l : List α) (init : Option Nat) : Option Nat :=
  l.foldl (fun best c => if skip c then best else omax best (f c)) init

theorem level_some {α : Type} (skip : α → Bool) (f : α → Option Nat) :
    ∀ (l : List α) (init : Option Nat) (m : Nat), level skip f l init = some m →
      init = some m ∨ ∃ c ∈ l, skip c = false ∧ f c = some m := by
  intro l
  induction l with
  | nil => intro init m h; left; simpa [level] using h
  | cons x xs ih =>
    intro init m h
    simp only [level, List.foldl_cons] at h
    rcases ih _ m h with h1 | ⟨c, hc, hs, hf⟩
    · by_cases hx : skip x = true
      · simp only [hx, ↓reduceIte] at h1; left; exact h1
      · simp only [hx, Bool.false_eq_true, ↓reduceIte] at h1
        rcases omax_eq_some h1 with h2 | h2
        · left; exact h2
        · right; exact ⟨x, by simp, by simpa using hx, h2⟩
    · right; exact ⟨c, by simp [hc], hs, hf⟩

theorem level_ge_init {α : Type} (skip : α → Bool) (f : α → Option Nat) :
    ∀ (l : List α) (init : Option Nat) (v : Nat), init = some v →
      ∃ m, level skip f l init = some m ∧ v ≤ m := by
  intro l
  induction l with
  | nil => intro init v h; exact ⟨v, by simpa [level] using h, Nat.le_refl _⟩
  | cons x xs ih =>
    intro init v h
    simp only [level, List.foldl_cons]
    by_cases hx : skip x = true
    · simp only [hx, ↓reduceIte]; exact ih init v h
    · simp only [hx, Bool.false_eq_true, ↓reduceIte]
      obtain ⟨m1, hm1, hle1⟩ := omax_ge_left (b := f x) h
      obtain ⟨m, hm, hle⟩ := ih _ m1 hm1
      exact ⟨m, hm, by omega⟩

theorem level_ge {α : Type} (skip : α → Bool) (f : α → Option Nat) :
    ∀ (l : List α) (init : Option Nat) (c : α) (v : Nat), c ∈ l → skip c = false → f c = some v →
      ∃ m, level skip f l init = some m ∧ v ≤ m := by
  intro l
  induction l with
  | nil => intro init c v hc; simp at hc
  | cons x xs ih =>
    intro init c v hc hs hf
    simp only [List.mem_cons] at hc
    rcases hc with rfl | hc
    · simp only [level, List.foldl_cons, hs, Bool.false_eq_true, ↓reduceIte]
      obtain ⟨m1, hm1, hle1⟩ := omax_ge_right (a := init) hf
      obtain ⟨m, hm, hle⟩ := level_ge_init skip f xs _ m1 hm1
      exact ⟨m, hm, by omega⟩
    · simp only [level, List.foldl_cons]
      exact ih _ c v hc hs hf

theorem search_succ (I : Inst) (cap ok : Plan → Bool) (k : Nat) (acc : Plan) :
    search I cap ok (k + 1) acc =
      level (fun c => c.isSome && !cap ((c :: acc).reverse ++ List.replicate k none))
        (fun c => search I cap ok k (c :: acc)) (candidates I (I.nT - (k + 1))) none := rfl

theorem search_sound (I : Inst) (cap ok : Plan → Bool) :
    ∀ (k : Nat) (acc : Plan) (m : Nat), search I cap ok k acc = some m →
      ∃ ext : Plan, ext.length = k ∧ ok (acc.reverse ++ ext) = true ∧ goodput I (acc.reverse ++ ext) = m := by
  intro k
  induction k with
  | zero =>
    intro acc m h
    simp only [search] at h
    split at h
    · rename_i hok
      cases h
      exact ⟨[], rfl, by simpa using hok, by simp⟩
    · cases h
  | succ k ih =>
    intro acc m h
    rw [search_succ] at h
    rcases level_some _ _ _ _ _ h with h0 | ⟨c, _, _, hf⟩
    · cases h0
    · obtain ⟨ext, hlen, hok, hg⟩ := ih (c :: acc) m hf
      refine ⟨c :: ext, by simp [hlen], ?_, ?_⟩
      · simpa [List.reverse_cons, List.append_assoc] using hok
      · simpa [List.reverse_cons, List.append_assoc] using hg

/-- Every accepted completion whose entries are candidates, and which the pruning test never
rejects, is dominated by the value returned. -/
theorem search_complete (I : Inst) (cap ok : Plan → Bool)
    (hcap : ∀ pre suf : Plan, ok (pre ++ suf) = true → cap (pre ++ List.replicate suf.length none) = true) :
    ∀ (k : Nat) (acc ext : Plan), ext.length = k → acc.length + k = I.nT →
      (∀ i, i < k → ext.getD i none ∈ candidates I (acc.length + i)) →
      ok (acc.reverse ++ ext) = true →
      ∃ m, search I cap ok k acc = some m ∧ goodput I (acc.reverse ++ ext) ≤ m := by
  intro k
  induction k with
  | zero =>
    intro acc ext hlen _ _ hok
    have : ext = [] := List.length_eq_zero_iff.mp hlen
    subst this
    simp only [List.append_nil] at hok ⊢
    exact ⟨goodput I acc.reverse, by simp [search, hok], Nat.le_refl _⟩
  | succ k ih =>
    intro acc ext hlen hsum hcand hok
    cases ext with
    | nil => simp at hlen
    | cons c ext' =>
      simp only [List.length_cons, Nat.add_right_cancel_iff] at hlen
      have hidx : I.nT - (k + 1) = acc.length := by omega
      have hc : c ∈ candidates I (I.nT - (k + 1)) := by
        rw [hidx]; simpa using hcand 0 (by omega)
      have hok' : ok ((c :: acc).reverse ++ ext') = true := by
        simpa [List.reverse_cons, List.append_assoc] using hok
      obtain ⟨m', hm', hle'⟩ := ih (c :: acc) ext' hlen (by simp; omega)
        (by
          intro i hi
          have := hcand (i + 1) (by omega)
          simpa [Nat.add_assoc, Nat.add_comm 1 i] using this)
        hok'
      have hskip : (c.isSome && !cap ((c :: acc).reverse ++ List.replicate k none)) = false := by
        have := hcap ((c :: acc).reverse) ext' hok'
        rw [hlen] at this
        rw [this]; simp
      rw [search_succ]
      obtain ⟨m, hm, hle⟩ := level_ge
        (fun c => c.isSome && !cap ((c :: acc).reverse ++ List.replicate k none))
        (fun c => search I cap ok k (c :: acc)) _ none c m' hc hskip hm'
      refine ⟨m, hm, ?_⟩
      have e : acc.reverse ++ c :: ext' = (c :: acc).reverse ++ ext' := by
        simp [List.reverse_cons, List.append_assoc]
      rw [e]; omega

theorem capacityB_mono {I : Inst} {plan plan' : Plan}
    (h : ∀ t, plan'.get t = none ∨ plan'.get t = plan.get t) (hc : capacityB I plan = true) :
    capacityB I plan' = true := by
  simp only [capacityB, List.all_eq_true, List.mem_range, decide_eq_true_eq] at hc ⊢
  intro w hw r hr τ hτ
  have hτ' : τ ∈ placedStarts I plan := by
    simp only [placedStarts, List.mem_filterMap, List.mem_range] at hτ ⊢
    obtain ⟨t, ht, hs⟩ := hτ
    refine ⟨t, ht, ?_⟩
    rcases h t with h0 | h1
    · simp [h0] at hs
    · rw [← h1]; exact hs
  have hle : load I plan' w r τ ≤ load I plan w r τ := by
    unfold load
    refine nsum_map_le fun t _ => ?_
    unfold demandAt
    rcases h t with h0 | h1
    · simp [h0]
    · rw [h1]; exact Nat.le_refl _
  have := hc w hw r hr τ hτ'
  omega

theorem get_append_left (pre suf : Plan) {t : Nat} (ht : t < pre.length) :
    Plan.get (pre ++ suf) t = Plan.get pre t := by
  simp [Plan.get, List.getD_eq_getElem?_getD, List.getElem?_append_left ht]

theorem get_append_nones (pre : Plan) (n t : Nat) :
    Plan.get (pre ++ List.replicate n none) t = none ∨
    (t < pre.length ∧ Plan.get (pre ++ List.replicate n none) t = Plan.get pre t) := by
  by_cases ht : t < pre.length
  · right; exact ⟨ht, get_append_left pre _ ht⟩
  · left
    simp only [Plan.get, List.getD_eq_getElem?_getD]
    rw [List.getElem?_append_right (by omega)]
    cases h : (List.replicate n (none : Option Place))[t - pre.length]? with
    | none => rfl
    | some v =>
      have := List.mem_of_getElem? h
      simp only [List.mem_replicate] at this
      simp [this.2]

theorem prune_ok (I : Inst) (pre suf : Plan) (h : validPlanB I (pre ++ suf) = true) :
    capacityB I (pre ++ List.replicate suf.length none) = true := by
  have hc : capacityB I (pre ++ suf) = true := by
    simp only [validPlanB, Bool.and_eq_true] at h; exact h.2
  apply capacityB_mono _ hc
  intro t
  rcases get_append_nones pre suf.length t with h0 | ⟨ht, h1⟩
  · left; exact h0
  · right; rw [h1, get_append_left pre suf ht]

theorem mem_candidates {I : Inst} {plan : Plan} (hv : ValidPlan I plan)
    (henf : ∀ t, t < I.nT → I.running t = false → I.enforce t = true) {t : Nat} (ht : t < I.nT) :
    plan.get t ∈ candidates I t := by
  unfold candidates
  cases hr : I.running t with
  | true => simp [hv.running t ht hr]
  | false =>
    simp only [Bool.false_eq_true, ↓reduceIte]
    cases hg : plan.get t with
    | none => simp
    | some pl =>
      have hw := hv.wf t pl ht hr hg
      have hd := hv.deadline t pl ht hr (henf t ht hr) hg
      simp only [List.mem_cons, reduceCtorEq, List.mem_flatMap, List.mem_range, false_or]
      refine ⟨pl.w, hw.1, pl.s, hw.2.1, ?_⟩
      simp only [hw.2.2.1, ↓reduceIte, henf t ht hr, List.mem_map, List.mem_range, Option.some.injEq]
      unfold finish at hd
      refine ⟨(pl.start - I.startLb t).toNat, ?_, ?_⟩
      · have := hw.2.2.2
        omega
      · have := hw.2.2.2
        have e : ((pl.start - I.startLb t).toNat : Int) = pl.start - I.startLb t :=
          Int.toNat_of_nonneg (by omega)
        cases pl
        simp only [Place.mk.injEq, true_and] at *
        omega

theorem optGoodput_attained {I : Inst} (hwr : I.wfRunning = true) {m : Nat}
    (h : optGoodput I = some m) : ∃ plan, ValidPlan I plan ∧ goodput I plan = m := by
  obtain ⟨ext, _, hok, hg⟩ := search_sound I (capacityB I) (validPlanB I) I.nT [] m h
  exact ⟨[] ++ ext, validPlanB_sound hwr (by simpa using hok), by simpa using hg⟩

theorem optGoodput_dominates {I : Inst} {plan : Plan} (hv : ValidPlan I plan)
    (henf : ∀ t, t < I.nT → I.running t = false → I.enforce t = true) :
    ∃ m, optGoodput I = some m ∧ goodput I plan ≤ m := by
  have := search_complete I (capacityB I) (validPlanB I) (prune_ok I) I.nT [] plan hv.len (by simp)
    (by
      intro i hi
      have := mem_candidates hv henf hi
      simpa [Plan.get] using this)
    (by simpa using validPlanB_complete hv)
  simpa [optGoodput] using this

/-- With every deadline enforced (the `max_goodput` setting without graphs allowed to miss
deadlines), the executable search returns exactly the maximum goodput over the valid plans of the
independent specification, and `none` iff there is none. -/
theorem optGoodput_spec {I : Inst} (hwr : I.wfRunning = true)
    (henf : ∀ t, t < I.nT → I.running t = false → I.enforce t = true) (m : Nat) :
    optGoodput I = some m ↔
      (∃ plan, ValidPlan I plan ∧ goodput I plan = m) ∧ ∀ plan, ValidPlan I plan → goodput I plan ≤ m := by
  constructor
  · intro h
    refine ⟨optGoodput_attained hwr h, fun plan hv => ?_⟩
    obtain ⟨m', hm', hle⟩ := optGoodput_dominates hv henf
    rw [h] at hm'; cases hm'; exact hle
  · rintro ⟨⟨plan, hv, hg⟩, hmax⟩
    obtain ⟨m', hm', hle⟩ := optGoodput_dominates hv henf
    obtain ⟨plan', hv', hg'⟩ := optGoodput_attained hwr hm'
    have := hmax plan' hv'
    have : m' = m := by omega
    rw [hm', this]

theorem optGoodput_none {I : Inst}
    (henf : ∀ t, t < I.nT → I.running t = false → I.enforce t = true)
    (h : optGoodput I = none) : ∀ plan, ¬ ValidPlan I plan := by
  intro plan hv
  obtain ⟨m, hm, _⟩ := optGoodput_dominates hv henf
  rw [h] at hm; cases hm

end ErdosVerif.IlpSpec
