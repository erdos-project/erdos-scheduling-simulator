import ErdosVerif.Lemmas.SimResidentStep
import ErdosVerif.Lemmas.SimWalk
import ErdosVerif.Lemmas.SimEvents
/-!
The residency / exact-runtime invariant over whole runs.

`RI γ s`: the invariant where a handler is. The events the handler holds (the popped
event, the events created and not yet queued) are the events outside the queue of `AP`, and the popped event
is due now. `RI.closed`: it is kept by every step of the handlers (`Act`): the steps that create no event and write
neither the pools nor the task graphs by `RI.move` (what they do to the events: `Act.moves` of `Lemmas/SimEvents.lean`),
the others each by the state-level lemma for that block of writes; the weak invariant `WInv` holds wherever a handler
can raise. `__handle_event`
and the constructor are then instances of the walk (`Lemmas/SimWalk.lean`).

The iteration is `iter_triple` of `Lemmas/SimLoop.lean` at `step_rspec`: `__step(dt)` needs that `dt` does not
overshoot a RUNNING task (`DtOK`, from what `iter` knows of `dt`: `dtOK_of`), and `__handle_event` that the popped
event is due now. Then the whole run.

`wf0`: a decidable well-formedness predicate of initial states (what the driver and the loaders build); it implies the
invariant (`ap_initial`).
-/
section
open Std.Do
set_option mvcgen.warning false

namespace ErdosVerif.Model.Sim

theorem PoolOp.same {p p' : Pool} (op : PoolOp p p') : p'.view = p.view ∧ p'.placed = p.placed := by
  cases op with
  | load prof st w => exact Pool.loadProfile_view p prof st w
  | evict prof w => exact Pool.evictProfile_view p prof w
  | read wi n => exact Pool.onWorker'_view p wi n
  | profiles dt => exact ⟨Pool.view_stepProfiles p dt, Pool.placed_stepProfiles p dt⟩
  | noPlace k strats st w h => exact ((Pool.placeTask_view p k strats st w).resolve_left fun h' => h h'.1).2
  | noRemove k h => exact ((Pool.removeTask_view p k).resolve_left fun h' => h h'.1).2

theorem TaskCall.routine_isQuiet {c : TaskCall} (h : c.routine = true) : c.isQuiet = true := by
  cases c <;> first | rfl | cases h

theorem Kept.ef {s : SimS} {eid : Nat} (h : Kept s eid) : EF s.future s.nextSched eid :=
  h.imp (fun ⟨t, ht⟩ => ⟨t, AList.mem_of_get?_some _ _ _ ht⟩) id

/-- `due`: `Task.start` stamps the task with the time of the popped event. -/
structure RI (γ : Ghost) (s : SimS) : Prop where
  ap : AP RunOK (γ.cur.toList ++ γ.ex) s
  due : ∀ e, γ.cur = some e → e.ev.time = s.now

theorem IdsOld.ef {s s' : SimS} (h : IdsOld s s') {a b : Nat} :
    ∀ x, EF s'.future s'.nextSched x → EF s.future s.nextSched x ∨ (a ≤ x ∧ x < b) :=
  fun x hx => .inl (hx.imp (fun ⟨t, ht⟩ => ⟨t, h.fut _ ht⟩) (h.ns x))

theorem EInv.notKept {q : List SEvent} {s : SimS} (h : EInv q s.future s.nextSched s.nextEid) :
    ∀ e ∈ q, e.ev.etype = ET.taskFinished → ¬ Kept s e.ev.eid :=
  fun e he hf hk => h.finNotEF e he hf hk.ef

theorem RI.move {γ γ' : Ghost} {s s' : SimS} (h : RI γ s) (mv : EvMove γ s γ' s')
    (hcur : ∀ e, γ'.cur = some e → γ.cur = some e)
    (hl : ∃ es, s'.log.toList = s.log.toList ++ es ∧ ∀ e ∈ es, ∀ t τ, e ≠ LogE.finish t τ := by exact log_same_ext _)
    (hid : s'.nextEid = s.nextEid := by rfl) (hg : s'.graphs = s.graphs := by rfl)
    (hlr : s'.loaderReleased = s.loaderReleased := by rfl) (hm : s'.metas = s.metas := by rfl)
    (hp : s'.pools = s.pools := by rfl) (hn : s'.now = s.now := by rfl)
    (ha : s'.allGraphs = s.allGraphs := by rfl) (hj : s'.jobs = s.jobs := by rfl) : RI γ' s' :=
  ⟨AP.step h.ap (by rw [hlr, hg, hm]; exact h.ap.loader) (hg ▸ TRel.refl _) hl (mv.sub h.ap.eids.notKept) mv.ids.ef
    (Nat.le_of_eq hid.symm) hp hn ha hj, fun e he => hn ▸ h.due e (hcur e he)⟩

theorem RI.closed : Closed RI WInv where
  weak h := h.ap.weak
  abort a h := by
    cases a with
    | cancelGraph gi k time gr e herr hg => exact AP.weak (AP.cancelGraph h.ap hg k time)
    | cancelPlaced t time gr e herr hg => exact AP.weak (AP.cancelGraph h.ap hg _ _ (hef := EF_erase _ _ _))
    | notifyGraph t time gr e herr hg =>
      exact AP.weak (AP.setGraphR h.ap hg (GraphS.rframe_notifyCompletion _ _ _ _ (h.ap.allPre _ _ hg)))
    | payCancel => exact AP.weak (AP.step h.ap h.ap.loader (hl := log_push_ext _ _ rfl))
    | countCancel => exact AP.weak (AP.step h.ap h.ap.loader)
    | placedNoStrategy t time pid pool gr x st w hP | placedNoDraw t time tape pid pool gr x st w hP =>
      exact WInv.placedReady h.ap hP.hg hP.hx hP.hready hP.hp hP.hplace
    | placedNoStart t time fuzzed tape pid pool gr x st w e hP =>
      exact WInv.placedReady h.ap hP.hg hP.hx hP.hready hP.hp hP.hplace (hoth := (taskAt_setTask _ t gr _ _ hP.hg hP.hx).2)
    | placedStarted t time fuzzed tape pid pool gr x st w hP hstart ev hcur htime =>
      exact AP.weak (AP.placeStart (htime.trans (h.due ev hcur)) h.ap hP.hg hP.hx hP.hp hP.hplace hstart)
    -- `Task.finish` cannot refuse: the task the pool removed is RUNNING
    | removedNoFinish e0 t time pid pool gr x e hcur hty htid hfin hx hg hpid hrem hp =>
      exact nomatch (doFinish_running x (running_of_removed h.ap hg hx hp hrem)).1.symm.trans hfin
  act a h := by
    have mv := a.moves
    have hcs := a.cur_sub
    cases a with
    -- no event is created, the pools and the task graphs are as they were
    | row | draw | followUp | schedDone | done | countCancel | add | perm | edit | repend | unqueue | uncache | schedStart
    | schedRun | simEnd => exact h.move (mv rfl) hcs
    | pop => exact h.move (mv rfl) hcs (log_push_ext _ _ rfl)
    | log e he => exact h.move (mv rfl) hcs (log_push_ext _ e (isFinishLog_of_routine he))
    | call t c gr x hg hx hc => exact ⟨AP.quietCall h.ap hg hx c (TaskCall.routine_isQuiet hc), h.due⟩
    -- an event that is no TASK_FINISHED event is created; its id may be kept at once
    | mk ty time name tid pl gr hfin =>
      exact ⟨AP.step h.ap h.ap.loader (hq := made_sub (perm_snoc ..) hfin) (hid := Nat.le_succ _), h.due⟩
    | mkCached =>
      exact ⟨AP.step h.ap h.ap.loader (hq := made_sub (perm_snoc ..) (Nat.ne_of_beq_eq_false rfl)) (hef := ef_fresh (EF_set _ _ _ _))
        (hid := Nat.le_succ _), h.due⟩
    | mkSched ty time hty =>
      subst hty
      exact ⟨AP.step h.ap h.ap.loader (hq := made_sub (perm_snoc ..) (Nat.ne_of_beq_eq_false rfl)) (hef := ef_fresh (EF_some _ _ _))
        (hid := Nat.le_succ _), h.due⟩
    | retry =>
      exact ⟨AP.step h.ap h.ap.loader (hq := made_sub (perm_heappush ..) (Nat.ne_of_beq_eq_false rfl))
        (hef := ef_fresh (EF_set _ _ _ _)) (hid := Nat.le_succ _), h.due⟩
    | payCancel =>
      exact ⟨AP.step h.ap h.ap.loader (hl := log_push_ext _ _ rfl) (hq := made_sub (perm_snoc ..) (Nat.ne_of_beq_eq_false rfl))
        (hid := Nat.le_succ _), h.due⟩
    | follow gi tape m j start d hm hj =>
      have hjq := h.ap.tmplQ _ (Array.mem_toList_iff.mpr (Array.mem_of_getElem? hj))
      refine ⟨AP.push h.ap ?_ ?_ hm, h.due⟩
      · exact quiet_instantiate _ _ _ (fun _ _ => ⟨rfl, rfl⟩) hjq
      · exact hjq
    | load hl => exact ⟨AP.load h.ap hl, h.due⟩
    | pool pid p p' hp op => exact ⟨AP.poolSame h.ap hp op.same, h.due⟩
    | cancelGraph gi k time gr howed herr hg => exact ⟨AP.cancelGraph h.ap hg k time, h.due⟩
    | cancelPlaced t time gr howed herr hg => exact ⟨AP.cancelGraph h.ap hg _ _ (hef := EF_erase _ _ _), h.due⟩
    | notifyGraph t time gr howed herr hg =>
      exact ⟨AP.setGraphR h.ap hg (GraphS.rframe_notifyCompletion _ _ _ _ (h.ap.allPre _ _ hg)), h.due⟩
    -- the popped event is due now
    | place t time fuzzed tape pid pool gr x st w a hP hstart ev hcur htime =>
      exact ⟨AP.placeStart (htime.trans (h.due ev hcur)) h.ap hP.hg hP.hx hP.hp hP.hplace hstart, h.due⟩
    | placeNow t time fuzzed tape pid pool gr x st w a name hP hstart ev hcur htime hr ha =>
      exact ⟨AP.placeStartFin (htime.trans (h.due ev hcur)) h.ap hP.hg hP.hx hP.hp hP.hplace hstart hr ha
        fun e' he' => (List.mem_cons.mp ((perm_snoc ..).subset he')).symm, h.due⟩
    | finish e0 t time pid pool gr x hcur hty htid htime hfin hx hg hpid hrem hp =>
      exact ⟨AP.removeFinish t time (List.mem_append_left _ (hcur ▸ List.mem_cons_self)) hty htid htime h.ap hg hx hp hrem
        (hsub := fun e' he' => (perm_handled _ _ hcur).subset (List.mem_cons_of_mem _ he')),
        fun _ he => nomatch he⟩

theorem handleEvent_rspec (ev : SEvent) :
    ⦃RA ev.ev.time [ev]⦄ handleEvent ev
    ⦃post⟨fun b s => ⌜AP RunOK [] s ∧ (b = true → EndLast s)⌝, fun _ s => ⌜WInv s⌝⟩⦄ := by
  have h := handleEvent_w RI.closed ev
  mvcgen [h]
  · have h0 := ‹AP RunOK [ev] _ ∧ _›
    exact ⟨h0.1, fun _ he => Option.some.inj he ▸ h0.2.symm⟩
  · exact fun h he => ⟨h.ap, he⟩

theorem running_mem_placed {P : Int → List LogE → TaskId → TaskS → Prop} {ex : List SEvent} {s : SimS} (h : AP P ex s)
    (t : TaskId) (x : TaskS) (ht : taskAt s.graphs t = some x) (hs : x.state = .running) :
    t ∈ placedList s := by
  unfold placedList
  obtain ⟨pi, i, hat⟩ := h.core.runRes t x ht hs
  obtain ⟨m, hm, hget⟩ := h.core.bwd pi i _ hat
  rw [pmaps_getElem?] at hm
  cases hp : s.pools[pi]? with
  | none => simp [hp] at hm
  | some p =>
    simp only [hp, Option.map_some, Option.some.injEq] at hm
    subst hm
    rw [List.mem_flatMap]
    refine ⟨p, Array.mem_toList_iff.mpr (Array.mem_of_getElem? hp), ?_⟩
    rw [List.mem_map]
    exact ⟨(gid t, i), AList.mem_of_get?_some _ _ _ hget, ungid_gid t (h.core.small t x ht)⟩

theorem dtOK_of {P : Int → List LogE → TaskId → TaskS → Prop} {ex : List SEvent} {s : SimS} {head : SEvent} {dt : Int}
    (h : AP P ex s) (hb : StepBy s head dt) : DtOK s dt := by
  intro t x ht hs r hrem
  obtain ⟨g, hg, hx⟩ := taskAt_some _ _ _ ht
  exact hb.rems t (running_mem_placed h t x ht hs) g x r hg hx (by simp [TaskS.remainingTime, hs, hrem])

theorem AP.popped (s s' : SimS) (e : SEvent) (q' : Array SEvent) (h : AP RunOK [] s)
    (hpop : Heap.heappop SEvent.lt s.queue = some (e, q'))
    (hp : s'.pools = s.pools) (hg : s'.graphs = s.graphs) (hn : s'.now = s.now) (hl : s'.log = s.log)
    (hq : s'.queue = q') (hfu : s'.future = s.future) (hns : s'.nextSched = s.nextSched)
    (hid : s'.nextEid = s.nextEid) (ha : s'.allGraphs = s.allGraphs) (hj : s'.jobs = s.jobs)
    (hlr : s'.loaderReleased = s.loaderReleased) (hm : s'.metas = s.metas) : AP RunOK [e] s' := by
  refine AP.frame logMono_RunOK s s' h (fun e' he' => ?_) (by rw [hp]) (by rw [hp]) hg hn hl hfu hns hid ha hj hlr hm
  exact (perm_heappop _ _ _ [] hpop).subset (hq ▸ he')

theorem iter_rspec : ⦃fun s => ⌜AP RunOK [] s⌝⦄ iter
    ⦃post⟨fun b s => ⌜AP RunOK [] s ∧ (b = true → EndLast s)⌝, fun _ s => ⌜WInv s⌝⟩⦄ :=
  iter_triple (Q := fun s0 dt s => AP RunOK [] s ∧ s.now = s0.now + dt) (H := fun e s => AP RunOK [e] s ∧ s.now = e.ev.time)
    (fun _ => AP.weak)
    (fun s0 _ dt h0 s hs => step_rspec s0.now dt s ⟨⟨hs.1 ▸ h0, by rw [hs.1]⟩, hs.1 ▸ dtOK_of h0 hs.2⟩)
    handleEvent_rspec (fun _ _ _ _ _ _ _ h _ => ⟨h.1, nofun⟩)
    (fun _ _ s _ q _ _ h _ hp hdue => ⟨AP.popped s _ _ q h.1 hp rfl rfl rfl rfl rfl rfl rfl rfl rfl rfl rfl rfl, hdue⟩)

theorem init_rspec : ⦃fun s => ⌜AP RunOK [] s⌝⦄ init ⦃post⟨fun _ s => ⌜AP RunOK [] s⌝, fun _ s => ⌜WInv s⌝⟩⦄ := by
  have h := init_w RI.closed
  mvcgen [h]
  · exact ⟨‹_›, fun _ he => nomatch he⟩
  · exact fun h => h.ap

/-- **The residency and exact-runtime invariant holds when a simulation ends normally**
(SIMULATOR_END was handled), for every world, every scheduler (decision tape), every draw
tape and every fuel. -/
theorem simulate_strong (s0 : SimS) (fuel : Nat) (h : AP RunOK [] s0) (hok : (simulate s0 fuel).1 = none) :
    AP RunOK [] (simulate s0 fuel).2 :=
  ((simulate_loop (fun _ => AP.weak) init_rspec iter_rspec s0 fuel h).1 hok).1

/-- **The weak invariant (single residency, RUNNING ⇒ resident, the log property) holds in
the state a simulation is in after the constructor and any number of loop iterations, however
it ends — normally, out of fuel, or aborted by an exception.** -/
theorem simulate_weak (s0 : SimS) (fuel : Nat) (h : AP RunOK [] s0) : WInv (simulate s0 fuel).2 :=
  (simulate_loop (fun _ => AP.weak) init_rspec iter_rspec s0 fuel h).2

/-- **The full invariant holds at the head of the `simulate()` loop after any number `k` of
completed iterations** (the normally reached states). -/
theorem loop_head_strong (s0 : SimS) (k : Nat) (h : AP RunOK [] s0) :
    HoldsAfter (fun _ s => AP RunOK [] s) WInv ((ExceptT.run (do init; runK k : SimM Bool)).run s0) :=
  loop_head_loop init_rspec iter_rspec s0 k h

end ErdosVerif.Model.Sim

end

namespace ErdosVerif.Model.Sim

/-- A task graph as the loader hands it over: small enough for the task-id encoding of the
worker pools, no task RUNNING, `_pre_scheduling_state` VIRTUAL or RELEASED. -/
def quietB (g : GraphS) : Bool :=
  decide (g.tasks.size ≤ 65536) &&
  g.tasks.all (fun x => x.state != .running && (x.pre == .virtual || x.pre == .released))

def wf0 (s : SimS) : Bool :=
  s.graphs.isEmpty && s.metas.isEmpty && !s.loaderReleased && s.queue.isEmpty && s.future.isEmpty &&
  s.nextSched.isNone && s.log.isEmpty &&
  s.pools.all (fun p => p.workers.all (fun w => w.placed.isEmpty)) &&
  s.allGraphs.all quietB && s.jobs.all (fun j => quietB j.template)

theorem quiet_of_quietB (g : GraphS) (h : quietB g = true) : g.Quiet := by
  simp only [quietB, Bool.and_eq_true, decide_eq_true_eq, Array.all_eq_true] at h
  refine ⟨h.1, ?_⟩
  intro n x hx
  simp only [GraphS.task?] at hx
  obtain ⟨hlt, he⟩ := Array.getElem?_eq_some_iff.mp hx
  have := h.2 n hlt
  rw [he] at this
  simp only [bne_iff_ne, ne_eq, Bool.or_eq_true, beq_iff_eq] at this
  exact ⟨this.1, this.2⟩

theorem wk_empty (ps : Array Pool) (h : ps.all (fun p => p.workers.all (fun w => w.placed.isEmpty)) = true)
    (pi i : Nat) (ks : List Nat) (hw : Wk (views ps) pi i = some ks) : ks = [] := by
  unfold Wk at hw
  rw [views_getElem?] at hw
  cases hp : ps[pi]? with
  | none => simp [hp] at hw
  | some p =>
    simp only [hp, Option.map_some, Option.bind_some, Pool.view_getElem?] at hw
    cases hwk : p.workers[i]? with
    | none => simp [hwk] at hw
    | some w =>
      simp only [hwk, Option.map_some, Option.some.injEq] at hw
      rw [Array.all_eq_true] at h
      obtain ⟨hlt, he⟩ := Array.getElem?_eq_some_iff.mp hp
      have h1 := h pi hlt
      rw [he, List.all_eq_true] at h1
      have h2 := h1 w (List.mem_of_getElem? hwk)
      have : w.placed = [] := List.isEmpty_iff.mp h2
      rw [← hw, this]; rfl

theorem ap_initial (s : SimS) (h : wf0 s = true) : AP RunOK [] s := by
  simp only [wf0, Bool.and_eq_true, Bool.not_eq_true', Array.isEmpty_iff, List.isEmpty_iff,
    Option.isNone_iff_eq_none] at h
  obtain ⟨⟨⟨⟨⟨⟨⟨⟨⟨hg, hm⟩, hlr⟩, hq⟩, hf⟩, hns⟩, hl⟩, hp⟩, haq⟩, hjq⟩ := h
  have hnoAt : ∀ pi i n, ¬ At (views s.pools) pi i n := by
    intro pi i n hat
    obtain ⟨ks, hw, hmem⟩ := (At_iff ..).mp hat
    rw [wk_empty s.pools hp pi i ks hw] at hmem
    cases hmem
  have hT : ∀ t, taskAt s.graphs t = none := by intro t; simp [taskAt, hg]
  refine ⟨⟨?_, ?_, ?_, ?_, ?_, ?_, ?_, ?_, ?_⟩, ?_, ?_, ?_, ?_, ?_⟩
  · intro t x ht; rw [hT] at ht; cases ht
  · intro t x ht; rw [hT] at ht; cases ht
  · intro pi i ks hw; rw [wk_empty s.pools hp pi i ks hw]; exact List.nodup_nil
  · intro pi i pj j n h1; exact absurd h1 (hnoAt _ _ _)
  · intro pi i n h1; exact absurd h1 (hnoAt _ _ _)
  · intro pi i n h1; exact absurd h1 (hnoAt _ _ _)
  · intro t x ht; rw [hT] at ht; cases ht
  · intro t x ht; rw [hT] at ht; cases ht
  · intro e he; simp [hq] at he
  · rw [hl]; exact LogOK.nil
  · refine ⟨?_, ?_, ?_⟩
    · intro x hx
      rcases hx with ⟨t, ht⟩ | hx
      · rw [hf] at ht; cases ht
      · rw [hns] at hx; cases hx
    · intro e he; simp [hq] at he
    · intro e he; simp [hq] at he
  · intro g hgm
    rw [Array.all_eq_true] at haq
    obtain ⟨i, hi, rfl⟩ := Array.getElem_of_mem (Array.mem_toList_iff.mp hgm)
    exact quiet_of_quietB _ (haq i hi)
  · intro j hjm
    rw [Array.all_eq_true] at hjq
    obtain ⟨i, hi, rfl⟩ := Array.getElem_of_mem (Array.mem_toList_iff.mp hjm)
    exact quiet_of_quietB _ (hjq i hi)
  · intro _; exact ⟨hg, hm⟩

end ErdosVerif.Model.Sim
