import ErdosVerif.Lemmas.SimQueue
/-!
What the simulator model can do to its state, as a relation: the layer between `Model/Sim.lean`
and the run-level invariants.

Every handler of the model is a sequence of *steps* `Act γ s γ' s'`, each a write (or a block of
writes between which no invariant is expected to hold) together with what was read to decide on it.
`Lemmas/SimWalk.lean` proves that for an arbitrary assertion closed under the steps; an
invariant of the run is then shown by one case analysis over the constructors below, without
going back to the monadic code.

A state alone does not say where a handler is. `Ghost` adds what the handler still holds in its
hands: the events that exist outside the queue, and the tasks a cancellation walk has cancelled
whose `.cancel` history entry and TASK_CANCEL event are still to come.

Where a block of writes can be left by an exception half way, `Abort γ s s'` gives the state at
the raise point. `Tick` lists what `__step` adds: it moves RUNNING tasks and the clock, which the
invariants about running tasks treat by hand.

The constructors use the vocabulary of trace rows and events that the census and queue developments
define (`neutralRow`, `rowKind` in `Lemmas/SimCensusBase.lean`, `taskType` in `Lemmas/SimQueue.lean`), hence the import.
-/
namespace ErdosVerif.Model

/-- The `Task` calls a handler writes back and logs without further bookkeeping. -/
def TaskCall.routine : TaskCall → Bool
  | .release _ | .schedule .. | .unschedule => true
  | _ => false

theorem TaskCall.routine_benign {c : TaskCall} (h : c.routine = true) : c.isBenign = true := by
  cases c <;> first | rfl | cases h

/-- Their history entries. -/
def LogE.routine : LogE → Bool
  | .release .. | .schedule .. | .unschedule .. => true
  | _ => false

/-- The task graph `notify_task_graph_completion` instantiates from job `j`'s template. -/
abbrev JobS.follow (j : JobS) (start d : Int) : GraphS :=
  { j.template with
    name := s!"{j.name}@{j.index + 1}",
    tasks := j.template.tasks.mapIdx (fun i t =>
      { t with release := if (j.template.pars i).isEmpty then start else -1,
               intendedRelease := if (j.template.pars i).isEmpty then start else -1,
               deadline := start + d }) }

namespace Sim
open Heap

theorem isFinishLog_of_routine {e : LogE} (h : e.routine = true) : isFinishLog e = false := by
  cases e <;> first | rfl | cases h

structure Ghost where
  /-- the popped event, while it is handled -/
  cur : Option SEvent := none
  /-- events that were created and are still in a local list -/
  ex : List SEvent := []
  /-- tasks a cancellation walk has just cancelled: history entry and TASK_CANCEL event to come -/
  owed : List TaskId := []

/-- The event `mkEvent ty time tid pl gr` returns in state `s`; `name` is the unique name of the task. -/
abbrev eventAt (s : SimS) (ty : Nat) (time : Int) (name : Option String) (tid : Option TaskId)
    (pl : Option PlacementS := none) (gr : Option Nat := none) : SEvent :=
  { ev := ⟨s.nextEid, time, ty, name⟩, tid := tid, placement := pl, graph := gr }

def Retimes (f : SEvent → SEvent) : Prop :=
  ∀ e, f e = { e with ev := { e.ev with time := (f e).ev.time }, placement := (f e).placement }

/-- The event ids the simulator keeps for an in-place edit: `_future_placement_events`, `_next_scheduler_event`. -/
def Kept (s : SimS) (eid : Nat) : Prop := (∃ t, s.future.get? t = some eid) ∨ s.nextSched = some eid

abbrev editAt (eid : Nat) (f : SEvent → SEvent) (e : SEvent) : SEvent := if e.ev.eid == eid then f e else e

theorem forall_mem_set {α} {P : α → Prop} {a : Array α} {i : Nat} {x x' : α} (h : ∀ y ∈ a.toList, P y)
    (hx : a[i]? = some x) (hx' : P x → P x') : ∀ y ∈ (a.setIfInBounds i x').toList, P y := by
  intro y hy
  rcases Array.mem_or_eq_of_mem_setIfInBounds (Array.mem_toList_iff.mp hy) with hy | hy
  · exact h y (Array.mem_toList_iff.mpr hy)
  · exact hy ▸ hx' (h x (Array.mem_toList_iff.mpr (Array.mem_of_getElem? hx)))

/-- What a handler writes back into a worker pool, other than a placement or a removal that succeeded. -/
inductive PoolOp (p : Pool) : Pool → Prop
  | load (prof : Nat) (st : Strategy) (w : Option Nat) : PoolOp p (p.loadProfile prof st w).1
  | evict (prof : Nat) (w : Option Nat) : PoolOp p (p.evictProfile prof w).1
  | read (wi n : Nat) : PoolOp p (p.onWorker' wi n).1
  | profiles (dt : Int) : PoolOp p (p.stepProfiles dt)
  | noPlace (k : Nat) (strats : List Strategy) (st : Option Strategy) (w : Option Nat)
      (h : (p.placeTask k strats st w).2 ≠ .ok true) : PoolOp p (p.placeTask k strats st w).1
  | noRemove (k : Nat) (h : (p.removeTask k).2 ≠ .ok) : PoolOp p (p.removeTask k).1

/-- What `__handle_task_placement` has read when the pool has taken the task: the task was ready to run, and
`place_task` answered `True`. -/
structure Placed (s : SimS) (t : TaskId) (pid : Nat) (pool : Pool) (gr : GraphS) (x : TaskS) (st : Option Strategy)
    (w : Option Nat) : Prop where
  hp : s.pools[pid]? = some pool
  hg : s.graphs[t.g]? = some gr
  hx : gr.task? t.t = some x
  hready : gr.isReadyToRun t.t = true
  hplace : (pool.placeTask (gid t) x.strategies st w).2 = .ok true

/-- The state `finishRows t time` leaves. -/
abbrev finishRowsOf (s : SimS) (x : TaskS) (gr : GraphS) (t : TaskId) (time : Int) : SimS :=
  let o := finishOut x gr (nstr (((s.metas[t.g]?).map (·.timestamp)).getD 0)) (tlabel t) time
  { s with rows := o.rows.foldl Array.push s.rows,
           finishedGraphs := s.finishedGraphs + o.dFinishedGraphs,
           missedGraphDeadlines := s.missedGraphDeadlines + o.dMissedGraphDeadlines,
           missedTaskDeadlines := s.missedTaskDeadlines + o.dMissedTaskDeadlines }

inductive Act : Ghost → SimS → Ghost → SimS → Prop
  /-- a trace row of a kind no counter tracks -/
  | row (γ : Ghost) (s : SimS) (r : Row) (hr : neutralRow r = true) : Act γ s γ { s with rows := s.rows.push r }
  | pop (γ : Ghost) (s : SimS) (ev : SEvent) (hcur : γ.cur = some ev) :
      Act γ s γ { s with log := s.log.push (.pop ev.ev.time ev.ev.etype) }
  /-- the handler of the popped event is through; a TASK_CANCEL or TASK_FINISHED event goes when it is accounted for -/
  | done (γ : Ghost) (s : SimS) (ev : SEvent) (hcur : γ.cur = some ev) (hcan : ev.ev.etype ≠ ET.taskCancel)
      (hfin : ev.ev.etype ≠ ET.taskFinished) : Act γ s { γ with cur := none } s
  /-- SIMULATOR_END: its row reports the counters, and the run is over -/
  | simEnd (γ : Ghost) (s : SimS) (ev : SEvent) (hcur : γ.cur = some ev) (hty : ev.ev.etype = ET.simulatorEnd)
      (time cg : String) :
      Act γ s { γ with cur := none }
        { s with rows := s.rows.push [time, "SIMULATOR_END", nstr s.finishedTasks, nstr s.cancelledTasks,
                           nstr s.missedTaskDeadlines, nstr s.finishedGraphs, cg, nstr s.missedGraphDeadlines],
                 ended := true }
  | log (γ : Ghost) (s : SimS) (e : LogE) (he : e.routine = true) : Act γ s γ { s with log := s.log.push e }
  /-- a `Task` call written back, whether or not it raised -/
  | call (γ : Ghost) (s : SimS) (t : TaskId) (c : TaskCall) (gr : GraphS) (x : TaskS)
      (hg : s.graphs[t.g]? = some gr) (hx : gr.task? t.t = some x) (hc : c.routine = true) :
      Act γ s γ { s with graphs := s.graphs.setIfInBounds t.g (gr.setTask t.t (x.call c).1) }
  /-- `mkEvent`, for the types that need no bookkeeping -/
  | mk (γ : Ghost) (s : SimS) (ty : Nat) (time : Int) (name : Option String)
      (tid : Option TaskId) (pl : Option PlacementS) (gr : Option Nat)
      (hfin : ty ≠ ET.taskFinished) (hcan : ty ≠ ET.taskCancel) (hwf : name.isSome = taskType ty)
      (htid : tid.isSome = name.isSome) :
      Act γ s { γ with ex := γ.ex ++ [eventAt s ty time name tid pl gr] } { s with nextEid := s.nextEid + 1 }
  /-- a TASK_PLACEMENT event whose id is kept in `_future_placement_events` -/
  | mkCached (γ : Ghost) (s : SimS) (time : Int) (name : String) (t : TaskId) (pl : Option PlacementS) :
      Act γ s { γ with ex := γ.ex ++ [eventAt s ET.taskPlacement time (some name) (some t) pl] }
        { s with nextEid := s.nextEid + 1, future := s.future.set t s.nextEid }
  /-- the same, queued at once: the retry of a placement whose task or worker is not ready -/
  | retry (γ : Ghost) (s : SimS) (time : Int) (name : String) (t : TaskId) (pl : Option PlacementS) :
      Act γ s γ { s with nextEid := s.nextEid + 1, future := s.future.set t s.nextEid,
                         queue := heappush SEvent.lt s.queue (eventAt s ET.taskPlacement time (some name) (some t) pl) }
  /-- the SCHEDULER_START event whose id is kept in `_next_scheduler_event` -/
  | mkSched (γ : Ghost) (s : SimS) (ty : Nat) (time : Int) (hty : ty = ET.schedulerStart) :
      Act γ s { γ with ex := γ.ex ++ [eventAt s ty time none none] }
        { s with nextEid := s.nextEid + 1, nextSched := some s.nextEid }
  | add (γ : Ghost) (s : SimS) (e : SEvent) (rest : List SEvent) (hex : γ.ex = e :: rest) :
      Act γ s { γ with ex := rest } { s with queue := heappush SEvent.lt s.queue e }
  /-- the order of the local list is immaterial (`sorted(events)`) -/
  | perm (γ : Ghost) (s : SimS) (ex' : List SEvent) (h : γ.ex.Perm ex') : Act γ s { γ with ex := ex' } s
  /-- in-place edit of the queued event object whose id is kept, and `reheapify()` -/
  | edit (γ : Ghost) (s : SimS) (eid : Nat) (f : SEvent → SEvent) (hf : Retimes f) (hk : Kept s eid) :
      Act γ s γ { s with queue := heapify SEvent.lt (s.queue.map (editAt eid f)) }
  /-- the same edit where the object is still in the local list of `__handle_scheduler_finish` -/
  | repend (γ : Ghost) (s : SimS) (c : Option Nat) (p : PlacementS)
      (hc : ∀ eid, c = some eid → s.future.get? p.task = some eid) :
      Act γ s { γ with ex := editPending c p γ.ex } s
  /-- `remove_event` of a cached placement event -/
  | unqueue (γ : Ghost) (s : SimS) (eid i : Nat) (hi : s.queue.findIdx? (fun e => e.ev.eid == eid) = some i)
      (hc : ∃ t, s.future.get? t = some eid) :
      Act γ s γ { s with queue := heapify SEvent.lt (s.queue.eraseIdxIfInBounds i) }
  | uncache (γ : Ghost) (s : SimS) (t : TaskId) : Act γ s γ { s with future := s.future.erase t }
  | draw (γ : Ghost) (s : SimS) (tape : List Draw) : Act γ s γ { s with tape := tape }
  /-- a finished task graph of a closed-loop job is marked as followed up (the tape moves when draws were made) -/
  | followUp (γ : Ghost) (s : SimS) (gi : Nat) (tape : List Draw) :
      Act γ s γ { s with followedUp := gi :: s.followedUp, tape := tape }
  /-- and its follow-up task graph joins the workload -/
  | follow (γ : Ghost) (s : SimS) (gi : Nat) (tape : List Draw) (m : GraphMeta) (j : JobS) (start d : Int)
      (hm : s.metas[gi]? = some m) (hj : s.jobs[m.job]? = some j) :
      Act γ s γ { s with followedUp := gi :: s.followedUp, tape := tape,
                         jobs := s.jobs.setIfInBounds m.job { j with remaining := j.remaining - 1, index := j.index + 1 },
                         graphs := s.graphs.push (j.follow start d),
                         metas := s.metas.push ⟨m.job, j.index + 1, j.critical⟩ }
  /-- the first UPDATE_WORKLOAD: the loader's task graphs become the workload -/
  | load (γ : Ghost) (s : SimS) (h : ¬ s.loaderReleased = true) :
      Act γ s γ { s with loaderReleased := true, graphs := s.allGraphs, metas := s.allMeta }
  | pool (γ : Ghost) (s : SimS) (pid : Nat) (p p' : Pool) (hp : s.pools[pid]? = some p) (op : PoolOp p p') :
      Act γ s γ { s with pools := s.pools.setIfInBounds pid p' }
  /-- `place_task` and `Task.start` both succeeded, on a task that was ready and has work left -/
  | place (γ : Ghost) (s : SimS) (t : TaskId) (time fuzzed : Int) (tape : List Draw) (pid : Nat) (pool : Pool)
      (gr : GraphS) (x : TaskS) (st : Option Strategy) (w : Option Nat) (a : Int)
      (hP : Placed s t pid pool gr x st w) (hstart : (x.doStart time fuzzed).2 = none)
      (ev : SEvent) (hcur : γ.cur = some ev) (htime : time = ev.ev.time)
      (hr : (x.doStart time fuzzed).1.remainingTime = .ok a) (ha : ¬ (a == 0) = true) :
      Act γ s γ { s with pools := s.pools.setIfInBounds pid (pool.placeTask (gid t) x.strategies st w).1,
                         log := (s.log.push (.place t pid time)).push (.start t time fuzzed pid),
                         tape := tape,
                         graphs := s.graphs.setIfInBounds t.g (gr.setTask t.t (x.doStart time fuzzed).1) }
  /-- the same for a task that starts with no work left: its TASK_FINISHED event is created at once -/
  | placeNow (γ : Ghost) (s : SimS) (t : TaskId) (time fuzzed : Int) (tape : List Draw) (pid : Nat) (pool : Pool)
      (gr : GraphS) (x : TaskS) (st : Option Strategy) (w : Option Nat) (a : Int) (name : String)
      (hP : Placed s t pid pool gr x st w) (hstart : (x.doStart time fuzzed).2 = none)
      (ev : SEvent) (hcur : γ.cur = some ev) (htime : time = ev.ev.time)
      (hr : (x.doStart time fuzzed).1.remainingTime = .ok a) (ha : (a == 0) = true) :
      Act γ s { γ with ex := γ.ex ++ [eventAt s ET.taskFinished time (some name) (some t)] }
        { s with pools := s.pools.setIfInBounds pid (pool.placeTask (gid t) x.strategies st w).1,
                 log := (s.log.push (.place t pid time)).push (.start t time fuzzed pid),
                 tape := tape,
                 graphs := s.graphs.setIfInBounds t.g (gr.setTask t.t (x.doStart time fuzzed).1),
                 nextEid := s.nextEid + 1 }
  /-- TASK_FINISHED for the popped event `e0`: `remove_task` and `Task.finish` succeeded; the rows and counters
  of `finishOut` -/
  | finish (γ : Ghost) (s : SimS) (e0 : SEvent) (t : TaskId) (time : Int) (pid : Nat)
      (pool : Pool) (gr : GraphS) (x : TaskS) (hcur : γ.cur = some e0)
      (hty : e0.ev.etype = ET.taskFinished) (htid : e0.tid = some t) (htime : e0.ev.time = time)
      (hfin : (x.call (.finish none)).2 = none) (hx : gr.task? t.t = some x) (hg : s.graphs[t.g]? = some gr)
      (hpid : x.pool = some pid) (hrem : (pool.removeTask (gid t)).2 = .ok) (hp : s.pools[pid]? = some pool) :
      Act γ s { γ with cur := none }
        (finishRowsOf
          { s with pools := s.pools.setIfInBounds pid (pool.removeTask (gid t)).1,
                   log := (s.log.push (.remove t pid time)).push (.finish t time),
                   graphs := s.graphs.setIfInBounds t.g (gr.setTask t.t (x.call (.finish none)).1),
                   finishedTasks := s.finishedTasks + 1 }
          (x.call (.finish none)).1 (gr.setTask t.t (x.call (.finish none)).1) t time)
  /-- `TaskGraph.cancel` written back; the tasks it reports are owed their bookkeeping -/
  | cancelGraph (γ : Ghost) (s : SimS) (gi k : Nat) (time : Int) (gr : GraphS) (howed : γ.owed = [])
      (herr : (gr.cancel k time).err = none) (hg : s.graphs[gi]? = some gr) :
      Act γ s { γ with owed := (gr.cancel k time).cancelled.map (⟨gi, ·⟩) }
        { s with graphs := s.graphs.setIfInBounds gi (gr.cancel k time).g }
  /-- the same for the task of a placement that is dropped: its cached event is forgotten first -/
  | cancelPlaced (γ : Ghost) (s : SimS) (t : TaskId) (time : Int) (gr : GraphS) (howed : γ.owed = [])
      (herr : (gr.cancel t.t time).err = none) (hg : s.graphs[t.g]? = some gr) :
      Act γ s { γ with owed := (gr.cancel t.t time).cancelled.map (⟨t.g, ·⟩) }
        { s with future := s.future.erase t, graphs := s.graphs.setIfInBounds t.g (gr.cancel t.t time).g }
  /-- `notify_task_completion` written back, likewise -/
  | notifyGraph (γ : Ghost) (s : SimS) (t : TaskId) (time : Int) (gr : GraphS) (howed : γ.owed = [])
      (herr : (gr.notifyCompletion t.t time s.tape).err = none) (hg : s.graphs[t.g]? = some gr) :
      Act γ s { γ with owed := (gr.notifyCompletion t.t time s.tape).cancelled.map (⟨t.g, ·⟩) }
        { s with tape := (gr.notifyCompletion t.t time s.tape).tape,
                 graphs := s.graphs.setIfInBounds t.g (gr.notifyCompletion t.t time s.tape).g }
  /-- the `.cancel` entry and the TASK_CANCEL event of one cancelled task -/
  | payCancel (γ : Ghost) (s : SimS) (t : TaskId) (rest : List TaskId) (time : Int) (name : String)
      (howed : γ.owed = t :: rest) :
      Act γ s { γ with ex := γ.ex ++ [eventAt s ET.taskCancel time (some name) (some t)], owed := rest }
        { s with log := s.log.push (.cancel t time), nextEid := s.nextEid + 1 }
  /-- the popped TASK_CANCEL event is counted and reported -/
  | countCancel (γ : Ghost) (s : SimS) (ev : SEvent) (r : Row) (hcur : γ.cur = some ev)
      (hty : ev.ev.etype = ET.taskCancel) (hr : rowKind r = "TASK_CANCEL") :
      Act γ s { γ with cur := none } { s with cancelledTasks := s.cancelledTasks + 1, rows := s.rows.push r }
  /-- SCHEDULER_START, no decision left on the tape -/
  | schedStart (γ : Ghost) (s : SimS) (time : Int) : Act γ s γ { s with lastSchedStart := time, nextSched := none }
  /-- SCHEDULER_START: the scheduler's answer is the next decision of the tape -/
  | schedRun (γ : Ghost) (s : SimS) (time : Int) (d : Decision) (rest : List Decision) (hd : s.decisions = d :: rest) :
      Act γ s γ { s with lastSchedStart := time, nextSched := none, decisions := rest, lastPlacements := some d }
  | schedDone (γ : Ghost) (s : SimS) : Act γ s γ { s with lastPlacements := none }

/-- The states in which an exception can leave a block of writes that `Act` lists as one step. -/
inductive Abort : Ghost → SimS → SimS → Prop
  /-- `TaskGraph.cancel` raised: part of the walk is written back, nothing is reported -/
  | cancelGraph (γ : Ghost) (s : SimS) (gi k : Nat) (time : Int) (gr : GraphS) (e : SErr)
      (herr : (gr.cancel k time).err = some e) (hg : s.graphs[gi]? = some gr) :
      Abort γ s { s with graphs := s.graphs.setIfInBounds gi (gr.cancel k time).g }
  | cancelPlaced (γ : Ghost) (s : SimS) (t : TaskId) (time : Int) (gr : GraphS) (e : SErr)
      (herr : (gr.cancel t.t time).err = some e) (hg : s.graphs[t.g]? = some gr) :
      Abort γ s { s with future := s.future.erase t, graphs := s.graphs.setIfInBounds t.g (gr.cancel t.t time).g }
  | notifyGraph (γ : Ghost) (s : SimS) (t : TaskId) (time : Int) (gr : GraphS) (e : SErr)
      (herr : (gr.notifyCompletion t.t time s.tape).err = some e) (hg : s.graphs[t.g]? = some gr) :
      Abort γ s { s with tape := (gr.notifyCompletion t.t time s.tape).tape,
                         graphs := s.graphs.setIfInBounds t.g (gr.notifyCompletion t.t time s.tape).g }
  /-- the `.cancel` entry is written, the event could not be created -/
  | payCancel (γ : Ghost) (s : SimS) (t : TaskId) (rest : List TaskId) (time : Int) (howed : γ.owed = t :: rest) :
      Abort γ s { s with log := s.log.push (.cancel t time) }
  /-- the popped TASK_CANCEL event is counted, its row could not be formatted -/
  | countCancel (γ : Ghost) (s : SimS) (ev : SEvent) (hcur : γ.cur = some ev) (hty : ev.ev.etype = ET.taskCancel) :
      Abort γ s { s with cancelledTasks := s.cancelledTasks + 1 }
  /-- the pool took the task, the placement has no strategy -/
  | placedNoStrategy (γ : Ghost) (s : SimS) (t : TaskId) (time : Int) (pid : Nat) (pool : Pool) (gr : GraphS) (x : TaskS)
      (st : Option Strategy) (w : Option Nat) (hP : Placed s t pid pool gr x st w) :
      Abort γ s { s with pools := s.pools.setIfInBounds pid (pool.placeTask (gid t) x.strategies st w).1,
                         log := s.log.push (.place t pid time) }
  /-- the pool took the task, the draw of the runtime variance failed -/
  | placedNoDraw (γ : Ghost) (s : SimS) (t : TaskId) (time : Int) (tape : List Draw) (pid : Nat) (pool : Pool) (gr : GraphS)
      (x : TaskS) (st : Option Strategy) (w : Option Nat) (hP : Placed s t pid pool gr x st w) :
      Abort γ s { s with pools := s.pools.setIfInBounds pid (pool.placeTask (gid t) x.strategies st w).1,
                         log := s.log.push (.place t pid time), tape := tape }
  /-- the pool took the task, `Task.start` refused -/
  | placedNoStart (γ : Ghost) (s : SimS) (t : TaskId) (time fuzzed : Int) (tape : List Draw) (pid : Nat) (pool : Pool)
      (gr : GraphS) (x : TaskS) (st : Option Strategy) (w : Option Nat) (e : SErr)
      (hP : Placed s t pid pool gr x st w) (hstart : (x.doStart time fuzzed).2 = some e) :
      Abort γ s { s with pools := s.pools.setIfInBounds pid (pool.placeTask (gid t) x.strategies st w).1,
                         log := s.log.push (.place t pid time), tape := tape,
                         graphs := s.graphs.setIfInBounds t.g (gr.setTask t.t (x.doStart time fuzzed).1) }
  /-- the task was placed and started; the handler raised before it knew whether work is left -/
  | placedStarted (γ : Ghost) (s : SimS) (t : TaskId) (time fuzzed : Int) (tape : List Draw) (pid : Nat) (pool : Pool)
      (gr : GraphS) (x : TaskS) (st : Option Strategy) (w : Option Nat)
      (hP : Placed s t pid pool gr x st w) (hstart : (x.doStart time fuzzed).2 = none)
      (ev : SEvent) (hcur : γ.cur = some ev) (htime : time = ev.ev.time) :
      Abort γ s { s with pools := s.pools.setIfInBounds pid (pool.placeTask (gid t) x.strategies st w).1,
                         log := (s.log.push (.place t pid time)).push (.start t time fuzzed pid),
                         tape := tape,
                         graphs := s.graphs.setIfInBounds t.g (gr.setTask t.t (x.doStart time fuzzed).1) }
  /-- the pool let the task go, `Task.finish` refused -/
  | removedNoFinish (γ : Ghost) (s : SimS) (e0 : SEvent) (t : TaskId) (time : Int) (pid : Nat) (pool : Pool) (gr : GraphS)
      (x : TaskS) (e : SErr) (hcur : γ.cur = some e0) (hty : e0.ev.etype = ET.taskFinished) (htid : e0.tid = some t)
      (hfin : (x.call (.finish none)).2 = some e) (hx : gr.task? t.t = some x) (hg : s.graphs[t.g]? = some gr)
      (hpid : x.pool = some pid) (hrem : (pool.removeTask (gid t)).2 = .ok) (hp : s.pools[pid]? = some pool) :
      Abort γ s { s with pools := s.pools.setIfInBounds pid (pool.removeTask (gid t)).1,
                         log := s.log.push (.remove t pid time),
                         graphs := s.graphs.setIfInBounds t.g (gr.setTask t.t (x.call (.finish none)).1) }

/-- What the loop of `simulate()` does around the handlers: `__step(dt)` (besides stepping the pools' profiles and queueing
the events it creates) and the pop. (`now` is the clock value `__step` read when it began, `time` the value the clock is
about to show; neither is tied to the state here.) -/
inductive Tick : Ghost → SimS → Ghost → SimS → Prop
  /-- `Task.step` on a RUNNING task -/
  | stepTask (γ : Ghost) (s : SimS) (t : TaskId) (now dt : Int) (gr : GraphS) (x : TaskS)
      (hg : s.graphs[t.g]? = some gr) (hx : gr.task? t.t = some x) :
      Tick γ s γ { s with graphs := s.graphs.setIfInBounds t.g (gr.setTask t.t (x.call (.step now dt)).1) }
  /-- the TASK_FINISHED event of a task that `Task.step` reported -/
  | mkDue (γ : Ghost) (s : SimS) (t : TaskId) (time : Int) (name : String) :
      Tick γ s { γ with ex := γ.ex ++ [eventAt s ET.taskFinished time (some name) (some t)] }
        { s with nextEid := s.nextEid + 1 }
  | clock (γ : Ghost) (s : SimS) (dt : Int) (hcur : γ.cur = none) (hdt : 0 ≤ dt) :
      Tick γ s γ { s with now := s.now + dt, log := s.log.push (.clock (s.now + dt)) }
  /-- `heappop`: the next event is taken off the queue, to be handled; it is due now (`StepOK.popped_due`) -/
  | take (γ : Ghost) (s : SimS) (e : SEvent) (q : Array SEvent) (hcur : γ.cur = none)
      (hpop : heappop SEvent.lt s.queue = some (e, q)) (hdue : s.now = e.ev.time) :
      Tick γ s { γ with cur := some e } { s with queue := q }

/-- `I` holds wherever a handler can be, `W` wherever it can raise. -/
structure Closed (I : Ghost → SimS → Prop) (W : SimS → Prop) : Prop where
  act : ∀ {γ s γ' s'}, Act γ s γ' s' → I γ s → I γ' s'
  abort : ∀ {γ s s'}, Abort γ s s' → I γ s → W s'
  weak : ∀ {γ s}, I γ s → W s

structure ClosedTick (I : Ghost → SimS → Prop) (W : SimS → Prop) : Prop extends Closed I W where
  tick : ∀ {γ s γ' s'}, Tick γ s γ' s' → I γ s → I γ' s'

end Sim
end ErdosVerif.Model
