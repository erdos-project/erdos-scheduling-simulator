import ErdosVerif.Lemmas.SimResidentRun
/-!
Progress of the `simulate()` loop: the invariant `PG`, the shape of the history it speaks of, and the step that keeps it
whatever else it writes (`PG.benign`).

`PG skip ex s` ("pending-finish invariant"):
* `due`  — **every RUNNING task whose remaining time is 0 has a TASK_FINISHED event, due now
  or earlier, in the queue** (or in `ex`, the events that exist outside the queue: the event
  being handled, the events a handler or `__step` has created and not yet pushed); `skip` exempts one task.
  Every use is at `skip = none`; `PG.toSkip`, `PG.unskip_ev`, `PG.unskip_ne` say what `some t` means;
* `pre`  — `_pre_scheduling_state` is VIRTUAL / RELEASED (so that `unschedule` cannot make a
  task RUNNING);
* `eids` — the event ids kept for in-place edits / removals are never ids of TASK_FINISHED
  events (`EInv`);
* `allQ`, `tmplQ` — loader graphs and job templates contain no RUNNING task;
* `lg`   — the shape of the history log: between two adjacent clock entries the clock value
  strictly grows unless the second one is immediately followed by a pop (`SF`), and a trailing
  clock entry carries the current clock value.

Unlike the residency invariant `AP` this invariant does not mention the worker pools.
-/
namespace ErdosVerif.Model.Sim

def pg_sk : LogE → Option (Option Int)
  | .clock c => some (some c)
  | .pop _ _ => some none
  | _ => none

def pg_skel (l : List LogE) : List (Option Int) := l.filterMap pg_sk

def SF (k : List (Option Int)) : Prop :=
  ∀ i a b, k[i]? = some (some a) → k[i + 1]? = some (some b) → a < b ∨ k[i + 2]? = some none

def LG (l : List LogE) (now : Int) : Prop :=
  SF (pg_skel l) ∧ ∀ a, (pg_skel l).getLast? = some (some a) → a = now

theorem pg_skel_append (l l' : List LogE) : pg_skel (l ++ l') = pg_skel l ++ pg_skel l' := by
  simp [pg_skel, List.filterMap_append]

theorem pg_skel_push (l : Array LogE) (e : LogE) : pg_skel (l.push e).toList = pg_skel l.toList ++ (pg_sk e).toList := by
  cases h : pg_sk e <;> simp [pg_skel, List.filterMap_append, h]

theorem pg_skel_push_other (l : Array LogE) (e : LogE) (he : pg_sk e = none) :
    pg_skel (l.push e).toList = pg_skel l.toList := by
  rw [pg_skel_push, he]; exact List.append_nil _

theorem pg_skel_push_clock (l : Array LogE) (c : Int) :
    pg_skel (l.push (.clock c)).toList = pg_skel l.toList ++ [some c] := pg_skel_push _ _

theorem pg_skel_push_pop (l : Array LogE) (a : Int) (b : Nat) :
    pg_skel (l.push (.pop a b)).toList = pg_skel l.toList ++ [none] := pg_skel_push _ _

theorem SF.nil : SF [] := by intro i a b h; simp at h

theorem SF.pop {k : List (Option Int)} (h : SF (k ++ [none])) : SF (k ++ [none]) := h

theorem SF.append_left {k l : List (Option Int)} (h : SF k) {i : Nat} {a b : Int} (hi : i + 1 < k.length)
    (h1 : (k ++ l)[i]? = some (some a)) (h2 : (k ++ l)[i + 1]? = some (some b)) :
    a < b ∨ (k ++ l)[i + 2]? = some none := by
  rw [List.getElem?_append_left (by omega)] at h1
  rw [List.getElem?_append_left hi] at h2
  refine (h i a b h1 h2).imp_right fun h3 => ?_
  have : i + 2 < k.length := by
    rcases Nat.lt_or_ge (i + 2) k.length with h4 | h4
    · exact h4
    · rw [List.getElem?_eq_none h4] at h3; cases h3
  rw [List.getElem?_append_left this]; exact h3

theorem SF.clock_strict {k : List (Option Int)} {now b : Int} (h : SF k)
    (hl : ∀ a, k.getLast? = some (some a) → a = now) (hb : now < b) : SF (k ++ [some b]) := by
  intro i a c h1 h2
  by_cases hi : i + 1 < k.length
  · exact h.append_left hi h1 h2
  · by_cases hi2 : i + 1 = k.length
    · -- the new pair: (last of k, b)
      rw [List.getElem?_append_left (by omega)] at h1
      rw [List.getElem?_append_right (by omega)] at h2
      have h0 : i + 1 - k.length = 0 := by omega
      rw [h0] at h2
      simp only [List.getElem?_cons_zero, Option.some.injEq] at h2
      have hlast : k.getLast? = some (some a) := by
        rw [List.getLast?_eq_getElem?]
        have : k.length - 1 = i := by omega
        rw [this]; exact h1
      have := hl a hlast
      left; omega
    · rw [List.getElem?_append_right (by omega)] at h2
      have : i + 1 - k.length = (i - k.length) + 1 := by omega
      rw [this] at h2
      simp at h2

theorem SF.clock_pop {k : List (Option Int)} {b : Int} (h : SF k) : SF (k ++ [some b] ++ [none]) := by
  intro i a c h1 h2
  rw [List.append_assoc] at h1 h2 ⊢
  by_cases hi : i + 1 < k.length
  · exact h.append_left hi h1 h2
  · by_cases hi2 : i + 1 = k.length
    · right
      rw [List.getElem?_append_right (by omega)]
      have : i + 2 - k.length = 1 := by omega
      rw [this]; rfl
    · exfalso
      rw [List.getElem?_append_right (by omega)] at h2
      by_cases hi3 : i = k.length
      · have : i + 1 - k.length = 1 := by omega
        rw [this] at h2
        simp at h2
      · have : i + 1 - k.length = (i - 1 - k.length) + 2 := by omega
        rw [this] at h2
        simp at h2

theorem SF.snoc_pop {k : List (Option Int)} (h : SF k) : SF (k ++ [none]) := by
  intro i a b h1 h2
  by_cases hi : i + 1 < k.length
  · exact h.append_left hi h1 h2
  · rw [List.getElem?_append_right (by omega)] at h2
    cases hj : i + 1 - k.length <;> simp [hj] at h2

theorem LG.congr {l l' : List LogE} {now : Int} (hl : pg_skel l' = pg_skel l) (h : LG l now) : LG l' now := by
  unfold LG; rw [hl]; exact h

theorem LG.logs {l l' : Array LogE} {now : Int} (es : List LogE) (hes : ∀ e ∈ es, ∀ c, pg_sk e ≠ some (some c))
    (hl : l' = es.foldl Array.push l) (h : LG l.toList now) : LG l'.toList now := by
  subst hl
  induction es generalizing l with
  | nil => exact h
  | cons e es ih =>
    refine ih (fun x hx => hes x (List.mem_cons_of_mem _ hx)) ?_
    cases hk : pg_sk e with
    | none => exact h.congr (pg_skel_push_other _ _ hk)
    | some o =>
      cases o with
      | none => unfold LG; rw [pg_skel_push, hk]; exact ⟨h.1.snoc_pop, fun a ha => by simp at ha⟩
      | some c => exact absurd hk (hes e (List.mem_cons_self ..) c)

def pg_Due (l : List SEvent) (now : Int) (t : TaskId) : Prop :=
  ∃ e ∈ l, e.ev.etype = ET.taskFinished ∧ e.tid = some t ∧ e.ev.time ≤ now

structure PG (skip : Option TaskId) (ex : List SEvent) (s : SimS) : Prop where
  pre : ∀ t x, taskAt s.graphs t = some x → x.PreOK
  due : ∀ t x, taskAt s.graphs t = some x → x.state = .running → x.remaining = some 0 → some t ≠ skip →
    pg_Due (s.queue.toList ++ ex) s.now t
  eids : EInv (s.queue.toList ++ ex) s.future s.nextSched s.nextEid
  allQ : ∀ g ∈ s.allGraphs.toList, g.Quiet
  tmplQ : ∀ j ∈ s.jobs.toList, j.template.Quiet
  lg : LG s.log.toList s.now

/-- The target state is free: each hypothesis speaks of the fields it reads, and the defaults are those of a step that
leaves them alone. -/
theorem PG.benign {sk : Option TaskId} {ex ex' : List SEvent} {s s' : SimS} (h : PG sk ex s)
    (hg : TRel (taskAt s.graphs) (taskAt s'.graphs) := by exact TRel.refl _)
    (hq : ∀ e ∈ s'.queue.toList ++ ex', e.ev.etype = ET.taskFinished → e ∈ s.queue.toList ++ ex := by
      exact fun _ h _ => h)
    (hq2 : ∀ e ∈ s.queue.toList ++ ex, e.ev.etype = ET.taskFinished → e ∈ s'.queue.toList ++ ex' := by
      exact fun _ h _ => h)
    (hef : ∀ x, EF s'.future s'.nextSched x → EF s.future s.nextSched x ∨ (s.nextEid ≤ x ∧ x < s'.nextEid) := by
      exact fun _ h => .inl h)
    (hid : s.nextEid ≤ s'.nextEid := by exact Nat.le_refl _)
    (hj : ∀ j ∈ s'.jobs.toList, ∃ j0 ∈ s.jobs.toList, j.template = j0.template := by exact fun j h => ⟨j, h, rfl⟩)
    (hlg : LG s.log.toList s.now → LG s'.log.toList s.now := by exact id)
    (hn : s'.now = s.now := by rfl) (ha : s'.allGraphs = s.allGraphs := by rfl) : PG sk ex' s' := by
  refine ⟨hg.preOK h.pre, ?_, h.eids.benign hq hef hid, by rw [ha]; exact h.allQ, ?_, by rw [hn]; exact hlg h.lg⟩
  · intro t x' ht hs hr hsk
    obtain ⟨e, he, h1, h2, h3⟩ := h.due t x' (hg.running_back ht hs) hs hr hsk
    exact ⟨e, hq2 e he h1, h1, h2, by rw [hn]; exact h3⟩
  · intro j hj'
    obtain ⟨j0, h0, e⟩ := hj j hj'
    rw [e]; exact h.tmplQ j0 h0

theorem PG.allPre {sk : Option TaskId} {ex : List SEvent} {s : SimS} (h : PG sk ex s)
    (gi : Nat) (g : GraphS) (hg : s.graphs[gi]? = some g) : g.AllPre := by
  intro k x hx
  exact h.pre ⟨gi, k⟩ x (taskAt_of s.graphs ⟨gi, k⟩ g x hg hx)

theorem PG.trel {sk : Option TaskId} {ex : List SEvent} {s : SimS} (h : PG sk ex s) {gi : Nat} {g g' : GraphS}
    (hg : s.graphs[gi]? = some g) (hf : g.AllPre → RFrame g g') :
    TRel (taskAt s.graphs) (taskAt (s.graphs.setIfInBounds gi g')) :=
  TRel.setGraph _ _ g _ hg (hf (h.allPre gi g hg))

theorem PG.unskip_ev {t : TaskId} {ex : List SEvent} {s : SimS} (h : PG (some t) ex s)
    (hd : pg_Due (s.queue.toList ++ ex) s.now t) : PG none ex s := by
  refine { h with due := ?_ }
  intro u x hu hs hr _
  by_cases hut : u = t
  · subst hut; exact hd
  · exact h.due u x hu hs hr (by intro he; cases he; exact hut rfl)

theorem PG.unskip_ne {t : TaskId} {ex : List SEvent} {s : SimS} (h : PG (some t) ex s)
    (hd : ∀ x, taskAt s.graphs t = some x → x.state = .running → x.remaining ≠ some 0) : PG none ex s := by
  refine { h with due := ?_ }
  intro u x hu hs hr _
  by_cases hut : u = t
  · subst hut; exact absurd hr (hd x hu hs)
  · exact h.due u x hu hs hr (by intro he; cases he; exact hut rfl)

theorem PG.toSkip {t : TaskId} {ex : List SEvent} {s : SimS} (h : PG none ex s) : PG (some t) ex s :=
  { h with due := fun u x hu hs hr _ => h.due u x hu hs hr (by simp) }

end ErdosVerif.Model.Sim
