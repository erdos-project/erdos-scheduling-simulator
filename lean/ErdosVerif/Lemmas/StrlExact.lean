/-
C20, exactness: every placement read back is exactly one Choose leaf.
-/
import ErdosVerif.Lemmas.StrlCap
namespace ErdosVerif.Strl

theorem choose_matches {ctx : Ctx} {σ : Assign} {path : Path} {name strategy : String}
    {parts : List Nat} {n start dur : Nat} {u : Int}
    (hv : ∀ v ∈ (compileChoose ctx path name strategy parts n start dur u).vars, Var.holds σ v = true)
    (hc : ∀ c ∈ (compileChoose ctx path name strategy parts n start dur u).cons, Constr.holds σ c = true) :
    ∀ pl ∈ (populateNode ctx σ path (.choose name strategy parts n start dur u)).placements,
      pl.matches ctx ⟨name, parts, n, start, dur⟩ := by
  rw [choose_placements]
  intro pl hpl
  split at hpl
  · rename_i h
    obtain rfl := List.mem_singleton.mp hpl
    obtain ⟨h0, h1, hq, hd⟩ := choose_rows h.1 hv
    -- the indicator is binary and not 0, so the demand row says the quantities sum to `n`
    have hone : σ ⟨path, .placed⟩ = 1 := by
      have : σ ⟨path, .placed⟩ ≠ 0 := fun h0 => h.2 (by simp [h0])
      omega
    have hnow : ctx.now ≤ start := by
      rcases compileChoose_cases ctx path name strategy parts n start dur u with h' | ⟨h', _⟩
      · simp [h', PR.none] at h
      · exact h'
    refine ⟨rfl, rfl, rfl, hnow, ?_, fun a ha => ?_⟩
    · rw [sumBy_filterMap_alloc σ path start (fun _ x => x) (fun _ => rfl), hd hc, hone, Int.mul_one]
    · obtain ⟨q, hq', hqa⟩ := List.mem_filterMap.mp ha
      obtain ⟨hf, hm1, hm2⟩ := schedulable_mem ctx parts q hq'
      dsimp only at hqa
      split at hqa
      · cases hqa
      · rename_i hx
        cases hqa
        have hx' : σ ⟨path, .using q.id⟩ ≠ 0 := by simpa using hx
        have := hq q hq'
        exact ⟨rfl, by dsimp only; omega, hm1, hm2, q, hf, this.2⟩
  · cases hpl

/-- A Choose whose indicator is 1 (it then provides utility: a Choose that gives up has the
constant indicator 0) and whose utility is not 0 reports its placement. -/
theorem choose_placed {ctx : Ctx} {σ : Assign} {path : Path} {name strategy : String}
    {parts : List Nat} {n start dur : Nat} {u : Int} (hu : u ≠ 0)
    (h1 : indVal σ (compileNode ctx path (.choose name strategy parts n start dur u)).pr = 1) :
    ∃ allocs, (populateNode ctx σ path (.choose name strategy parts n start dur u)).placements
      = [⟨name, start, (start : Int) + dur, allocs⟩] := by
  simp only [compileNode] at h1
  rcases compileChoose_cases ctx path name strategy parts n start dur u with h | ⟨_, h⟩
  · simp [h, PR.none, indVal, resolveTV] at h1
  · simp only [h, indVal, resolveTV] at h1
    exact ⟨_, by rw [choose_placements, if_pos ⟨by rw [h], by simpa [h1] using hu⟩]⟩

theorem mem_chooseLeavesL {c : Expr} {l : ChooseLeaf} (hl : l ∈ chooseLeaves c) :
    ∀ {cs : List Expr}, c ∈ cs → l ∈ chooseLeavesL cs
  | e :: es, hc => by
    simp only [chooseLeavesL, List.mem_append]
    rcases List.mem_cons.mp hc with rfl | hc
    · exact Or.inl hl
    · exact Or.inr (mem_chooseLeavesL hl hc)

theorem chooseLeaves_children {e c : Expr} {l : ChooseLeaf} (hc : c ∈ e.children) (hl : l ∈ chooseLeaves c) :
    l ∈ chooseLeaves e := by
  cases e with
  | choose | alloc => cases hc
  | obj _ cs | min _ cs | max _ cs => exact mem_chooseLeavesL hl hc
  | lt _ a b =>
    simp only [chooseLeaves, List.mem_append]
    rcases List.mem_cons.mp hc with rfl | hc
    · exact Or.inl hl
    · exact Or.inr (List.mem_singleton.mp hc ▸ hl)
  | scale _ _ _ a => exact List.mem_singleton.mp hc ▸ hl

theorem children_matches (ctx : Ctx) (σ : Assign) (path : Path) (e : Expr)
    (ih : Children (fun p c => ∀ pl ∈ (populateNode ctx σ p c).placements, ∃ l ∈ chooseLeaves c, pl.matches ctx l)
      path 0 e.children) :
    ∀ pl ∈ (populateList ctx σ path 0 e.children).flatMap (·.placements),
      ∃ l ∈ chooseLeaves e, pl.matches ctx l := by
  intro pl hpl
  obtain ⟨s, hs, hps⟩ := List.mem_flatMap.mp hpl
  refine (children_populateList ctx σ path (R := fun s => ∀ pl ∈ s.placements, ∃ l ∈ chooseLeaves e, pl.matches ctx l)
    _ 0).mp (ih.imp fun p c hc h pl hpl => ?_) s hs pl hps
  obtain ⟨l, hl, hm⟩ := h pl hpl
  exact ⟨l, chooseLeaves_children hc hl, hm⟩

theorem node_matches (ctx : Ctx) (σ : Assign) :
    ∀ (e : Expr) (path : Path),
      (∀ v ∈ (compileNode ctx path e).vars, Var.holds σ v = true) →
      (∀ c ∈ (compileNode ctx path e).cons, Constr.holds σ c = true) →
      ∀ pl ∈ (populateNode ctx σ path e).placements, ∃ c ∈ chooseLeaves e, pl.matches ctx c := by
  intro e path hv hc
  refine Expr.induction (Q := fun p e => ∀ pl ∈ (populateNode ctx σ p e).placements, ∃ c ∈ chooseLeaves e, pl.matches ctx c)
    ((varsHold_hereditary ctx σ).and (consHold_hereditary ctx σ)) ?_ e path ⟨hv, hc⟩
  intro path e ⟨hv, hc⟩ ih pl hpl
  cases e with
  | choose name strategy parts n start dur u =>
    exact ⟨_, List.mem_singleton.mpr rfl, choose_matches hv hc pl hpl⟩
  | _ => exact children_matches ctx σ path _ ih pl ((placements_sublist ctx σ path _ rfl).subset hpl)

end ErdosVerif.Strl
