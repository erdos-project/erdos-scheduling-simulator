/-
Lemmas for the TetriSched-CPLEX batching model (`Model/TetriBatch.lean`):
* `minI` / `maxI` bounds (the batch deadline is below every member's deadline);
* the merge of per-batch answers into per-task answers (`upsert`, `mergeB`): origin of every
  entry, one entry per task, every task answered, a unique placed answer survives;
* what `sat σ (genB I)` says row by row (cells binary, at most one cell per batch, `is_placed`
  is the sum of the cells, at most one placed batch per task, capacity rows); the placement and
  capacity rows have the shape of the plain model (`placeRows_holds`, `resRows_holds`);
* capacity: the load of the decoded plan with every batch counted once (`contrib`, `batchLoad_le`),
  also at the instants inside a slot interval (`loadAt_le`: all starts lie on the grid);
* the members of a batch are tasks of the call that survived the admission control
  (`members_active`, through the batch construction).
-/
import ErdosVerif.Model.TetriBatch
import ErdosVerif.Lemmas.TetriSum
import ErdosVerif.Lemmas.MergeLoop
import ErdosVerif.Lemmas.Nodup
namespace ErdosVerif.TetriBatch
open ErdosVerif.Mip ErdosVerif.Tetri

theorem minI_le_of_mem {l : List Int} {x : Int} (h : x ∈ l) : minI l ≤ x :=
  le_of_min_eqs (fun _ => rfl) (fun _ _ _ => rfl) h

theorem le_maxI_of_mem {l : List Int} {x : Int} (h : x ∈ l) : x ≤ maxI l :=
  le_of_max_eqs (fun _ => rfl) (fun _ _ _ => rfl) h

theorem bDeadline_le (I : BInst) (b : Batch) {t : Nat} (ht : t ∈ b.members) :
    I.bDeadline b ≤ (I.task t).deadline :=
  minI_le_of_mem (List.mem_map.mpr ⟨t, ht, rfl⟩)

theorem le_bRelease (I : BInst) (b : Batch) {t : Nat} (ht : t ∈ b.members) :
    (I.task t).release ≤ I.bRelease b :=
  le_maxI_of_mem (List.mem_map.mpr ⟨t, ht, rfl⟩)

theorem upsert_eq (acc : List BDecision) (d : BDecision) :
    upsert acc d = MergeLoop.upsertBy (·.task) (·.out.isPlaced) acc d := by
  induction acc with
  | nil => rfl
  | cons e es ih => simp only [upsert, MergeLoop.upsertBy, ih]

theorem mergeB_eq (ds : List BDecision) : mergeB ds = MergeLoop.mergeBy (·.task) (·.out.isPlaced) ds := by
  unfold mergeB MergeLoop.mergeBy
  congr; funext acc d; exact upsert_eq acc d

theorem mem_mergeB {ds : List BDecision} {x : BDecision} (h : x ∈ mergeB ds) : x ∈ ds :=
  MergeLoop.mem_mergeBy (mergeB_eq ds ▸ h)

theorem mergeB_nodup (ds : List BDecision) : ((mergeB ds).map (·.task)).Nodup :=
  mergeB_eq ds ▸ MergeLoop.mergeBy_nodup ds

theorem task_mem_mergeB {ds : List BDecision} {d : BDecision} (h : d ∈ ds) :
    d.task ∈ (mergeB ds).map (·.task) :=
  mergeB_eq ds ▸ MergeLoop.mem_keys_mergeBy.mpr (List.mem_map_of_mem h)

theorem mem_mergeB_of_unique {ds : List BDecision} {d : BDecision} (hd : d ∈ ds)
    (hp : d.out.isPlaced = true)
    (hu : ∀ e ∈ ds, e.task = d.task → e.out.isPlaced = true → e = d) : d ∈ mergeB ds :=
  mergeB_eq ds ▸ MergeLoop.mem_mergeBy_of_unique hd hp hu

variable {I : BInst} {σ : BVar → Int}

theorem mem_free {bi : Nat} : bi ∈ I.free ↔ bi < I.nB ∧ I.bRunning (I.batch bi) = false := by
  simp [BInst.free]

theorem mem_runningB {bi : Nat} : bi ∈ I.runningB ↔ bi < I.nB ∧ I.bRunning (I.batch bi) = true := by
  simp [BInst.runningB]

theorem mem_cancelledB {t : Nat} : t ∈ I.cancelled ↔ t < I.nOffered ∧ I.active t = false := by
  simp [BInst.cancelled]

theorem mem_keysB {q : Nat × Nat} : q ∈ I.keys ↔ q.1 < I.nW ∧ q.2 < I.nSlotsV := by
  simp only [BInst.keys, List.mem_flatMap, List.mem_range, List.mem_map]
  constructor
  · rintro ⟨w, hw, k, hk, rfl⟩; exact ⟨hw, hk⟩
  · rintro ⟨hw, hk⟩; exact ⟨q.1, hw, q.2, hk, rfl⟩

/-- The rows of `genB I`, family by family. -/
structure Rows (I : BInst) (σ : BVar → Int) : Prop where
  place : ∀ bi ∈ I.free, ∀ c ∈ I.cPlace bi, c.holds σ
  reward : ∀ bi ∈ I.free, (I.cReward bi).holds σ
  unique : ∀ c ∈ I.cUnique, c.holds σ
  res : ∀ c ∈ I.cRes, c.holds σ
  notPlaced : ∀ c ∈ I.cNotPlaced, c.holds σ

theorem holds_constrs_iff : (∀ c ∈ (genB I).constrs, c.holds σ) ↔ Rows I σ := by
  simp only [genB, BInst.constrs, List.forall_mem_append, List.forall_mem_flatMap, List.forall_mem_singleton]
  exact ⟨fun ⟨⟨⟨h1, h2⟩, h3⟩, h4⟩ => ⟨fun bi hb => (h1 bi hb).1, fun bi hb => (h1 bi hb).2, h2, h3, h4⟩,
    fun r => ⟨⟨⟨fun bi hb => ⟨r.place bi hb, r.reward bi hb⟩, r.unique⟩, r.res⟩, r.notPlaced⟩⟩

theorem rows (h : sat σ (genB I)) : Rows I σ := holds_constrs_iff.mp h.2

theorem cPlace_holds (I : BInst) (σ : BVar → Int) (bi : Nat) :
    (∀ c ∈ I.cPlace bi, c.holds σ) ↔
      if I.bMust (I.batch bi) then (I.sumCells bi).eval σ = 1
      else (I.sumCells bi).eval σ ≤ 1 ∧ σ (.isPlaced bi) = (I.sumCells bi).eval σ :=
  placeRows_holds σ _ _ _ _ _ _

theorem cRes_holds (I : BInst) (σ : BVar → Int) :
    (∀ c ∈ I.cRes, c.holds σ) ↔ ∀ k, k < I.nSlotsR → ∀ w, w < I.nW → ∀ r ∈ (I.worker w).types,
      I.resRow w k r = true → (I.resE w k r).eval σ ≤ (qty (I.worker w).res r : Nat) :=
  resRows_holds σ _ _ (fun w => (I.worker w).types) _ _ _ (fun w r => (qty (I.worker w).res r : Nat))

theorem cellOk_spec {b : Batch} {w k : Nat} (h : I.cellOk b w k = true) :
    compatible (I.worker w) b.strat.toStrat = true ∧ I.bRelease b ≤ I.slot k ∧
    (I.enforceDeadlines = true → I.slot k + (b.strat.runtime : Nat) ≤ I.bDeadline b) :=
  (cellOk_iff ..).mp h

theorem eval_cellE (I : BInst) (σ : BVar → Int) (bi w k : Nat) :
    (I.cellE bi w k).eval σ = if I.cellOk (I.batch bi) w k then σ (.cell bi w k) else 0 := by
  unfold BInst.cellE
  split <;> simp

theorem eval_sumCells (I : BInst) (σ : BVar → Int) (bi : Nat) :
    (I.sumCells bi).eval σ = isum (I.keys.map (fun q => (I.cellE bi q.1 q.2).eval σ)) := by
  simp [BInst.sumCells, LinExpr.eval_sumL, List.map_map, Function.comp_def]

theorem cell_binary (h : sat σ (genB I)) {bi : Nat} (hb : bi ∈ I.free) {q : Nat × Nat} (hq : q ∈ I.keys)
    (hok : I.cellOk (I.batch bi) q.1 q.2 = true) : σ (.cell bi q.1 q.2) = 0 ∨ σ (.cell bi q.1 q.2) = 1 := by
  have hd : bbin (.cell bi q.1 q.2) ∈ (genB I).vars := by
    simp only [genB, BInst.vars, BInst.batchVars, BInst.cellVars, List.mem_append, List.mem_flatMap,
      List.mem_map, List.mem_filter]
    exact Or.inl ⟨bi, hb, Or.inl (Or.inl ⟨q, ⟨hq, hok⟩, rfl⟩)⟩
  exact (h.1 _ hd).1 rfl

theorem cellE_binary (h : sat σ (genB I)) {bi : Nat} (hb : bi ∈ I.free) {q : Nat × Nat} (hq : q ∈ I.keys) :
    (I.cellE bi q.1 q.2).eval σ = 0 ∨ (I.cellE bi q.1 q.2).eval σ = 1 := by
  rw [eval_cellE]
  split
  · next hok => exact cell_binary h hb hq hok
  · exact Or.inl rfl

theorem cellE_nonneg (h : sat σ (genB I)) {bi : Nat} (hb : bi ∈ I.free) :
    ∀ q ∈ I.keys, 0 ≤ (I.cellE bi q.1 q.2).eval σ := by
  intro q hq
  rcases cellE_binary h hb hq with h0 | h1 <;> omega

theorem sumCells_le_one (h : sat σ (genB I)) {bi : Nat} (hb : bi ∈ I.free) : (I.sumCells bi).eval σ ≤ 1 := by
  have := (cPlace_holds I σ bi).mp ((rows h).place bi hb)
  split at this <;> omega

theorem isPlacedE_eq (h : sat σ (genB I)) {bi : Nat} (hb : bi ∈ I.free) :
    (I.isPlacedE bi).eval σ = (I.sumCells bi).eval σ := by
  have hrow := (cPlace_holds I σ bi).mp ((rows h).place bi hb)
  cases hm : I.bMust (I.batch bi) <;> simp only [hm, if_true, if_false, Bool.false_eq_true] at hrow
  · simp [BInst.isPlacedE, (mem_free.mp hb).2, hm, hrow.2]
  · simp [BInst.isPlacedE, hm, hrow]

theorem chosen_eq {bi : Nat} (hb : bi ∈ I.free) :
    I.chosen σ bi = I.keys.find? (fun q => (I.cellE bi q.1 q.2).eval σ == 1) := by
  have hr := (mem_free.mp hb).2
  have : ∀ q : Nat × Nat,
      (I.hasVar bi q.1 q.2 && σ (.cell bi q.1 q.2) == 1) = ((I.cellE bi q.1 q.2).eval σ == 1) := by
    intro q
    rw [eval_cellE, BInst.hasVar, hr]
    cases I.cellOk (I.batch bi) q.1 q.2 <;> rfl
  simp only [BInst.chosen, this]

theorem chosen_spec {bi : Nat} {q : Nat × Nat} (hc : I.chosen σ bi = some q) :
    q ∈ I.keys ∧ I.bRunning (I.batch bi) = false ∧ I.cellOk (I.batch bi) q.1 q.2 = true ∧ σ (.cell bi q.1 q.2) = 1 := by
  have h2 := List.find?_some hc
  simp only [BInst.hasVar, Bool.and_eq_true, Bool.not_eq_true', beq_iff_eq] at h2
  exact ⟨List.mem_of_find?_eq_some hc, h2.1.1, h2.1.2, h2.2⟩

theorem isPlaced_of_chosen (h : sat σ (genB I)) {bi : Nat} (hb : bi ∈ I.free) {q : Nat × Nat}
    (hc : I.chosen σ bi = some q) : (I.isPlacedE bi).eval σ = 1 := by
  obtain ⟨hq, _, hok, hv⟩ := chosen_spec hc
  have hle := sumCells_le_one h hb
  have hge := le_isum_map (cellE_nonneg h hb) hq
  rw [← eval_sumCells, eval_cellE, if_pos hok, hv] at hge
  rw [isPlacedE_eq h hb]
  omega

theorem isPlacedE_nonneg (h : sat σ (genB I)) {bi : Nat} (hb : bi < I.nB) : 0 ≤ (I.isPlacedE bi).eval σ := by
  cases hr : I.bRunning (I.batch bi) with
  | true => simp [BInst.isPlacedE, hr]
  | false =>
    have hf : bi ∈ I.free := mem_free.mpr ⟨hb, hr⟩
    rw [isPlacedE_eq h hf, eval_sumCells]
    exact isum_map_nonneg (cellE_nonneg h hf)

theorem batch_mem {bi : Nat} (hb : bi < I.nB) : I.batch bi ∈ I.batches := getD_mem hb _

theorem mem_batchTasks {t bi : Nat} (hb : bi < I.nB) (ht : t ∈ (I.batch bi).members) : t ∈ I.batchTasks := by
  simp only [BInst.batchTasks, List.mem_eraseDups, List.mem_flatMap]
  exact ⟨I.batch bi, batch_mem hb, ht⟩

theorem mem_batchesOf {t bi : Nat} : bi ∈ I.batchesOf t ↔ bi < I.nB ∧ t ∈ (I.batch bi).members := by
  simp [BInst.batchesOf]

/-- `Σ_{b ∋ t} is_placed_b ≤ 1`: the `not_placed` variable of the task is at most 0. -/
theorem placed_sum_le_one (h : sat σ (genB I)) {t : Nat} (ht : t ∈ I.batchTasks) :
    isum ((I.batchesOf t).map (fun bi => (I.isPlacedE bi).eval σ)) ≤ 1 := by
  have hd : (⟨.notPlaced t, .int, some (-1), some 0⟩ : VarDecl BVar) ∈ (genB I).vars := by
    simp only [genB, BInst.vars, List.mem_append, List.mem_map]
    exact Or.inr ⟨t, ht, rfl⟩
  have hub : σ (.notPlaced t) ≤ 0 := ((h.1 _ hd).2 rfl).2
  have := (rows h).notPlaced _ (List.mem_map.mpr ⟨t, ht, rfl⟩)
  simp only [Constr.holds, Sense.holds, LinExpr.eval_sub, LinExpr.eval_ofVar, LinExpr.eval_sumL,
    List.map_map, Function.comp_def] at this
  omega

theorem placed_batch_unique (h : sat σ (genB I)) {t b1 b2 : Nat} (h1 : b1 < I.nB) (h2 : b2 < I.nB)
    (m1 : t ∈ (I.batch b1).members) (m2 : t ∈ (I.batch b2).members)
    (p1 : (I.isPlacedE b1).eval σ = 1) (p2 : (I.isPlacedE b2).eval σ = 1) : b1 = b2 :=
  eq_of_isum_le_one (f := fun bi => (I.isPlacedE bi).eval σ)
    (fun x hx => isPlacedE_nonneg h (mem_batchesOf.mp hx).1) (placed_sum_le_one h (mem_batchTasks h1 m1))
    (mem_batchesOf.mpr ⟨h1, m1⟩) (mem_batchesOf.mpr ⟨h2, m2⟩) (by omega) (by omega)

/-- Demand of the (non-RUNNING) batch `bi` for resource `r` on worker `w` at slot `k` under the
decoded plan: the requirement of its one `BatchStrategy`, **once**, however many members it has. -/
def BInst.contrib (I : BInst) (σ : BVar → Int) (bi w k : Nat) (r : String) : Nat :=
  match I.chosen σ bi with
  | some q => if q.1 = w ∧ I.covers bi q.2 k = true then I.req bi r else 0
  | none => 0

def BInst.freeLoad (I : BInst) (σ : BVar → Int) (w k : Nat) (r : String) : Nat :=
  nsum (I.free.map (fun bi => I.contrib σ bi w k r))

def BInst.batchLoad (I : BInst) (σ : BVar → Int) (w k : Nat) (r : String) : Nat :=
  I.freeLoad σ w k r + I.runningLoad w k r

/-- The demand expression of a batch evaluates to the demand of its chosen cell: the cells are
binary and at most one of them is 1 (`isum_mul_find`). -/
theorem eval_demandE (h : sat σ (genB I)) {bi : Nat} (hb : bi ∈ I.free) (w k : Nat) (r : String) :
    (I.demandE bi w k r).eval σ = (I.contrib σ bi w k r : Nat) := by
  have e1 : (I.demandE bi w k r).eval σ = isum (I.keys.map (fun q =>
      (if q.1 = w ∧ I.covers bi q.2 k = true then ((I.req bi r : Nat) : Int) else 0) *
        (I.cellE bi q.1 q.2).eval σ)) := by
    simp only [BInst.demandE, LinExpr.eval_sumL, List.map_map, Function.comp_def, LinExpr.eval_smul,
      isum_filter, Bool.and_eq_true, beq_iff_eq]
    exact isum_map_eq (fun q _ => by split <;> simp)
  rw [e1, isum_mul_find (fun q hq => cellE_binary h hb hq) (eval_sumCells I σ bi ▸ sumCells_le_one h hb),
    BInst.contrib, chosen_eq hb]
  cases I.keys.find? (fun q => (I.cellE bi q.1 q.2).eval σ == 1) with
  | none => rfl
  | some q => dsimp only; split <;> rfl

theorem eval_resE (h : sat σ (genB I)) (w k : Nat) (r : String) :
    (I.resE w k r).eval σ = (I.batchLoad σ w k r : Nat) := by
  simp only [BInst.resE, LinExpr.eval_add, LinExpr.eval_ofConst, LinExpr.eval_sumL, List.map_map,
    BInst.batchLoad, BInst.freeLoad, BInst.runningLoad, Int.natCast_add, nsum_cast]
  congr 1
  exact isum_map_eq (fun bi hb => eval_demandE h hb w k r)

theorem chosen_compatible {bi : Nat} {q : Nat × Nat} (hc : I.chosen σ bi = some q) :
    compatible (I.worker q.1) (I.batch bi).strat.toStrat = true :=
  (cellOk_spec (chosen_spec hc).2.2.1).1

theorem contrib_zero_of_qty_zero {bi w k : Nat} {r : String} (hq : qty (I.worker w).res r = 0) :
    I.contrib σ bi w k r = 0 := by
  unfold BInst.contrib
  cases hc : I.chosen σ bi with
  | none => rfl
  | some q =>
    simp only
    split
    · next hcond =>
      have := chosen_compatible hc
      rw [hcond.1] at this
      exact req_zero_of_compatible this hq
    · rfl

/-- A chosen cell that charges the slot is a term of the row. -/
theorem contrib_zero_of_no_term {bi w k : Nat} {r : String} (hb : bi ∈ I.free)
    (hno : I.resHasTerm w k r = false) : I.contrib σ bi w k r = 0 := by
  unfold BInst.contrib
  cases hc : I.chosen σ bi with
  | none => rfl
  | some q =>
    simp only
    split
    · next hcond =>
      obtain ⟨hq, _, hok, _⟩ := chosen_spec hc
      by_cases hreq : I.req bi r = 0
      · exact hreq
      · have : I.resHasTerm w k r = true := by
          simp only [BInst.resHasTerm, Bool.or_eq_true, List.any_eq_true, Bool.and_eq_true, bne_iff_ne, ne_eq,
            beq_iff_eq]
          exact Or.inl ⟨bi, hb, hreq, q, hq, ⟨hcond.1, hcond.2⟩, hok⟩
        simp [hno] at this
    · rfl

theorem wf_running_fit (hwf : I.wf = true) {w k : Nat} {r : String} (hk : k < I.nSlotsR) (hw : w < I.nW)
    (hr : r ∈ (I.worker w).types) : I.runningLoad w k r ≤ qty (I.worker w).res r := by
  simp only [BInst.wf, BInst.wfRunningFit, Bool.and_eq_true, List.all_eq_true, List.mem_range,
    decide_eq_true_eq] at hwf
  exact hwf.2 k hk w hw r hr

/-- **Capacity with every batch charged once**: at every slot that carries capacity rows the
decoded plan (one requirement per placed `BatchTask`) plus the RUNNING batches fits the worker. -/
theorem batchLoad_le (h : sat σ (genB I)) (hwf : I.wf = true) {w k : Nat} {r : String}
    (hk : k < I.nSlotsR) (hw : w < I.nW) (hr : r ∈ (I.worker w).types) :
    I.batchLoad σ w k r ≤ qty (I.worker w).res r := by
  by_cases hrow : I.resRow w k r = true
  · have := (cRes_holds I σ).mp (rows h).res k hk w hw r hr hrow
    rw [eval_resE h] at this
    exact Int.ofNat_le.mp this
  · -- no row: no batch charges the slot, or the worker has none of the resource
    simp only [BInst.resRow, Bool.and_eq_true, bne_iff_ne, ne_eq, not_and, Bool.not_eq_true] at hrow
    have hfit := wf_running_fit hwf hk hw hr
    have hfree : I.freeLoad σ w k r = 0 :=
      nsum_eq_zero (fun a ha => by
        obtain ⟨bi, hb, rfl⟩ := List.mem_map.mp ha
        by_cases hq : qty (I.worker w).res r = 0
        · exact contrib_zero_of_qty_zero hq
        · exact contrib_zero_of_no_term hb (hrow hq))
    simp only [BInst.batchLoad, hfree]
    omega

theorem mem_decodeBatch {bi : Nat} {d : BDecision} (hd : d ∈ I.decodeBatch σ bi) :
    d.task ∈ (I.batch bi).members ∧
    (d.out = .unplaced ∨ ∃ q, I.chosen σ bi = some q ∧ d.out = .placed q.1 bi (I.slot q.2)) := by
  unfold BInst.decodeBatch at hd
  cases hc : I.chosen σ bi with
  | none =>
    simp only [hc, List.mem_map] at hd
    obtain ⟨t, ht, rfl⟩ := hd
    exact ⟨ht, Or.inl rfl⟩
  | some q =>
    simp only [hc, List.mem_map] at hd
    obtain ⟨t, ht, rfl⟩ := hd
    exact ⟨ht, Or.inr ⟨q, rfl, rfl⟩⟩

theorem decodeBatch_answers {bi t : Nat} (ht : t ∈ (I.batch bi).members) :
    ∃ d ∈ I.decodeBatch σ bi, d.task = t := by
  unfold BInst.decodeBatch
  cases I.chosen σ bi with
  | none => exact ⟨⟨t, .unplaced⟩, List.mem_map.mpr ⟨t, ht, rfl⟩, rfl⟩
  | some q => exact ⟨⟨t, .placed q.1 bi (I.slot q.2)⟩, List.mem_map.mpr ⟨t, ht, rfl⟩, rfl⟩

theorem mem_decodeB {d : BDecision} (hd : d ∈ decodeB I σ) :
    (d.out = .cancel ∧ d.task ∈ I.cancelled) ∨ (∃ bi ∈ I.free, d ∈ I.decodeBatch σ bi) := by
  simp only [decodeB, List.mem_append, List.mem_map] at hd
  rcases hd with ⟨t, ht, rfl⟩ | hd
  · exact Or.inl ⟨rfl, ht⟩
  · exact Or.inr (List.mem_flatMap.mp (mem_mergeB hd))

theorem placed_origin {t w b : Nat} {time : Int} (hd : (⟨t, .placed w b time⟩ : BDecision) ∈ decodeB I σ) :
    b ∈ I.free ∧ t ∈ (I.batch b).members ∧ ∃ k, I.chosen σ b = some (w, k) ∧ time = I.slot k := by
  rcases mem_decodeB hd with ⟨hc, _⟩ | ⟨bi, hb, hdb⟩
  · simp at hc
  · obtain ⟨hm, hout⟩ := mem_decodeBatch hdb
    rcases hout with hu | ⟨q, hq, hp⟩
    · simp at hu
    · simp only [BOutcome.placed.injEq] at hp
      obtain ⟨rfl, rfl, rfl⟩ := hp
      exact ⟨hb, hm, q.2, hq, rfl⟩

theorem mem_insertBy {key : Nat → Int} {x y : Nat} {l : List Nat} (h : y ∈ insertBy key x l) : y = x ∨ y ∈ l := by
  induction l with
  | nil => exact Or.inl (by simpa [insertBy] using h)
  | cons a as ih =>
    simp only [insertBy] at h
    split at h
    · rcases List.mem_cons.mp h with rfl | h
      · exact Or.inr (by simp)
      · exact (ih h).imp_right (List.mem_cons_of_mem _)
    · exact List.mem_cons.mp h

theorem mem_sortBy {key : Nat → Int} {y : Nat} {l : List Nat} (h : y ∈ sortBy key l) : y ∈ l := by
  induction l with
  | nil => simp [sortBy] at h
  | cons a as ih =>
    rcases mem_insertBy h with rfl | h
    · simp
    · exact List.mem_cons_of_mem _ (ih h)

theorem mem_nameBatches {pn : String} {i : Nat} {bs : List Batch} {b : Batch} (h : b ∈ nameBatches pn i bs) :
    ∃ b' ∈ bs, b.members = b'.members ∧ b.strat = b'.strat := by
  induction bs generalizing i with
  | nil => simp [nameBatches] at h
  | cons a as ih =>
    rcases List.mem_cons.mp h with rfl | h
    · exact ⟨a, by simp, rfl, rfl⟩
    · obtain ⟨b', hb', hm⟩ := ih h
      exact ⟨b', List.mem_cons_of_mem _ hb', hm⟩

theorem mem_windowBatches {p : Nat} {U : List Nat} {b : Batch} (h : b ∈ I.windowBatches p U) :
    ∀ t ∈ b.members, t ∈ U := by
  induction U with
  | nil => simp [BInst.windowBatches] at h
  | cons x xs ih =>
    simp only [BInst.windowBatches, List.mem_append] at h
    rcases h with h | h
    · simp only [BInst.headBatches, List.mem_map, List.mem_filter] at h
      obtain ⟨s, _, rfl⟩ := h
      exact fun t ht => List.mem_of_mem_take ht
    · exact fun t ht => List.mem_cons_of_mem _ (ih h t ht)

theorem mem_priorBatches {p : Nat} {L : List Nat} {b : Batch} (h : b ∈ I.priorBatches p L) :
    ∀ t ∈ b.members, t ∈ L := by
  simp only [BInst.priorBatches, List.mem_map] at h
  obtain ⟨g, _, rfl⟩ := h
  exact fun t ht => (List.mem_filter.mp (List.mem_filter.mp ht).1).1

theorem mem_profBatches {p : Nat} {b : Batch} (h : b ∈ I.profBatches p) : ∀ t ∈ b.members, t ∈ I.profTasks p := by
  obtain ⟨b', hb', hm, _⟩ := mem_nameBatches h
  rw [hm]
  rcases List.mem_append.mp hb' with hb' | hb'
  · exact mem_priorBatches hb'
  · exact fun t ht => (List.mem_filter.mp (mem_sortBy (mem_windowBatches hb' t ht))).1

/-- Members of a `BatchTask` are tasks of the call that survived the admission control. -/
theorem members_active {bi : Nat} (hb : bi < I.nB) {t : Nat} (ht : t ∈ (I.batch bi).members) :
    t < I.nT ∧ I.active t = true := by
  obtain ⟨p, _, hp⟩ := List.mem_flatMap.mp (batch_mem hb)
  have := mem_profBatches hp t ht
  simp only [BInst.profTasks, List.mem_filter, Bool.and_eq_true, decide_eq_true_eq] at this
  exact this.2.1

/-- Demand of batch `bi` on worker `w` at the instant `τ` (half-open occupancy
`[start, start + runtime)`), once per batch. -/
def BInst.contribAt (I : BInst) (σ : BVar → Int) (bi w : Nat) (τ : Int) (r : String) : Nat :=
  match I.chosen σ bi with
  | some q => if q.1 = w ∧ I.slot q.2 ≤ τ ∧ τ < I.slot q.2 + ((I.batch bi).strat.runtime : Nat) then I.req bi r else 0
  | none => 0

/-- Demand of a RUNNING batch at the instant `τ`: `[now, now + full runtime)`. -/
def BInst.runDemandAt (I : BInst) (bi w : Nat) (τ : Int) (r : String) : Nat :=
  if I.bPrevW (I.batch bi) = w ∧ I.now ≤ τ ∧ τ < I.now + ((I.batch bi).strat.runtime : Nat) then I.req bi r else 0

/-- Load of the decoded plan and the RUNNING batches at the instant `τ`, a batch counted once. -/
def BInst.loadAt (I : BInst) (σ : BVar → Int) (w : Nat) (τ : Int) (r : String) : Nat :=
  nsum (I.free.map (fun bi => I.contribAt σ bi w τ r)) + nsum (I.runningB.map (fun bi => I.runDemandAt bi w τ r))

/-- A batch started on the grid at slot `k'` that occupies an instant of `[slot k, slot k + disc)`
occupies slot `k`. -/
theorem covers_of_instant {bi k' k : Nat} {τ : Int} (h1 : I.slot k ≤ τ)
    (h2 : τ < I.slot k + (I.disc : Nat)) (h3 : I.slot k' ≤ τ)
    (h4 : τ < I.slot k' + ((I.batch bi).strat.runtime : Nat)) : I.covers bi k' k = true := by
  simp only [BInst.slot] at h1 h2 h3 h4
  have hk : k' ≤ k := by
    apply Nat.le_of_not_lt
    intro hlt
    have : (k + 1) * I.disc ≤ k' * I.disc := Nat.mul_le_mul_right _ hlt
    rw [Nat.add_mul, Nat.one_mul] at this
    omega
  simp only [BInst.covers, Bool.and_eq_true, decide_eq_true_eq]
  exact ⟨hk, by omega⟩

theorem contribAt_le {bi w k : Nat} {τ : Int} {r : String} (h1 : I.slot k ≤ τ)
    (h2 : τ < I.slot k + (I.disc : Nat)) : I.contribAt σ bi w τ r ≤ I.contrib σ bi w k r := by
  unfold BInst.contribAt BInst.contrib
  cases hc : I.chosen σ bi with
  | none => simp
  | some q =>
    simp only
    by_cases hcond : q.1 = w ∧ I.slot q.2 ≤ τ ∧ τ < I.slot q.2 + ((I.batch bi).strat.runtime : Nat)
    · rw [if_pos hcond, if_pos ⟨hcond.1, covers_of_instant h1 h2 hcond.2.1 hcond.2.2⟩]
      exact Nat.le_refl _
    · rw [if_neg hcond]
      exact Nat.zero_le _

theorem runDemandAt_le {bi w k : Nat} {τ : Int} {r : String} (h1 : I.slot k ≤ τ)
    (h2 : τ < I.slot k + (I.disc : Nat)) : I.runDemandAt bi w τ r ≤ I.runDemand bi w k r := by
  unfold BInst.runDemandAt BInst.runDemand
  by_cases hcond : I.bPrevW (I.batch bi) = w ∧ I.now ≤ τ ∧ τ < I.now + ((I.batch bi).strat.runtime : Nat)
  · have h0 : I.slot 0 = I.now := by simp [BInst.slot]
    rw [if_pos hcond, if_pos ⟨hcond.1, covers_of_instant h1 h2 (h0 ▸ hcond.2.1) (h0 ▸ hcond.2.2)⟩]
    exact Nat.le_refl _
  · rw [if_neg hcond]
    exact Nat.zero_le _

/-- The load at an instant of the slot interval `[slot k, slot k + disc)` is bounded by the load
at slot `k` (all starts lie on the grid). -/
theorem loadAt_le {w k : Nat} {τ : Int} {r : String} (h1 : I.slot k ≤ τ)
    (h2 : τ < I.slot k + (I.disc : Nat)) : I.loadAt σ w τ r ≤ I.batchLoad σ w k r := by
  unfold BInst.loadAt BInst.batchLoad BInst.freeLoad BInst.runningLoad
  have a := nsum_map_le I.free (fun bi => I.contribAt σ bi w τ r) (fun bi => I.contrib σ bi w k r)
    (fun bi _ => contribAt_le h1 h2)
  have b := nsum_map_le I.runningB (fun bi => I.runDemandAt bi w τ r) (fun bi => I.runDemand bi w k r)
    (fun bi _ => runDemandAt_le h1 h2)
  omega

/-! ### An example instance (the scenario of the seeded change `BatchTask.deadline = max`):
Tight (deadline 6) and Loose (20) share a batch-2 strategy of 5 µs, Urgent (another profile,
3 µs, deadline 3) competes for the only CPU -/

def exTight : BInst :=
  { now := 0, disc := 1, planAheadOpt := -1
    workers := [⟨"W0", "P0", [("CPU", 1)]⟩]
    profiles := [⟨"PR0", [⟨5, 2, [("CPU", 1)]⟩]⟩, ⟨"PR1", [⟨3, 1, [("CPU", 1)]⟩]⟩]
    prevStrats := []
    tasks := [⟨"Urgent@G0", .released, 0, 3, 1, 1, 0, 0⟩,
              ⟨"Tight@G1", .released, 0, 6, 0, 1, 0, 0⟩,
              ⟨"Loose@G2", .released, 0, 20, 0, 1, 0, 0⟩]
    nOffered := 3
    setOrder := [0, 1, 2]
    enforceDeadlines := true, retract := false }

end ErdosVerif.TetriBatch
