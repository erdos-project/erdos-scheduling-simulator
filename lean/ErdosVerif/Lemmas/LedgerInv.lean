import ErdosVerif.Lemmas.Ledger
/-!
The ledger invariant of `Resources` and its preservation by every operation
(including the operations that raise). Core Lean only.
-/
namespace ErdosVerif.Model

/-- Ledger invariant: availability and totals have the same duplicate-free key
list, every exact key satisfies `available + allocated = total`, and the ledger
only mentions keys of the vector. -/
structure Resources.Inv (r : Resources) : Prop where
  keys_eq : AList.keys r.avail = AList.keys r.total
  nodup : (AList.keys r.total).Nodup
  conserve : ∀ x, getQ r.avail x + allocAt r.allocs x = getQ r.total x
  known : ∀ c l, (c, l) ∈ r.allocs → ∀ p ∈ l, p.1 ∈ AList.keys r.total

namespace Resources

theorem inv_ofVec (v : Vec) (h : (AList.keys v).Nodup) : (ofVec v).Inv :=
  ⟨rfl, h, fun _ => by simp [ofVec], fun c l hm => by simp [ofVec] at hm⟩

theorem inv_deepcopy (r : Resources) (h : r.Inv) : r.deepcopy.Inv := inv_ofVec _ h.nodup

/-- Every operation returns a pair; its invariant lemma speaks of the first component. This reads
it off once the pair is known (after a `match` on the result has been split). -/
theorem Inv.of_fst {x : Resources × Outcome} {r : Resources} {o : Outcome} (e : x = (r, o))
    (h : x.1.Inv) : r.Inv := by
  subst e; exact h

theorem Inv.known_getD {r : Resources} (h : r.Inv) (c : Comp) :
    ∀ p ∈ (AList.get? r.allocs c).getD [], p.1 ∈ AList.keys r.total := by
  intro p hp
  cases hg : AList.get? r.allocs c with
  | none => simp [hg] at hp
  | some l =>
    rw [hg] at hp
    exact h.known c l (AList.mem_of_get?_some _ _ _ hg) p hp

theorem inv_addResource (r : Resources) (k : Res) (q : Nat) (h : r.Inv) : (r.addResource k q).Inv := by
  have hc : ∀ x, getQ (r.addResource k q).avail x + allocAt r.allocs x = getQ (r.addResource k q).total x := by
    intro x
    have := h.conserve x
    simp only [addResource, getQ_set]
    split
    · subst_vars; unfold getQ at this; omega
    · exact this
  by_cases hk : k ∈ AList.keys r.total
  · -- an existing key: the key lists stay as they are
    have hk' : k ∈ AList.keys r.avail := h.keys_eq ▸ hk
    have e1 := AList.keys_set_of_mem r.total k ((AList.get? r.total k).getD 0 + q) hk
    have e2 := AList.keys_set_of_mem r.avail k ((AList.get? r.avail k).getD 0 + q) hk'
    exact ⟨e2.trans (h.keys_eq.trans e1.symm), e1 ▸ h.nodup, hc, fun c l hm p hp => e1 ▸ h.known c l hm p hp⟩
  · -- a new key is appended to both
    have hk' : k ∉ AList.keys r.avail := h.keys_eq ▸ hk
    have e1 := AList.keys_set_of_not_mem r.total k ((AList.get? r.total k).getD 0 + q) hk
    have e2 := AList.keys_set_of_not_mem r.avail k ((AList.get? r.avail k).getD 0 + q) hk'
    refine ⟨e2.trans (h.keys_eq ▸ e1.symm), AList.nodup_set _ _ _ h.nodup, hc, fun c l hm p hp => ?_⟩
    · show p.1 ∈ AList.keys (AList.set r.total k _)
      rw [e1]
      exact List.mem_append_left _ (h.known c l hm p hp)

theorem known_record (r : Resources) (h : r.Inv) (c : Comp) (rec : List (Res × Nat))
    (hrec : ∀ p ∈ rec, p.1 ∈ AList.keys r.total) :
    ∀ c' l, (c', l) ∈ record r.allocs c rec → ∀ p ∈ l, p.1 ∈ AList.keys r.total := by
  intro c' l hm p hp
  rcases AList.mem_set _ _ _ _ hm with e | e
  · obtain ⟨-, rfl⟩ := Prod.mk.inj e
    rcases List.mem_append.mp hp with hp | hp
    · exact h.known_getD c p hp
    · exact hrec p hp
  · exact h.known c' l e p hp

theorem inv_touch (r : Resources) (c : Comp) (h : r.Inv) :
    ({ r with allocs := record r.allocs c [] } : Resources).Inv :=
  ⟨h.keys_eq, h.nodup, fun x => by
      have := h.conserve x
      simp only [allocAt_record, pairsAt_nil]; omega,
    known_record r h c [] (by simp)⟩

theorem inv_allocate (r : Resources) (k : Res) (c : Comp) (q : Nat) (h : r.Inv) :
    (r.allocate k c q).1.Inv := by
  unfold allocate
  split
  · exact h
  · have hnd : (AList.keys r.avail).Nodup := h.keys_eq ▸ h.nodup
    refine ⟨?_, h.nodup, ?_, ?_⟩
    · simp only [scan_keys]; exact h.keys_eq
    · intro x
      have h1 := scan_conserve k r.avail q hnd x
      have h2 := h.conserve x
      simp only [allocAt_record]
      omega
    · exact known_record r h c _ (fun p hp => h.keys_eq ▸ (scan_recorded k r.avail q p hp).1)

theorem inv_allocateEach (r : Resources) (c : Comp) (req : Vec) (h : r.Inv) :
    (r.allocateEach c req).1.Inv := by
  fun_induction allocateEach r c req with
  | case1 => exact h
  | case2 r k q _ r' hres ih => exact ih (.of_fst hres (inv_allocate r k c q h))
  | case3 r k q _ r' e _ hres => exact .of_fst hres (inv_allocate r k c q h)

theorem inv_deallocate (r : Resources) (c : Comp) (h : r.Inv) : (r.deallocate c).1.Inv := by
  unfold deallocate
  split
  · exact h
  · rename_i l hg
    have hmem := AList.mem_of_get?_some _ _ _ hg
    have hl : ∀ p ∈ l, p.1 ∈ AList.keys r.avail := fun p hp => h.keys_eq ▸ h.known c l hmem p hp
    refine ⟨?_, h.nodup, ?_, ?_⟩
    · simp only [giveBack_keys _ _ hl]; exact h.keys_eq
    · intro x
      have h1 := giveBack_getQ r.avail l x
      have h2 := allocAt_erase r.allocs c x
      have h3 := h.conserve x
      simp only [hg, Option.getD_some] at h2
      simp only [h1]; omega
    · intro c' l' hm p hp
      exact h.known c' l' (AList.mem_erase _ _ _ hm) p hp

theorem inv_getAllocated (r : Resources) (c : Comp) (h : r.Inv) : (r.getAllocated c).1.Inv := by
  unfold getAllocated
  split
  · exact h
  · rename_i hg
    have := inv_touch r c h
    simpa [record, hg] using this

/-- The rollback branch of `allocate_multiple`. -/
theorem inv_rollback (r' : Resources) (c : Comp) (n : Nat) (known : Bool) (h : r'.Inv)
    (hk : known = false → n = 0) :
    ({ r' with avail := giveBack r'.avail (((AList.get? r'.allocs c).getD []).drop n),
               allocs := if known then AList.set r'.allocs c (((AList.get? r'.allocs c).getD []).take n)
                         else AList.erase r'.allocs c } : Resources).Inv := by
  have hl := h.known_getD c
  refine ⟨?_, h.nodup, ?_, ?_⟩
  · have : ∀ p ∈ ((AList.get? r'.allocs c).getD []).drop n, p.1 ∈ AList.keys r'.avail :=
      fun p hp => h.keys_eq ▸ hl p (List.mem_of_mem_drop hp)
    simp only [giveBack_keys _ _ this]; exact h.keys_eq
  · intro x
    have h1 := giveBack_getQ r'.avail (((AList.get? r'.allocs c).getD []).drop n) x
    have h3 := h.conserve x
    have h4 := pairsAt_take_drop ((AList.get? r'.allocs c).getD []) n x
    simp only [h1]
    cases known with
    | true =>
      have h2 := allocAt_set r'.allocs c (((AList.get? r'.allocs c).getD []).take n) x
      simp only [if_true]; omega
    | false =>
      have h2 := allocAt_erase r'.allocs c x
      obtain rfl := hk rfl
      simp only [List.drop_zero, List.take_zero, pairsAt_nil] at h4 ⊢
      simp only [Bool.false_eq_true, if_false]; omega
  · intro c' l' hm p hp
    cases known with
    | true =>
      rcases AList.mem_set _ _ _ _ hm with e | e
      · obtain ⟨-, rfl⟩ := Prod.mk.inj e
        exact hl p (List.mem_of_mem_take hp)
      · exact h.known c' l' e p hp
    | false => exact h.known c' l' (AList.mem_erase _ _ _ hm) p hp

theorem inv_allocateMultiple (r : Resources) (req : Vec) (c : Comp) (h : r.Inv) :
    (r.allocateMultiple req c).1.Inv := by
  have h1 := inv_allocateEach _ c req (inv_touch r c h)
  unfold allocateMultiple
  split
  · split
    · rename_i hres; exact .of_fst hres h1
    · rename_i r' e _ hres
      apply inv_rollback r' c _ _ (.of_fst hres h1)
      -- `c` unknown before: its entry held nothing
      intro hk
      cases hg : AList.get? r.allocs c with
      | none => rfl
      | some v => simp [AList.has, hg] at hk
  · exact h

/-- `__copy__`'s replay keeps the invariant of the instance being built. -/
theorem inv_replayPairs (inst : Resources) (c : Comp) (l : List (Res × Nat)) (h : inst.Inv) :
    (replayPairs inst c l).1.Inv := by
  fun_induction replayPairs inst c l with
  | case1 => exact h
  | case2 inst k q _ i' hres ih => exact ih (.of_fst hres (inv_allocate inst k c q h))
  | case3 inst k q _ i' e _ hres => exact .of_fst hres (inv_allocate inst k c q h)

theorem inv_replayAll (inst : Resources) (a : AList Comp (List (Res × Nat))) (h : inst.Inv) :
    (replayAll inst a).1.Inv := by
  fun_induction replayAll inst a with
  | case1 => exact h
  | case2 inst c l _ i' hres ih => exact ih (.of_fst hres (inv_replayPairs _ c l (inv_touch inst c h)))
  | case3 inst c l _ i' e _ hres => exact .of_fst hres (inv_replayPairs _ c l (inv_touch inst c h))

theorem inv_copy (r : Resources) (h : r.Inv) : r.copy.1.Inv :=
  inv_replayAll _ _ (inv_ofVec _ h.nodup)

end Resources
end ErdosVerif.Model
