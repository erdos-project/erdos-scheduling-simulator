import ErdosVerif.Lemmas.SimLedgerRunDefs
import ErdosVerif.Lemmas.LedgerByName
/-!
The batch part of the worker invariant: `Worker.BOK` — the live batches, their members, the
placeholder computation of each batch and its ledger entry — with its effect lemmas (`frame`,
`openB`, `joinB`, `leaveB`), and the whole invariant `Worker.LOK = TOK ∧ BOK` through every worker
operation the simulator issues: `lk_*` for a successful operation, `lka_*` whatever the outcome
(a refused operation leaves the worker as it was).
-/
namespace ErdosVerif.Model

section
variable {κ υ : Type} [DecidableEq κ]
theorem AList.lr_get?_erase_set (l : AList κ υ) (k x : κ) (v : υ) (h : (AList.keys l).Nodup) :
    AList.get? (AList.erase (AList.set l k v) k) x = if k = x then none else AList.get? l x := by
  rw [AList.lr_get?_erase _ _ _ (AList.nodup_set _ _ _ h), AList.get?_set]
  by_cases e : k = x <;> simp [e]
theorem AList.lr_has_of_get? (l : AList κ υ) (k : κ) (v : υ) (h : AList.get? l k = some v) : l.has k = true := by
  simp [AList.has, h]
end

/-- **Live batches (set equation and amounts)**: a resident placed with a batch strategy is a
member of the live batch of that strategy; the members of a live batch are residents placed with
that strategy, without repetition, at least one; every live batch has a placeholder computation
whose ledger entry holds the demand of a strategy with the batch's identity (the one that opened
the batch); every `.batch` ledger entry is the placeholder of a live batch; placeholders are not
shared and are older than the worker's placeholder counter. -/
structure Worker.BOK (w : Worker) : Prop where
  bnodup : (AList.keys w.batches).Nodup
  btnodup : (AList.keys w.batchTask).Nodup
  memBatch : ∀ t s, AList.get? w.placed t = some s → s.isBatch = true →
    ∃ ms, AList.get? w.batches s.sid = some ms ∧ t ∈ ms
  batchMem : ∀ sid ms, AList.get? w.batches sid = some ms → ms.Nodup ∧ ms ≠ [] ∧
    ∀ t ∈ ms, ∃ s, AList.get? w.placed t = some s ∧ s.isBatch = true ∧ s.sid = sid
  batchHeld : ∀ sid ms, AList.get? w.batches sid = some ms → ∃ (g : Nat) (l : List (Res × Nat)) (s0 : Strategy), AList.get? w.batchTask sid = some (.batch g) ∧
    AList.get? w.res.allocs (.batch g) = some l ∧ s0.sid = sid ∧ s0.isBatch = true ∧ Amt l s0.req
  heldBatch : ∀ g l, AList.get? w.res.allocs (.batch g) = some l →
    ∃ sid, AList.get? w.batchTask sid = some (.batch g) ∧ w.batches.has sid = true
  btInj : ∀ sid sid' c, AList.get? w.batchTask sid = some c → AList.get? w.batchTask sid' = some c → sid = sid'
  btFresh : ∀ sid g, AList.get? w.batchTask sid = some (.batch g) → g < w.fresh

namespace Worker.BOK

variable {w w' : Worker}

theorem frame (h : w.BOK) (hb : w'.batches = w.batches) (hbt : w'.batchTask = w.batchTask) (hf : w'.fresh = w.fresh)
    (ha : ∀ g, AList.get? w'.res.allocs (.batch g) = AList.get? w.res.allocs (.batch g))
    (hp : ∀ u su, su.isBatch = true → (AList.get? w'.placed u = some su ↔ AList.get? w.placed u = some su)) :
    w'.BOK := by
  refine ⟨by rw [hb]; exact h.bnodup, by rw [hbt]; exact h.btnodup, ?_, ?_, ?_, ?_, by rw [hbt]; exact h.btInj,
    by rw [hbt, hf]; exact h.btFresh⟩
  · intro t s hs hsb
    rw [hb]; exact h.memBatch t s ((hp t s hsb).mp hs) hsb
  · intro sid ms hms
    rw [hb] at hms
    obtain ⟨h1, h2, h3⟩ := h.batchMem sid ms hms
    refine ⟨h1, h2, ?_⟩
    intro t ht
    obtain ⟨s, hs, hsb, hsid⟩ := h3 t ht
    exact ⟨s, (hp t s hsb).mpr hs, hsb, hsid⟩
  · intro sid ms hms
    rw [hb] at hms
    obtain ⟨g, l, s0, h1, h2, h3⟩ := h.batchHeld sid ms hms
    exact ⟨g, l, s0, by rw [hbt]; exact h1, by rw [ha]; exact h2, h3⟩
  · intro g l hl
    rw [ha] at hl
    rw [hb, hbt]; exact h.heldBatch g l hl

theorem openB {t : Nat} {s : Strategy} {recs : List (Res × Nat)} (h : w.BOK) (hn : t ∉ AList.keys w.placed)
    (hs : s.isBatch = true) (hnone : AList.get? w.batches s.sid = none)
    (ha : w'.res.allocs = AList.set w.res.allocs (.batch w.fresh) ((AList.get? w.res.allocs (.batch w.fresh)).getD [] ++ recs))
    (hamt : Amt recs s.req) (hp : w'.placed = AList.set w.placed t s)
    (hb : w'.batches = AList.set w.batches s.sid [t]) (hbt : w'.batchTask = AList.set w.batchTask s.sid (.batch w.fresh))
    (hf : w'.fresh = w.fresh + 1) : w'.BOK := by
  -- the new placeholder is not in the ledger: every placeholder there is older
  have hfreshNone : AList.get? w.res.allocs (.batch w.fresh) = none := by
    cases hg : AList.get? w.res.allocs (.batch w.fresh) with
    | none => rfl
    | some l =>
      obtain ⟨sid, h1, _⟩ := h.heldBatch _ l hg
      exact absurd (h.btFresh sid _ h1) (Nat.lt_irrefl _)
  rw [hfreshNone] at ha
  have hplaced_ne : ∀ u su, AList.get? w.placed u = some su → u ≠ t :=
    fun u su hu e => hn (e ▸ AList.mem_keys_of_get?_some _ _ _ hu)
  refine ⟨hb ▸ AList.nodup_set _ _ _ h.bnodup, hbt ▸ AList.nodup_set _ _ _ h.btnodup, ?_, ?_, ?_, ?_, ?_, ?_⟩
  · intro u su hu hsb
    have := h.memBatch u su
    grind [AList.get?_set]
  · intro sid ms hms
    have := h.batchMem sid ms
    grind [AList.get?_set]
  · intro sid ms hms
    have := h.batchHeld sid ms
    have := h.btFresh sid
    grind [AList.get?_set]
  · intro g l hl
    by_cases e : w.fresh = g
    · exact ⟨s.sid, by grind [AList.get?_set], by grind [AList.has_set]⟩
    · obtain ⟨sid, h1, h2⟩ := h.heldBatch g l (by grind [AList.get?_set])
      exact ⟨sid, by grind [AList.get?_set, AList.has], by grind [AList.has_set]⟩
  · intro sid sid' c h1 h2
    have := h.btInj sid sid' c
    have := h.btFresh sid
    have := h.btFresh sid'
    grind [AList.get?_set]
  · intro sid g hg
    have := h.btFresh sid g
    grind [AList.get?_set]

theorem joinB {t : Nat} {s : Strategy} {ms : List Nat} (h : w.BOK) (hn : t ∉ AList.keys w.placed)
    (hs : s.isBatch = true) (hms : AList.get? w.batches s.sid = some ms)
    (ha : w'.res.allocs = w.res.allocs) (hp : w'.placed = AList.set w.placed t s)
    (hb : w'.batches = AList.set w.batches s.sid (if ms.contains t then ms else ms ++ [t]))
    (hbt : w'.batchTask = w.batchTask) (hf : w'.fresh = w.fresh) : w'.BOK := by
  obtain ⟨mnd, mne, mmem⟩ := h.batchMem s.sid ms hms
  have hplaced_ne : ∀ u su, AList.get? w.placed u = some su → u ≠ t :=
    fun u su hu e => hn (e ▸ AList.mem_keys_of_get?_some _ _ _ hu)
  have htms : t ∉ ms := fun ht => by
    obtain ⟨s1, hs1, _⟩ := mmem t ht
    exact hplaced_ne t s1 hs1 rfl
  rw [if_neg (by simpa using htms)] at hb
  refine ⟨hb ▸ AList.nodup_set _ _ _ h.bnodup, hbt ▸ h.btnodup, ?_, ?_, ?_, ?_, hbt ▸ h.btInj,
    by rw [hbt, hf]; exact h.btFresh⟩
  · intro u su hu hsb
    have := h.memBatch u su
    grind [AList.get?_set]
  · intro sid ms1 hms1
    have := h.batchMem sid ms1
    grind [AList.get?_set, List.nodup_append]
  · intro sid ms1 hms1
    have := h.batchHeld sid
    grind [AList.get?_set]
  · intro g l hl
    obtain ⟨sid, h1, h2⟩ := h.heldBatch g l (ha ▸ hl)
    exact ⟨sid, hbt ▸ h1, by grind [AList.has_set]⟩

/-- A member leaves its batch; when it was the last one, the batch, its placeholder and the
placeholder's ledger entry go. -/
theorem leaveB {t : Nat} {s : Strategy} {ms : List Nat} (h : w.BOK) (hg : AList.get? w.placed t = some s)
    (_hs : s.isBatch = true) (hms : AList.get? w.batches s.sid = some ms)
    (hp : w'.placed = AList.erase w.placed t) (hpn : (AList.keys w.placed).Nodup) (hf : w'.fresh = w.fresh)
    (hcase : (ms.erase t ≠ [] ∧ w'.batches = AList.set w.batches s.sid (ms.erase t) ∧ w'.batchTask = w.batchTask ∧
                w'.res.allocs = w.res.allocs) ∨
             (ms.erase t = [] ∧ w'.batches = AList.erase (AList.set w.batches s.sid (ms.erase t)) s.sid ∧
                w'.batchTask = AList.erase w.batchTask s.sid ∧
                ∃ g, AList.get? w.batchTask s.sid = some (.batch g) ∧
                  w'.res.allocs = AList.erase w.res.allocs (.batch g))) (hand : (AList.keys w.res.allocs).Nodup) :
    w'.BOK := by
  obtain ⟨mnd, mne, mmem⟩ := h.batchMem s.sid ms hms
  have hnt : ∀ u, AList.get? w'.placed u = if t = u then none else AList.get? w.placed u :=
    fun u => hp ▸ AList.lr_get?_erase _ _ _ hpn
  rcases hcase with ⟨hne, hb, hbt, ha⟩ | ⟨hlast, hb, hbt, g, hbg, ha⟩
  · refine ⟨hb ▸ AList.nodup_set _ _ _ h.bnodup, hbt ▸ h.btnodup, ?_, ?_, ?_, ?_, hbt ▸ h.btInj,
      by rw [hbt, hf]; exact h.btFresh⟩
    · intro u su hu hsb
      have := h.memBatch u su
      grind [AList.get?_set]
    · intro sid ms1 hms1
      have := h.batchMem sid ms1
      grind [AList.get?_set, List.Nodup.erase, List.Nodup.mem_erase_iff]
    · intro sid ms1 hms1
      have := h.batchHeld sid
      grind [AList.get?_set]
    · intro g l hl
      obtain ⟨sid, h1, h2⟩ := h.heldBatch g l (ha ▸ hl)
      exact ⟨sid, hbt ▸ h1, by grind [AList.has_set]⟩
  · have hbget : ∀ x, AList.get? w'.batches x = if s.sid = x then none else AList.get? w.batches x :=
      fun x => hb ▸ AList.lr_get?_erase_set _ _ _ _ h.bnodup
    have hbtget : ∀ x, AList.get? w'.batchTask x = if s.sid = x then none else AList.get? w.batchTask x :=
      fun x => hbt ▸ AList.lr_get?_erase _ _ _ h.btnodup
    have haget : ∀ c, AList.get? w'.res.allocs c = if Comp.batch g = c then none else AList.get? w.res.allocs c :=
      fun c => ha ▸ AList.lr_get?_erase _ _ _ hand
    have honly : ∀ u ∈ ms, u = t := fun u hu => by
      by_cases e : u = t
      · exact e
      · exact absurd ((List.mem_erase_of_ne e).mpr hu) (by rw [hlast]; exact List.not_mem_nil)
    refine ⟨hb ▸ AList.lr_nodup_erase _ _ (AList.nodup_set _ _ _ h.bnodup),
      hbt ▸ AList.lr_nodup_erase _ _ h.btnodup, ?_, ?_, ?_, ?_, ?_, ?_⟩
    · intro u su hu hsb
      have := h.memBatch u su
      grind
    · intro sid ms1 hms1
      have := h.batchMem sid ms1
      grind
    · intro sid ms1 hms1
      have := h.batchHeld sid ms1
      have := h.btInj s.sid sid
      grind
    · intro g1 l hl
      have := h.heldBatch g1 l
      grind [AList.has]
    · intro sid sid' c h1 h2
      have := h.btInj sid sid' c
      grind
    · intro sid g1 hg1
      have := h.btFresh sid g1
      grind

end Worker.BOK

/-- Setting / erasing a resident of one kind (batch or not) leaves the residents of the other kind as they are. -/
theorem lr_placed_set_iff (pl : AList Nat Strategy) (t : Nat) (s : Strategy) (b : Bool) (hn : t ∉ AList.keys pl)
    (hs : s.isBatch = !b) :
    ∀ u su, su.isBatch = b → (AList.get? (AList.set pl t s) u = some su ↔ AList.get? pl u = some su) := by
  intro u su hsb
  have := AList.mem_keys_of_get?_some pl t su
  grind [AList.get?_set]

theorem lr_placed_erase_iff (pl : AList Nat Strategy) (t : Nat) (s : Strategy) (b : Bool) (hnd : (AList.keys pl).Nodup)
    (hg : AList.get? pl t = some s) (hs : s.isBatch = !b) :
    ∀ u su, su.isBatch = b → (AList.get? (AList.erase pl t) u = some su ↔ AList.get? pl u = some su) := by
  intro u su hsb
  grind [AList.lr_get?_erase]

theorem lr_batch_same {a a' : AList Comp (List (Res × Nat))} {c : Comp} (hc : ∀ g, c ≠ .batch g)
    (h : (∃ l, a' = AList.set a c l) ∨ a' = AList.erase a c) (g : Nat) :
    AList.get? a' (.batch g) = AList.get? a (.batch g) := by
  rcases h with ⟨l, h⟩ | h <;> subst h
  · rw [AList.get?_set, if_neg (hc g)]
  · exact AList.get?_erase_ne _ _ _ (hc g)

namespace Worker

def LOK (w : Worker) : Prop := w.TOK ∧ w.BOK

theorem LOK.of_empty {w : Worker} (hinv : w.res.Inv) (ha : w.res.allocs = []) (hp : w.placed = [])
    (hbt : w.batchTask = []) (hb : w.batches = []) : w.LOK := by
  refine ⟨⟨hinv, ?_, ?_, ?_, ?_, ?_, ?_⟩, ⟨?_, ?_, ?_, ?_, ?_, ?_, ?_, ?_⟩⟩ <;>
    simp [ha, hp, hbt, hb, AList.get?]

theorem LOK.ofVec (v : Vec) (h : (AList.keys v).Nodup) : (Worker.ofVec v).LOK :=
  LOK.of_empty (Resources.inv_ofVec v h) rfl rfl rfl rfl

theorem lk_placeTask (w : Worker) (t : Nat) (s : Strategy) (h : w.LOK) (hn : t ∉ AList.keys w.placed)
    (hok : (w.placeTask t s).2 = .ok) : (w.placeTask t s).1.LOK := by
  have hinv := Worker.inv_placeTask w t s h.1.rinv
  rcases placeTask_cases w t s with ⟨_, hne⟩ | ⟨_, _, _, _, e⟩ | ⟨hb, r, hres, e⟩ | ⟨hb, hnone, r, hres, e⟩ | ⟨hb, ms, hms, e⟩
  · exact absurd hok hne
  · rw [e] at hok; cases hok
  all_goals rw [e] at hinv ⊢
  · obtain ⟨recs, ha, hamt⟩ := Resources.lr_allocateMultiple_ok h.1.rinv hres
    exact ⟨h.1.placeNB hn hb hinv ha hamt rfl rfl rfl rfl,
      h.2.frame rfl rfl rfl (lr_batch_same (by simp) (.inl ⟨_, ha⟩)) (lr_placed_set_iff _ _ _ true hn hb)⟩
  · obtain ⟨recs, ha, hamt⟩ := Resources.lr_allocateMultiple_ok h.1.rinv hres
    exact ⟨h.1.placeB hn hb hinv (Or.inr ⟨_, _, ha⟩) rfl (Or.inr ⟨_, _, rfl⟩) rfl rfl,
      h.2.openB hn hb hnone ha hamt rfl rfl rfl rfl⟩
  · exact ⟨h.1.placeB hn hb hinv (Or.inl rfl) rfl (Or.inl rfl) rfl rfl, h.2.joinB hn hb hms rfl rfl rfl rfl rfl⟩

theorem lk_removeTask (w : Worker) (t : Nat) (h : w.LOK) (hok : (w.removeTask t).2 = .ok) : (w.removeTask t).1.LOK := by
  have hinv := Worker.inv_removeTask w t h.1.rinv
  rcases removeTask_cases w t with
    ⟨e, hne⟩ | ⟨s, hs, ⟨hb, r, hd, e⟩ | ⟨hb, r, err, hd, e⟩ | ⟨hb, ms, hms, hc, ⟨hne', e⟩ | ⟨hlast, bt, r, hbt, hd, e⟩ | ⟨hlast, hbt, e⟩ | ⟨hlast, bt, r, err, hbt, hd, e⟩⟩⟩
  · exact absurd hok hne
  all_goals rw [e] at hinv hok ⊢
  · have ha := Resources.lr_deallocate_ok hd
    exact ⟨h.1.remove hs hinv (Or.inl ⟨hb, ha⟩) rfl (Or.inl rfl) rfl rfl,
      h.2.frame rfl rfl rfl (lr_batch_same (by simp) (.inr ha)) (lr_placed_erase_iff _ _ _ true h.1.pnodup hs hb)⟩
  · cases hok
  · exact ⟨h.1.remove hs hinv (Or.inr ⟨hb, Or.inl rfl⟩) rfl (Or.inl rfl) rfl rfl,
      h.2.leaveB hs hb hms rfl h.1.pnodup rfl (Or.inl ⟨hne', rfl, rfl, rfl⟩) h.1.anodup⟩
  · obtain ⟨g, l, s0, hbg, _⟩ := h.2.batchHeld s.sid ms hms
    obtain rfl : bt = .batch g := Option.some.inj (hbt.symm.trans hbg)
    have ha := Resources.lr_deallocate_ok hd
    exact ⟨h.1.remove hs hinv (Or.inr ⟨hb, Or.inr ⟨g, ha⟩⟩) rfl (Or.inr ⟨_, rfl⟩) rfl rfl,
      h.2.leaveB hs hb hms rfl h.1.pnodup rfl (Or.inr ⟨hlast, rfl, rfl, g, hbg, ha⟩) h.1.anodup⟩
  · cases hok
  · cases hok

theorem lk_loadProfile (w : Worker) (p : Nat) (s : Strategy) (h : w.LOK) (hok : (w.loadProfile p s).2 = .ok) :
    (w.loadProfile p s).1.LOK := by
  have hinv := Worker.inv_loadProfile w p s h.1.rinv
  revert hok hinv
  fun_cases loadProfile w p s
  case case1 r hres =>
    intro _ hinv
    obtain ⟨recs, ha, _⟩ := Resources.lr_allocateMultiple_ok h.1.rinv hres
    exact ⟨h.1.load hinv ha rfl rfl rfl rfl,
      h.2.frame rfl rfl rfl (lr_batch_same (by simp) (.inl ⟨_, ha⟩)) (fun _ _ _ => Iff.rfl)⟩
  all_goals (intro hok; simp_all)

theorem lk_evictProfile (w : Worker) (p : Nat) (h : w.LOK) (hok : (w.evictProfile p).2 = .ok) :
    (w.evictProfile p).1.LOK := by
  have hinv := Worker.inv_evictProfile w p h.1.rinv
  revert hok hinv
  fun_cases evictProfile w p
  case case2 _ r hd _ =>
    intro _ hinv
    have ha := Resources.lr_deallocate_ok hd
    exact ⟨h.1.evict hinv ha rfl rfl (Or.inr rfl) (Or.inl rfl),
      h.2.frame rfl rfl rfl (lr_batch_same (by simp) (.inr ha)) (fun _ _ _ => Iff.rfl)⟩
  case case3 _ r hd _ =>
    intro _ hinv
    have ha := Resources.lr_deallocate_ok hd
    exact ⟨h.1.evict hinv ha rfl rfl (Or.inl rfl) (Or.inr rfl),
      h.2.frame rfl rfl rfl (lr_batch_same (by simp) (.inr ha)) (fun _ _ _ => Iff.rfl)⟩
  all_goals (intro hok; simp_all)

theorem lk_stepProfiles (w : Worker) (dt : Int) (h : w.LOK) : (w.stepProfiles dt).LOK :=
  ⟨lr_stepProfiles w dt h.1, h.2.frame (w' := w.stepProfiles dt) rfl rfl rfl (fun _ => rfl) (fun _ _ _ => Iff.rfl)⟩

/-- `Worker.get_allocated_resources` is a read that may insert an empty entry; under the invariant the
entry it reads exists. -/
theorem lk_getAllocated (w : Worker) (t : Nat) (h : w.LOK) : (w.getAllocated t).1.LOK := by
  have key : ∀ c l, AList.get? w.res.allocs c = some l → w.res.getAllocated c = (w.res, l) := by
    intro c l hl
    unfold Resources.getAllocated
    rw [hl]
  unfold getAllocated
  split
  · exact h
  · rename_i s hs
    split
    · rename_i hb
      obtain ⟨ms, hms, _⟩ := h.2.memBatch t s hs hb
      obtain ⟨g, l, s0, hbg, hl, _⟩ := h.2.batchHeld s.sid ms hms
      rw [hbg]
      simp only []
      rw [key _ _ hl]
      exact h
    · rename_i hb
      obtain ⟨l, hl, _⟩ := h.1.taskHeld t s hs (by simpa using hb)
      rw [key _ _ hl]
      exact h

/-- `Worker.remove_task` of a resident task cannot raise: the ledger entry of the task / of its
batch's placeholder exists, the batch maps know the task. -/
theorem removeTask_ok_of_LOK (w : Worker) (t : Nat) (s : Strategy) (h : w.LOK) (hs : AList.get? w.placed t = some s) :
    (w.removeTask t).2 = .ok := by
  unfold removeTask
  rw [hs]
  simp only []
  split
  · rename_i hb
    obtain ⟨ms, hms, hmem⟩ := h.2.memBatch t s hs hb
    obtain ⟨g, l, s0, hbg, hl, _⟩ := h.2.batchHeld s.sid ms hms
    rw [hms]
    simp only []
    have hc : ms.contains t = true := by simpa using hmem
    simp only [hc, Bool.not_true, Bool.false_eq_true, if_false]
    split
    · rw [hbg]
      simp only []
      simp only [Resources.deallocate, hl]
    · rfl
  · rename_i hb
    obtain ⟨l, hl, _⟩ := h.1.taskHeld t s hs (by simpa using hb)
    simp only [Resources.deallocate, hl]

/-- **A refused `Worker.remove_task` changes nothing** — for batch members too, under the invariant
(`C04.refusal_noop_remove_partial` covers non-batch tasks without the invariant). -/
theorem removeTask_refused_of_LOK (w : Worker) (t : Nat) (h : w.LOK) (hr : (w.removeTask t).2 ≠ .ok) :
    (w.removeTask t).1 = w := by
  cases hs : AList.get? w.placed t with
  | none => unfold removeTask; rw [hs]
  | some s => exact absurd (removeTask_ok_of_LOK w t s h hs) hr

theorem LOK.of_outcome {w w' : Worker} {o : Outcome} (h : w.LOK) (hok : o = .ok → w'.LOK) (href : o ≠ .ok → w' = w) :
    w'.LOK :=
  if e : o = .ok then hok e else href e ▸ h

theorem lka_placeTask (w : Worker) (t : Nat) (s : Strategy) (h : w.LOK) (hn : t ∉ AList.keys w.placed) :
    (w.placeTask t s).1.LOK :=
  h.of_outcome (lk_placeTask w t s h hn) (placeTask_refused w t s h.1.rinv)
theorem lka_removeTask (w : Worker) (t : Nat) (h : w.LOK) : (w.removeTask t).1.LOK :=
  h.of_outcome (lk_removeTask w t h) (removeTask_refused_of_LOK w t h)
theorem lka_loadProfile (w : Worker) (p : Nat) (s : Strategy) (h : w.LOK) : (w.loadProfile p s).1.LOK :=
  h.of_outcome (lk_loadProfile w p s h) (loadProfile_refused w p s h.1.rinv)
theorem lka_evictProfile (w : Worker) (p : Nat) (h : w.LOK) : (w.evictProfile p).1.LOK :=
  h.of_outcome (lk_evictProfile w p h) (evictProfile_refused w p)

end Worker
end ErdosVerif.Model
