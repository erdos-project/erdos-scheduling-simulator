import ErdosVerif.Lemmas.SimProgressRun
import ErdosVerif.Lemmas.SimLedgerRunFrame
/-!
Progress of the `simulate()` loop: the pool-level map `WorkerPool._placed_tasks`
(which `get_placed_tasks()` reads) only mentions tasks that are resident on the worker it
names (`PFM`), in every state. Together with the residency invariant ("resident ⇒ RUNNING")
this makes every task the loop looks at a RUNNING task.

`PFM` says the same of every pool (`Pool.FwdOK`), and a step of the simulator writes at most one pool
(`PoolsStep` of `SimLedgerRunFrame`): what is shown here is that `place_task` and `remove_task` keep
`Pool.FwdOK` whatever they answer; the other pool operations leave the map and the residents alone
(`PoolOp.same`). So `PFM` is closed under the steps of the handlers and of the loop (`FwdAll.closed`), and
the constructor and one iteration keep it by the walk of `Lemmas/SimWalk.lean`.
-/
set_option mvcgen.warning false

namespace ErdosVerif.Model.Sim

def Pool.FwdOK (p : Pool) : Prop :=
  (AList.keys p.placed).Nodup ∧ ∀ q ∈ p.placed, ∃ ks, p.view[q.2]? = some ks ∧ q.1 ∈ ks

def PFM (s : SimS) : Prop := ∀ p ∈ s.pools.toList, Pool.FwdOK p

theorem Pool.FwdOK.same {p p' : Pool} (h : Pool.FwdOK p) (hv : p'.view = p.view ∧ p'.placed = p.placed) : Pool.FwdOK p' := by
  unfold Pool.FwdOK; rw [hv.1, hv.2]; exact h

theorem nodup_addKey (ks : List Nat) (k : Nat) (h : ks.Nodup) : (addKey ks k).Nodup := by
  unfold addKey
  split
  · exact h
  · rename_i hk
    exact nodup_concat h hk

theorem mem_addKey (ks : List Nat) (k x : Nat) (h : x ∈ ks) : x ∈ addKey ks k := by
  unfold addKey; split
  · exact h
  · exact List.mem_append_left _ h

theorem self_mem_addKey (ks : List Nat) (k : Nat) : k ∈ addKey ks k := by
  unfold addKey; split
  · assumption
  · simp

theorem Pool.fwd_placeTask (p : Pool) (t : Nat) (strats : List Strategy) (s? : Option Strategy) (wid? : Option Nat)
    (h : Pool.FwdOK p) : Pool.FwdOK (p.placeTask t strats s? wid?).1 := by
  rcases Pool.placeTask_view p t strats s? wid? with ⟨_, i, ks, hvi, hview, hplaced⟩ | ⟨_, hv⟩
  · unfold Pool.FwdOK
    rw [hview, hplaced]
    refine ⟨by rw [AList.keys_set]; exact nodup_addKey _ _ h.1, ?_⟩
    intro q hq
    have hi : i < p.view.length := (List.getElem?_eq_some_iff.mp hvi).1
    rcases AList.mem_set _ _ _ _ hq with h1 | h1
    · subst h1
      exact ⟨addKey ks t, by simp [hi], self_mem_addKey _ _⟩
    · obtain ⟨ks', hk', hm⟩ := h.2 q h1
      by_cases hqi : q.2 = i
      · rw [hqi] at hk' ⊢
        rw [hvi] at hk'; cases hk'
        exact ⟨addKey ks t, by simp [hi], mem_addKey _ _ _ hm⟩
      · refine ⟨ks', ?_, hm⟩
        rw [List.getElem?_set_ne (fun e => hqi e.symm)]; exact hk'
  · exact h.same hv

theorem alist_erase_key_ne {υ : Type} (l : AList Nat υ) (k : Nat) (q : Nat × υ) (hn : (AList.keys l).Nodup)
    (h : q ∈ AList.erase l k) : q.1 ≠ k := by
  induction l with
  | nil => simp [AList.erase] at h
  | cons a t ih =>
    obtain ⟨a1, a2⟩ := a
    simp only [AList.keys_cons, List.nodup_cons] at hn
    simp only [AList.erase] at h
    by_cases hak : a1 = k
    · rw [if_pos hak] at h
      intro he
      apply hn.1
      rw [hak, ← he]
      exact List.mem_map.mpr ⟨q, h, rfl⟩
    · rw [if_neg hak] at h
      rcases List.mem_cons.mp h with h1 | h1
      · rw [h1]; exact hak
      · exact ih hn.2 h1

theorem Pool.fwd_removeTask (p : Pool) (t : Nat) (h : Pool.FwdOK p) : Pool.FwdOK (p.removeTask t).1 := by
  rcases Pool.removeTask_view p t with ⟨_, i, ks, _, hvi, _, hview, hplaced⟩ | ⟨_, hv⟩
  · unfold Pool.FwdOK
    rw [hview, hplaced]
    refine ⟨by rw [AList.keys_erase]; exact h.1.erase _, ?_⟩
    intro q hq
    have hi : i < p.view.length := (List.getElem?_eq_some_iff.mp hvi).1
    have hne := alist_erase_key_ne _ _ _ h.1 hq
    obtain ⟨ks', hk', hm⟩ := h.2 q (AList.mem_erase _ _ _ hq)
    by_cases hqi : q.2 = i
    · rw [hqi] at hk' ⊢
      rw [hvi] at hk'; cases hk'
      exact ⟨ks.erase t, by simp [hi], (List.mem_erase_of_ne hne).mpr hm⟩
    · refine ⟨ks', ?_, hm⟩
      rw [List.getElem?_set_ne (fun e => hqi e.symm)]; exact hk'
  · exact h.same hv

theorem PFM.congr (s s' : SimS) (h : PFM s) (hp : s'.pools = s.pools) : PFM s' := by
  unfold PFM; rw [hp]; exact h

/-- `PFM` as a property of the pool array. -/
abbrev FwdAll (ps : Array Pool) : Prop := ∀ p ∈ ps.toList, Pool.FwdOK p

abbrev KeepsF {α} (x : SimM α) : Prop := PF FwdAll x

theorem FwdAll.step {s : SimS} {ps' : Array Pool} (h : FwdAll s.pools) (st : PoolsStep s ps') : FwdAll ps' := by
  cases st with
  | same => exact h
  | op _ _ _ hp o => exact forall_mem_set h hp (·.same o.same)
  | place _ _ _ _ _ _ _ hP => exact forall_mem_set h hP.hp (Pool.fwd_placeTask _ _ _ _ _)
  | remove _ _ _ hp => exact forall_mem_set h hp (Pool.fwd_removeTask _ _)

theorem FwdAll.closed : ClosedTick (fun _ s => FwdAll s.pools) (fun s => FwdAll s.pools) where
  weak h := h
  act a h := h.step a.pools
  abort a h := h.step a.pools
  tick a h := a.pools ▸ h

theorem init_f : KeepsF init := init_w FwdAll.closed.toClosed

theorem iter_f : KeepsF iter := by
  have h := iter_w FwdAll.closed
  mvcgen [h]
  exact fun _ h _ => h

end ErdosVerif.Model.Sim
