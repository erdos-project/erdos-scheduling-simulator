import ErdosVerif.Lemmas.SimStates
import ErdosVerif.Lemmas.SimWalk
/-!
Census against the task states, over every run: the invariant `Tally` over simulator states,
what the writes of the handlers do to it, that it is closed under the steps of the handlers and
of the loop (`TallyI.closed`), and from that `simulate_tally`.

`Tally s`:
* `finishedTasks` = number of tasks of the workload that are done (COMPLETED / EVICTED):
  every finished task is counted once, nothing else is counted;
* number of `.cancel` history entries = number of CANCELLED tasks;
* (auxiliary) every task graph satisfies `GInv`, the loader's graphs and the job templates
  are pristine, and there is no task graph before the loader handed the workload over.

`TallyP k s` is the tally with `k` `.cancel` entries still owed: the result of a cancellation walk
(`TaskGraph.cancel`, `notify_task_completion`) is written back at once, the entries of the tasks
it reports are written one by one by the loop that follows. Where a handler is, `k` is the number
of tasks its ghost lists as owed their bookkeeping (`TallyI`).

`TallyW` is what an aborted run leaves: the same, except that CANCELLED tasks may outnumber
the `.cancel` entries (a `TaskGraph.cancel` that raised half way, or an exception between
the cancellation and the end of the bookkeeping loop that follows it).
-/
open Std.Do
set_option mvcgen.warning false

namespace ErdosVerif.Model.Sim

def isCancelLog : LogE → Bool
  | .cancel _ _ => true
  | _ => false

def doneTotal (s : SimS) : Nat := totalCnt isDone s.graphs
def cancTotal (s : SimS) : Nat := totalCnt isCanc s.graphs
def cancelLogN (s : SimS) : Nat := s.log.toList.countP isCancelLog

structure TallyP (k : Nat) (s : SimS) : Prop where
  ginv : ∀ g ∈ s.graphs.toList, g.GInv
  fresh : ∀ g ∈ s.allGraphs.toList, g.Fresh
  templ : ∀ j ∈ s.jobs.toList, j.template.Fresh
  empty : s.loaderReleased = false → s.graphs = #[] ∧ s.metas = #[]
  done : s.finishedTasks = doneTotal s
  canc : cancelLogN s + k = cancTotal s

abbrev Tally (s : SimS) : Prop := TallyP 0 s

structure TallyW (s : SimS) : Prop where
  ginv : ∀ g ∈ s.graphs.toList, g.GInv
  fresh : ∀ g ∈ s.allGraphs.toList, g.Fresh
  templ : ∀ j ∈ s.jobs.toList, j.template.Fresh
  empty : s.loaderReleased = false → s.graphs = #[] ∧ s.metas = #[]
  done : s.finishedTasks = doneTotal s
  canc : cancelLogN s ≤ cancTotal s

@[grind →] theorem TallyP.weak {k : Nat} {s : SimS} (h : TallyP k s) : TallyW s :=
  ⟨h.ginv, h.fresh, h.templ, h.empty, h.done, by have := h.canc; omega⟩

theorem countP_cancel_foldl (es : List LogE) (hes : ∀ e ∈ es, isCancelLog e = false) (l : Array LogE) :
    (es.foldl Array.push l).toList.countP isCancelLog = l.toList.countP isCancelLog := by
  induction es generalizing l with
  | nil => rfl
  | cons e es ih =>
    rw [List.foldl_cons, ih (fun x hx => hes x (List.mem_cons_of_mem _ hx)), Array.toList_push, List.countP_append,
      List.countP_singleton, hes e List.mem_cons_self]
    rfl

theorem TallyP.logs {k : Nat} {s s' : SimS} (h : TallyP k s) (es : List LogE := [])
    (hes : ∀ e ∈ es, isCancelLog e = false := by simp [isCancelLog])
    (hl : s'.log = es.foldl Array.push s.log := by rfl) (hg : s'.graphs = s.graphs := by rfl)
    (ha : s'.allGraphs = s.allGraphs := by rfl) (hj : s'.jobs = s.jobs := by rfl) (hm : s'.metas = s.metas := by rfl)
    (hr : s'.loaderReleased = s.loaderReleased := by rfl) (hf : s'.finishedTasks = s.finishedTasks := by rfl) :
    TallyP k s' := by
  obtain ⟨a, b, c, d, e, f⟩ := h
  refine ⟨by rw [hg]; exact a, by rw [ha]; exact b, by rw [hj]; exact c, by rw [hr, hg, hm]; exact d, ?_, ?_⟩
  · show s'.finishedTasks = totalCnt isDone s'.graphs
    rw [hf, hg]; exact e
  · show s'.log.toList.countP isCancelLog + k = totalCnt isCanc s'.graphs
    rw [hl, countP_cancel_foldl es hes, hg]; exact f

theorem TallyP.logCancel {k : Nat} {s : SimS} {t : TaskId} {time : Int} (h : TallyP (k + 1) s) :
    TallyP k { s with log := s.log.push (.cancel t time) } := by
  obtain ⟨a, b, c, d, e', f⟩ := h
  have hn : cancelLogN { s with log := s.log.push (.cancel t time) } = cancelLogN s + 1 := by
    simp [cancelLogN, List.countP_append, isCancelLog]
  refine ⟨a, b, c, d, e', ?_⟩
  show cancelLogN _ + k = cancTotal s
  omega

theorem ginv_get {gs : Array GraphS} {gi : Nat} {g : GraphS} (h : ∀ g ∈ gs.toList, g.GInv) (hg : gs[gi]? = some g) :
    g.GInv := h g (Array.mem_toList_iff.mpr (Array.mem_of_getElem? hg))

theorem TallyP.setGraph {k k' f' : Nat} {s : SimS} {gi : Nat} {g g' : GraphS} (h : TallyP k s)
    (hg : s.graphs[gi]? = some g) (hi : g'.GInv) (hd : g'.cnt isDone + s.finishedTasks = g.cnt isDone + f')
    (hc : g'.cnt isCanc + k = g.cnt isCanc + k') :
    TallyP k' { s with graphs := s.graphs.setIfInBounds gi g', finishedTasks := f' } := by
  obtain ⟨a, b, c, d, e, f⟩ := h
  refine ⟨forall_mem_set a hg fun _ => hi, b, c, fun hl => ?_, ?_, ?_⟩
  · rw [(d hl).1] at hg; simp at hg
  · show f' = totalCnt isDone (s.graphs.setIfInBounds gi g')
    have := totalCnt_set isDone s.graphs gi g g' hg
    unfold doneTotal at e
    omega
  · show cancelLogN s + k' = totalCnt isCanc (s.graphs.setIfInBounds gi g')
    have := totalCnt_set isCanc s.graphs gi g g' hg
    unfold cancTotal at f
    omega

theorem TallyP.setTask {k f' : Nat} {s : SimS} {t : TaskId} {g : GraphS} {x x' : TaskS} (h : TallyP k s)
    (hg : s.graphs[t.g]? = some g) (hx : g.task? t.t = some x) (hi : (g.setTask t.t x').GInv)
    (hd : (if isDone x' then 1 else 0) + s.finishedTasks = (if isDone x then 1 else 0) + f')
    (hc : isCanc x' = isCanc x) :
    TallyP k { s with graphs := s.graphs.setIfInBounds t.g (g.setTask t.t x'), finishedTasks := f' } := by
  have hd' := GraphS.cnt_setTask isDone g t.t x x' hx
  refine h.setGraph hg hi (by omega) ?_
  rw [GraphS.cnt_setTask_same _ g t.t x x' hx hc]

theorem TallyP.call {k : Nat} {s : SimS} {t : TaskId} {g : GraphS} {x : TaskS} {c : TaskCall} (h : TallyP k s)
    (hg : s.graphs[t.g]? = some g) (hx : g.task? t.t = some x)
    (hc : c.isBenign = true ∧ c.isFinish = false ∧ c.isCancel = false) :
    TallyP k { s with graphs := s.graphs.setIfInBounds t.g (g.setTask t.t (x.call c).1) } := by
  have hgi := ginv_get h.ginv hg
  have hp := hgi.preOK _ _ hx
  exact h.setTask hg hx (GraphS.ginv_call hgi hx hc.1) (by rw [call_done x c hp hc.2.1]) (call_canc x c hp hc.2.2)

theorem TallyP.finishOk {k : Nat} {s : SimS} {t : TaskId} {g : GraphS} {x : TaskS} (h : TallyP k s)
    (hg : s.graphs[t.g]? = some g) (hx : g.task? t.t = some x) (hok : (x.call (.finish none)).2 = none) :
    TallyP k { s with graphs := s.graphs.setIfInBounds t.g (g.setTask t.t (x.call (.finish none)).1),
                      finishedTasks := s.finishedTasks + 1 } := by
  have hgi := ginv_get h.ginv hg
  have hp := hgi.preOK _ _ hx
  have hfin := (finish_done x none).1 hok
  exact h.setTask hg hx (GraphS.ginv_call hgi hx rfl) (by simp only [TaskS.call, hfin.1, hfin.2]; simp; omega)
    (call_canc x (.finish none) hp rfl)

theorem TallyP.finishErr {k : Nat} {s : SimS} {t : TaskId} {g : GraphS} {x : TaskS} {e : SErr} (h : TallyP k s)
    (hg : s.graphs[t.g]? = some g) (hx : g.task? t.t = some x) (herr : (x.call (.finish none)).2 = some e) :
    TallyP k { s with graphs := s.graphs.setIfInBounds t.g (g.setTask t.t (x.call (.finish none)).1) } := by
  have hsame : (x.call (.finish none)).1 = x := (finish_done x none).2 (by simp [TaskS.call] at herr ⊢; rw [herr]; simp)
  rw [hsame]
  have hgi := ginv_get h.ginv hg
  exact h.setTask hg hx
    (GraphS.ginv_setTask _ _ _ _ hgi hx (GraphS.benign_refl x (hgi.preOK _ _ hx) (hgi.noPreempt _ _ hx))) rfl rfl

theorem TallyP.start {k : Nat} {s : SimS} {t : TaskId} {g : GraphS} {x : TaskS} (time fuzzed : Int) (h : TallyP k s)
    (hg : s.graphs[t.g]? = some g) (hx : g.task? t.t = some x) (hr : g.isReadyToRun t.t = true) :
    TallyP k { s with graphs := s.graphs.setIfInBounds t.g (g.setTask t.t (x.doStart time fuzzed).1) } :=
  h.setTask hg hx (GraphS.ginv_start g t.t x time fuzzed (ginv_get h.ginv hg) hx hr)
    (by rw [show (x.doStart time fuzzed).1 = (x.call (.start time fuzzed)).1 from rfl,
      call_done x _ ((ginv_get h.ginv hg).preOK _ _ hx) rfl])
    (call_canc x (.start time fuzzed) ((ginv_get h.ginv hg).preOK _ _ hx) rfl)

/-- The first UPDATE_WORKLOAD adopts the loader's (pristine) task graphs. -/
theorem TallyP.load {k : Nat} {s s' : SimS} (h : TallyP k s) (hl : s.loaderReleased = false)
    (hg : s'.graphs = s.allGraphs := by rfl) (ha : s'.allGraphs = s.allGraphs := by rfl) (hj : s'.jobs = s.jobs := by rfl)
    (hf : s'.finishedTasks = s.finishedTasks := by rfl) (hlog : s'.log = s.log := by rfl)
    (hr : s'.loaderReleased = true := by rfl) : TallyP k s' := by
  obtain ⟨a, b, c, d, e, f⟩ := h
  have hempty := (d hl).1
  refine ⟨by rw [hg]; exact fun g hgm => GraphS.ginv_of_fresh g (b g hgm), by rw [ha]; exact b, by rw [hj]; exact c,
    fun h => (by rw [hr] at h; cases h), ?_, ?_⟩
  · rw [hf, e]; unfold doneTotal; rw [hg, hempty, totalCnt_empty]
    exact (totalCnt_zero _ _ (fun g hgm => GraphS.cnt_fresh_done g (b g hgm))).symm
  · unfold cancelLogN cancTotal at *
    rw [hlog, hg, f, hempty, totalCnt_empty]
    exact (totalCnt_zero _ _ (fun g hgm => GraphS.cnt_fresh_canc g (b g hgm))).symm

/-- The closed-loop follow-up of task graph `gi`, an instance of the (pristine) template of its job, joins the
workload; the job's counters change. -/
theorem TallyP.follow {k : Nat} {s s' : SimS} {gi : Nat} {m : GraphMeta} {j j' : JobS} {start d : Int} (h : TallyP k s)
    (hm : s.metas[gi]? = some m) (hj : s.jobs[m.job]? = some j)
    (hg : s'.graphs = s.graphs.push (j.follow start d) := by rfl) (ha : s'.allGraphs = s.allGraphs := by rfl)
    (hjs : s'.jobs = s.jobs.setIfInBounds m.job j' := by rfl) (ht : j'.template = j.template := by rfl)
    (hf : s'.finishedTasks = s.finishedTasks := by rfl) (hlog : s'.log = s.log := by rfl)
    (hr : s'.loaderReleased = s.loaderReleased := by rfl) : TallyP k s' := by
  obtain ⟨a, b, c, hd, e, f⟩ := h
  have hjf : j.template.Fresh := c j (Array.mem_toList_iff.mpr (Array.mem_of_getElem? hj))
  have hgf : (j.follow start d).Fresh := hjf.instantiate _ _ (fun _ _ => ⟨rfl, rfl⟩)
  refine ⟨?_, by rw [ha]; exact b, ?_, fun hl => ?_, ?_, ?_⟩
  · rw [hg]; intro q hq
    simp only [Array.toList_push, List.mem_append, List.mem_singleton] at hq
    rcases hq with hq | hq
    · exact a q hq
    · subst hq; exact GraphS.ginv_of_fresh _ hgf
  · rw [hjs]; intro q hq
    simp only [Array.mem_toList_iff] at hq
    rcases Array.mem_or_eq_of_mem_setIfInBounds hq with hq | hq
    · exact c q (Array.mem_toList_iff.mpr hq)
    · subst hq; rw [ht]; exact hjf
  -- a task graph has a job only after the loader's hand-over
  · rw [(hd (hr ▸ hl)).2] at hm; simp at hm
  · rw [hf, e]; unfold doneTotal; rw [hg, totalCnt_push, GraphS.cnt_fresh_done _ hgf]; rfl
  · unfold cancelLogN cancTotal at *
    rw [hlog, hg, totalCnt_push, GraphS.cnt_fresh_canc _ hgf]; exact f

theorem TallyP.walked {k : Nat} {s : SimS} {gi : Nat} {g g' : GraphS} {l : List Nat} {err : Option SErr} (h : TallyP k s)
    (hg : s.graphs[gi]? = some g) (hi : g.GInv → g'.GInv) (hc : g.WalkCnt g' [] l err) :
    TallyP (k + (g'.cnt isCanc - g.cnt isCanc)) { s with graphs := s.graphs.setIfInBounds gi g' } :=
  h.setGraph hg (hi (ginv_get h.ginv hg)) (by rw [hc.done]) (by have := hc.mono; omega)

theorem TallyP.reported {n : Nat} {s : SimS} {gi : Nat} {g g' : GraphS} {l : List Nat} {err : Option SErr} (h : Tally s)
    (hg : s.graphs[gi]? = some g) (hi : g.GInv → g'.GInv) (hc : g.WalkCnt g' [] l err) (he : err = none)
    (hn : n = l.length) : TallyP n { s with graphs := s.graphs.setIfInBounds gi g' } :=
  h.setGraph hg (hi (ginv_get h.ginv hg)) (by rw [hc.done]) (by have := hc.exact he; simp at this; omega)

theorem tally_initial (s0 : SimS) (hg : s0.graphs = #[]) (hm : s0.metas = #[]) (ha : ∀ g ∈ s0.allGraphs.toList, g.Fresh)
    (hj : ∀ j ∈ s0.jobs.toList, j.template.Fresh) (hf : s0.finishedTasks = 0) (hl : s0.log = #[]) : Tally s0 := by
  refine ⟨by rw [hg]; intro g h; (cases h), ha, hj, fun _ => ⟨hg, hm⟩, ?_, ?_⟩
  · rw [hf]; unfold doneTotal; rw [hg]; rfl
  · unfold cancelLogN cancTotal; rw [hl, hg]; rfl

theorem LogE.routine_isCancelLog {e : LogE} (h : e.routine = true) : isCancelLog e = false := by
  cases e <;> first | rfl | cases h

theorem TaskCall.routine_quiet {c : TaskCall} (h : c.routine = true) :
    c.isBenign = true ∧ c.isFinish = false ∧ c.isCancel = false := by
  cases c <;> first | exact ⟨rfl, rfl, rfl⟩ | cases h

abbrev TallyI (γ : Ghost) (s : SimS) : Prop := TallyP γ.owed.length s

theorem TallyI.owed {γ : Ghost} {s : SimS} {l : List TaskId} (h : TallyI γ s) (ho : γ.owed = l) : TallyP l.length s :=
  ho ▸ h

theorem TallyI.closed : ClosedTick TallyI TallyW where
  weak h := h.weak
  abort a h := by
    cases a with
    | cancelGraph gi k time gr e herr hg => exact (h.walked hg (gr.ginv_cancel k time) (gr.cancel_cnt k time)).weak
    | cancelPlaced t time gr e herr hg =>
      exact ((h.walked hg (gr.ginv_cancel t.t time) (gr.cancel_cnt t.t time)).logs).weak
    | notifyGraph t time gr e herr hg =>
      exact ((h.walked hg (gr.ginv_notifyCompletion t.t time _) (gr.notifyCompletion_cnt t.t time _)).logs).weak
    | payCancel t rest time howed => exact (h.owed howed).logCancel.weak
    | countCancel => exact h.logs.weak
    | placedNoStrategy t time pid | placedNoDraw t time tape pid => exact (h.logs [.place t pid time]).weak
    | placedNoStart t time fuzzed tape pid pool gr x st w e hP =>
      exact ((h.start time fuzzed hP.hg hP.hx hP.hready).logs [.place t pid time]).weak
    | placedStarted t time fuzzed tape pid pool gr x st w hP =>
      exact ((h.start time fuzzed hP.hg hP.hx hP.hready).logs [.place t pid time, .start t time fuzzed pid]).weak
    | removedNoFinish e0 t time pid pool gr x e hcur hty htid hfin hx hg =>
      exact ((h.finishErr hg hx hfin).logs [.remove t pid time]).weak
  act a h := by
    cases a with
    | row | done | mk | mkCached | retry | mkSched | add | perm | edit | repend | unqueue | uncache | draw | followUp | pool
    | countCancel | schedStart | schedRun | schedDone | simEnd => exact h.logs
    | pop ev => exact h.logs [.pop ev.ev.time ev.ev.etype]
    | log e he => exact h.logs [e] (by simpa using LogE.routine_isCancelLog he)
    | call t c gr x hg hx hc => exact h.call hg hx (TaskCall.routine_quiet hc)
    | follow gi tape m j start d hm hj => exact h.follow hm hj
    | load hl => exact h.load (Bool.eq_false_iff.mpr hl)
    | place t time fuzzed tape pid pool gr x st w a hP | placeNow t time fuzzed tape pid pool gr x st w a name hP =>
      exact (h.start time fuzzed hP.hg hP.hx hP.hready).logs [.place t pid time, .start t time fuzzed pid]
    | finish e0 t time pid pool gr x hcur hty htid htime hfin hx hg =>
      exact (h.finishOk hg hx hfin).logs [.remove t pid time, .finish t time]
    | cancelGraph gi k time gr howed herr hg =>
      exact (h.owed howed).reported hg (gr.ginv_cancel k time) (gr.cancel_cnt k time) herr (List.length_map ..)
    | cancelPlaced t time gr howed herr hg =>
      exact ((h.owed howed).reported hg (gr.ginv_cancel t.t time) (gr.cancel_cnt t.t time) herr (List.length_map ..)).logs
    | notifyGraph t time gr howed herr hg =>
      exact ((h.owed howed).reported hg (gr.ginv_notifyCompletion t.t time _) (gr.notifyCompletion_cnt t.t time _) herr
        (List.length_map ..)).logs
    | payCancel t rest time name howed => exact (h.owed howed).logCancel.logs
  tick a h := by
    cases a with
    | stepTask t now dt gr x hg hx => exact h.call hg hx ⟨rfl, rfl, rfl⟩
    | mkDue | take => exact h.logs
    | clock dt => exact h.logs [.clock _]

/-- **Census against the task states, every run.** From an initial state satisfying `Tally`
(`tally_initial`: an empty workload before the loader hands over pristine task graphs):
* whatever way the run stops, `finishedTasks` is the number of done (COMPLETED / EVICTED)
  tasks of the workload and there are at least as many CANCELLED tasks as `.cancel`
  history entries (`TallyW`);
* when it ends normally, the CANCELLED tasks are exactly as many as the `.cancel` entries
  (`Tally`). -/
theorem simulate_tally (s0 : SimS) (fuel : Nat) (h : Tally s0) :
    TallyW (simulate s0 fuel).2 ∧ ((simulate s0 fuel).1 = none → Tally (simulate s0 fuel).2) :=
  have hc := simulate_closed TallyI.closed s0 fuel h
  ⟨hc.2, fun he => (hc.1 he).1⟩

abbrev TA : Assertion (.except SErr (.arg SimS .pure)) := fun s => ⌜Tally s⌝
abbrev TWA : Assertion (.except SErr (.arg SimS .pure)) := fun s => ⌜TallyW s⌝
abbrev KeepsT {α} (x : SimM α) : Prop := ⦃TA⦄ x ⦃post⟨fun _ => TA, fun _ => TWA⟩⦄

theorem raiseTask_t (e : Option SErr) : KeepsT (raiseTask e) := by
  mvcgen [raiseTask] with grind
theorem raisePlace_t (r : Except PyErr Bool) : KeepsT (raisePlace r) := by
  mvcgen [raisePlace] with grind
theorem getTask_r (t : TaskId) (s0 : SimS) :
    ⦃fun s => ⌜s = s0⌝⦄ getTask t ⦃post⟨fun _ s => ⌜s = s0⌝, fun _ s => ⌜s = s0⌝⟩⦄ := by
  mvcgen [getTask, getGraph]
theorem getGraph_r (gi : Nat) (s0 : SimS) :
    ⦃fun s => ⌜s = s0⌝⦄ getGraph gi ⦃post⟨fun r s => ⌜s = s0 ∧ s0.graphs[gi]? = some r⌝, fun _ s => ⌜s = s0⌝⟩⦄ := by
  mvcgen [getGraph] with grind

end ErdosVerif.Model.Sim
