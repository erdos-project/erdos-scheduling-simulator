/-
"A placed child BatchTask has every parent of every member in a placed (or RUNNING) BatchTask":
from the `all_parents_placed` indicator rows by exchanging the double sum
`Σ_p (#parents in p) · Σx_p = Σ_{u parent} Σ_{p ∋ u} Σx_p` and bounding each inner sum by 1
(`…_unique_batch_placement` for tasks in fresh BatchTasks, one group for previously placed tasks).
-/
import ErdosVerif.Lemmas.IlpBatchUnique
namespace ErdosVerif.IlpBatch
open ErdosVerif.Mip ErdosVerif.Ilp

theorem wfUniq_inj {I : BInst} (h : I.wfUniq = true) {i j : Nat} (hi : i < I.nT) (hj : j < I.nT)
    (he : (I.task i).uniq = (I.task j).uniq) : i = j := by
  simp only [BInst.wfUniq, Bool.and_eq_true, List.all_eq_true, List.mem_range] at h
  have := h.1 i hi j hj
  simp only [Bool.or_eq_true, beq_iff_eq, Bool.not_eq_true', beq_eq_false_iff_ne] at this
  rcases this with h1 | h1
  · exact h1
  · exact absurd he h1

theorem wfUniq_member {I : BInst} (h : I.wfUniq = true) {b m : Nat} (hb : b < I.nB)
    (hm : m ∈ I.members b) : m < I.nT := by
  simp only [BInst.wfUniq, Bool.and_eq_true, List.all_eq_true, List.mem_range] at h
  simpa using h.2 b hb m hm

theorem hasMember_iff {I : BInst} (h : I.wfUniq = true) {b t : Nat} (hb : b < I.nB) (ht : t < I.nT) :
    I.hasMember b (I.task t).uniq = true ↔ t ∈ I.members b := by
  simp only [BInst.hasMember, List.any_eq_true, beq_iff_eq]
  constructor
  · rintro ⟨m, hm, he⟩
    have := wfUniq_inj h (wfUniq_member h hb hm) ht he
    rwa [this] at hm
  · intro hm; exact ⟨t, hm, rfl⟩

theorem psum_running {I : BInst} {σ : Var → Int} {b : Nat} (hr : I.bRunning b = true) : psum I σ b = 1 := by
  rw [psum_eq, isum_map_zero]
  · simp [hr]
  · intro w _
    apply xval_novar
    simp [BInst.hasVar, hr]

theorem psum_le_one_all {I : BInst} {σ : Var → Int} (h : sat σ (genB I)) {b : Nat} (hb : b < I.nB) :
    psum I σ b ≤ 1 := by
  cases hr : I.bRunning b with
  | true => rw [psum_running hr]; omega
  | false => exact psum_le_one h (mem_nonRunning.mpr ⟨hb, hr⟩)

/-- `Σ_{p ∋ u} Σx_p`: how often the parent named `u` is placed. -/
def cover (I : BInst) (σ : Var → Int) (u : String) : Int :=
  isum ((List.range I.nB).map (fun p => (if I.hasMember p u then 1 else 0) * psum I σ p))

theorem cover_eq_filter (I : BInst) (σ : Var → Int) (u : String) :
    cover I σ u = isum (((List.range I.nB).filter (fun p => I.hasMember p u)).map (psum I σ)) := by
  unfold cover
  rw [← isum_filter_of_zero (List.range I.nB) (fun p => I.hasMember p u)]
  · apply isum_map_eq
    intro p hp
    have : I.hasMember p u = true := (List.mem_filter.mp hp).2
    simp [this]
  · intro p _ hq
    have hq' : I.hasMember p u = false := hq
    simp [hq']

theorem cover_le_one {I : BInst} {σ : Var → Int} (h : sat σ (genB I)) (hws : I.wfShared = true)
    (hwu : I.wfUniq = true) (u : String) : cover I σ u ≤ 1 := by
  rw [cover_eq_filter]
  have hH : ∀ p ∈ (List.range I.nB).filter (fun p => I.hasMember p u), p < I.nB ∧ I.hasMember p u = true :=
    fun p hp => ⟨List.mem_range.mp (List.mem_filter.mp hp).1, (List.mem_filter.mp hp).2⟩
  refine isum_le_one_of_pairwise (List.Nodup.sublist List.filter_sublist List.nodup_range)
    (fun p hp => psum_nonneg h (hH p hp).1) (fun p hp => psum_le_one_all h (hH p hp).1) fun p hp q hq hpq => ?_
  -- two different holders of `u` share the task named `u`
  obtain ⟨hpb, hpu⟩ := hH p hp
  obtain ⟨hqb, hqu⟩ := hH q hq
  simp only [BInst.hasMember, List.any_eq_true, beq_iff_eq] at hpu hqu
  obtain ⟨t, htp, rfl⟩ := hpu
  obtain ⟨t', htq, he⟩ := hqu
  have ht := wfUniq_member hwu hpb htp
  obtain rfl := wfUniq_inj hwu (wfUniq_member hwu hqb htq) ht he
  exact psum_add_le_one h hws hpb hqb hpq ht htp htq

theorem parentExpr_eval {I : BInst} {σ : Var → Int} (c : Nat) :
    (I.parentExpr c).eval σ = isum ((I.parentTasks c).map (cover I σ)) := by
  unfold BInst.parentExpr
  rw [LinExpr.eval_sumL, List.map_map]
  have e1 : isum ((I.parentVars c).map (LinExpr.eval σ ∘ fun p => LinExpr.smul (I.nParentsIn c p : Nat) (I.sumX p))) =
      isum ((I.parentVars c).map (fun p => ((I.nParentsIn c p : Nat) : Int) * psum I σ p)) := by
    apply isum_map_eq
    intro p _
    simp [Function.comp, psum]
  rw [e1]
  unfold BInst.parentVars
  rw [isum_filter_of_zero]
  · -- expand the counts and exchange
    have e2 : ∀ p ∈ List.range I.nB, ((I.nParentsIn c p : Nat) : Int) * psum I σ p =
        isum ((I.parentTasks c).map (fun u => (if I.hasMember p u then 1 else 0) * psum I σ p)) := by
      intro p _
      unfold BInst.nParentsIn
      rw [← isum_indicator_length, ← isum_map_mul_right]
    rw [isum_map_eq e2, isum_comm]
    rfl
  · intro p _ hq
    have : I.nParentsIn c p = 0 := by simpa using hq
    simp [this]

/-- **A placed child BatchTask has every parent of every member placed**: each graph parent of a
member of `c` is held by a BatchTask that is RUNNING or placed by `σ` (when `c` has at least
one parent variable; see finding C11-ILPB-2 for the case of none). -/
theorem placed_child_all_parents_placed {I : BInst} {σ : Var → Int} (h : sat σ (genB I))
    (hws : I.wfShared = true) (hwu : I.wfUniq = true) {c w : Nat} (hc : c < I.nB)
    (hne : I.parentVars c ≠ []) (hpl : I.chosen σ c = some w) {u : String} (hu : u ∈ I.parentTasks c) :
    ∃ p, p < I.nB ∧ I.hasMember p u = true ∧ (I.bRunning p = true ∨ (I.chosen σ p).isSome = true) := by
  have hcn := mem_nonRunning.mpr ⟨hc, chosen_nonRunning hpl⟩
  have h1 := one_le_psum_of_chosen h hc hpl
  have hcount := (parents_counted h hcn hne (by omega)).2
  rw [parentExpr_eval] at hcount
  -- every parent is covered at most once, and all together as often as there are parents
  have hcov : cover I σ u = 1 :=
    all_one_of_isum_eq_length (f := cover I σ) (fun u' _ => cover_le_one h hws hwu u') (Int.le_of_eq hcount.symm) u hu
  -- so some holder of `u` has `Σ x ≥ 1`
  rw [cover_eq_filter] at hcov
  obtain ⟨p, hp, hp0⟩ := exists_of_isum_ne_zero (f := psum I σ)
    (l := (List.range I.nB).filter fun p => I.hasMember p u) (by omega)
  have hpb := List.mem_range.mp (List.mem_filter.mp hp).1
  refine ⟨p, hpb, (List.mem_filter.mp hp).2, ?_⟩
  cases hr : I.bRunning p with
  | true => exact Or.inl rfl
  | false =>
    have := psum_nonneg h hpb
    exact Or.inr ((chosen_isSome_iff h hpb hr).mpr (by omega))

end ErdosVerif.IlpBatch
