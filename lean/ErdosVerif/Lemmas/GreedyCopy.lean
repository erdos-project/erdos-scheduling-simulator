import ErdosVerif.Lemmas.LedgerCopy
import ErdosVerif.Lemmas.GreedyRun
/-!
`copy(worker_pools)` gives the policy a cluster with the occupancy of the live one: same pools,
same workers, same totals, same availability per resource type, same resident tasks.
-/
namespace ErdosVerif.Model.Greedy

/-- What a successful worker copy preserves. -/
def SameWorker (w0 w : Worker) : Prop :=
  w0.res.total = w.res.total ∧ (∀ n : String, byName w0.res.avail n = byName w.res.avail n) ∧
  w0.placed = w.placed

theorem Worker.copy_same (w w0 : Worker) (h : w.res.Inv) (hc : w.copy = (w0, .ok)) : SameWorker w0 w := by
  unfold Worker.copy at hc
  cases hr : w.res.copy with
  | mk r o =>
    rw [hr] at hc
    simp only [Prod.mk.injEq] at hc
    obtain ⟨rfl, rfl⟩ := hc
    exact ⟨(Resources.copy_same_occupancy w.res r h hr "").1,
      fun n => (Resources.copy_same_occupancy w.res r h hr n).2, rfl⟩

/-- What a successful pool copy preserves. -/
def SamePool (p0 p : Pool) : Prop :=
  p0.placed = p.placed ∧ p0.workers.length = p.workers.length ∧
  ∀ (j : Nat) w w0, p.workers[j]? = some w → p0.workers[j]? = some w0 → SameWorker w0 w

theorem Pool.copy_same (p p0 : Pool) (h : p.Inv) (hc : p.copy = (p0, .ok)) : SamePool p0 p := by
  simp only [Pool.copy] at hc
  split at hc
  · rename_i c hfind
    simp only [Prod.mk.injEq] at hc
    have := List.find?_some hfind
    rw [hc.2] at this
    simp at this
  · rename_i hfind
    simp only [Prod.mk.injEq, and_true] at hc
    subst hc
    refine ⟨rfl, by simp, ?_⟩
    intro j w w0 hw hw0
    simp only [List.map_map, List.getElem?_map, hw, Option.map_some, Function.comp, Option.some.injEq] at hw0
    have hall := List.find?_eq_none.mp hfind (w.copy) (List.mem_map.mpr ⟨w, List.mem_of_getElem? hw, rfl⟩)
    have hok : w.copy.2 = .ok := by simpa using hall
    have : w.copy = (w0, .ok) := by rw [← hw0, ← hok]
    exact Worker.copy_same w w0 (h w (List.mem_of_getElem? hw)) this

theorem copyPools_same (live V0 : List Pool) (hinv : ClusterInv live) (h : copyPools live = .ok V0) :
    V0.length = live.length ∧
    ∀ (i : Nat) p p0, live[i]? = some p → V0[i]? = some p0 → SamePool p0 p := by
  obtain ⟨rfl, hok⟩ := copyPools_ok live V0 h
  refine ⟨List.length_map _, fun i p p0 hp hp0 => ?_⟩
  rw [List.getElem?_map, hp] at hp0
  have hpm := List.mem_of_getElem? hp
  exact Pool.copy_same p p0 (hinv p hpm) (Prod.ext (Option.some.inj hp0) (hok p hpm))

end ErdosVerif.Model.Greedy
