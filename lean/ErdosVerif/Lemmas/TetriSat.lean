/-
Extraction lemmas: what `sat σ (gen I)` says about the TetriSched models, in semantic
form (the *picked* cell of every task), so that the property theorems never unfold `gen`
again.
-/
import ErdosVerif.Lemmas.TetriSum
namespace ErdosVerif.Tetri
open ErdosVerif.Mip ErdosVerif.TetriSpec

theorem mem_act {I : Inst} {t : Nat} : t ∈ I.act ↔ t < I.nT ∧ I.active t = true := by
  simp [Inst.act, List.mem_filter, List.mem_range]

theorem mem_nonRunning {I : Inst} {t : Nat} :
    t ∈ I.nonRunning ↔ t < I.nT ∧ I.active t = true ∧ I.running t = false := by
  simp [Inst.nonRunning, List.mem_filter, mem_act, and_assoc]

theorem act_of_nonRunning {I : Inst} {t : Nat} (ht : t ∈ I.nonRunning) : t ∈ I.act :=
  (List.mem_filter.mp ht).1

theorem nonRunning_of_act {I : Inst} {t : Nat} (ht : t ∈ I.act) (hr : I.running t = false) :
    t ∈ I.nonRunning :=
  List.mem_filter.mpr ⟨ht, by simp [hr]⟩

/-- The rows of `gen I`, family by family (`reward` is CPLEX's only, `slots` and `deps` Gurobi's);
what each family says is `cPlace_holds`, `cSlotsG_holds`, `cDeps_holds`, `cRes_holds`. -/
structure Rows (I : Inst) (σ : Var → Int) : Prop where
  place : ∀ t ∈ I.nonRunning, ∀ c ∈ I.cPlace t, c.holds σ
  reward : I.cplex = true → ∀ t ∈ I.nonRunning, (I.cRewardC t).holds σ
  slots : I.cplex = false → ∀ t ∈ I.nonRunning, ∀ c ∈ I.cSlotsG t, c.holds σ
  deps : I.cplex = false → ∀ t ∈ I.nonRunning, ∀ c ∈ I.cDeps t, c.holds σ
  res : ∀ c ∈ I.cRes, c.holds σ

theorem holds_constrs_iff {I : Inst} {σ : Var → Int} : (∀ c ∈ (gen I).constrs, c.holds σ) ↔ Rows I σ := by
  cases hc : I.cplex <;>
    simp only [gen, genG, genC, Inst.constrsG, Inst.constrsC, hc, if_true, if_false, Bool.false_eq_true,
      List.forall_mem_append, List.forall_mem_flatMap, List.forall_mem_singleton]
  · exact ⟨fun ⟨⟨h1, h2⟩, h3⟩ => ⟨fun t ht => (h1 t ht).2, (fun h => nomatch hc.symm.trans h),
        fun _ t ht => (h1 t ht).1, fun _ => h2, h3⟩,
      fun r => ⟨⟨fun t ht => ⟨r.slots hc t ht, r.place t ht⟩, r.deps hc⟩, r.res⟩⟩
  · exact ⟨fun ⟨h1, h2⟩ => ⟨fun t ht => (h1 t ht).1, fun _ t ht => (h1 t ht).2,
        (fun h => nomatch hc.symm.trans h), (fun h => nomatch hc.symm.trans h), h2⟩,
      fun r => ⟨fun t ht => ⟨r.place t ht, r.reward hc t ht⟩, r.res⟩⟩

theorem rows {I : Inst} {σ : Var → Int} (h : sat σ (gen I)) : Rows I σ := holds_constrs_iff.mp h.2

theorem mem_vars {I : Inst} {d : VarDecl Var} : d ∈ (gen I).vars ↔
    (∃ t ∈ I.nonRunning, d ∈ (if I.cplex then I.taskVarsC t else I.taskVarsG t)) ∨
    (I.cplex = false ∧ ∃ c ∈ I.nonRunning, (I.parentVars c).isEmpty = false ∧ d = binDecl (.allParents c)) := by
  cases hc : I.cplex <;> simp [gen, genG, genC, Inst.varsG, Inst.varsC, hc]
  grind

theorem cellVars_sub {I : Inst} {t : Nat} (ht : t ∈ I.nonRunning) {d : VarDecl Var}
    (hd : d ∈ I.cellVars t) : d ∈ (gen I).vars :=
  mem_vars.mpr (Or.inl ⟨t, ht, by split <;> simp [Inst.taskVarsC, Inst.taskVarsG, hd]⟩)

theorem placedVar_sub {I : Inst} {t : Nat} (ht : t ∈ I.nonRunning) {d : VarDecl Var}
    (hd : d ∈ I.placedVar t) : d ∈ (gen I).vars :=
  mem_vars.mpr (Or.inl ⟨t, ht, by split <;> simp [Inst.taskVarsC, Inst.taskVarsG, hd]⟩)

theorem taskVarsG_sub {I : Inst} (hG : I.cplex = false) {t : Nat} (ht : t ∈ I.nonRunning) {d : VarDecl Var}
    (hd : d ∈ I.taskVarsG t) : d ∈ (gen I).vars :=
  mem_vars.mpr (Or.inl ⟨t, ht, by simp [hG, hd]⟩)

variable {I : Inst} {σ : Var → Int}

theorem cPlace_holds (I : Inst) (σ : Var → Int) (t : Nat) :
    (∀ c ∈ I.cPlace t, c.holds σ) ↔
      if I.must t then (I.sumCells t).eval σ = 1
      else (I.sumCells t).eval σ ≤ 1 ∧ σ (.isPlaced t) = (I.sumCells t).eval σ :=
  placeRows_holds σ _ _ _ _ _ _

theorem cRes_holds (I : Inst) (σ : Var → Int) :
    (∀ c ∈ I.cRes, c.holds σ) ↔ ∀ k, k < I.nSlots → ∀ w, w < I.nW → ∀ r ∈ (I.worker w).types,
      I.resRow w k r = true → (I.resE w k r).eval σ ≤ (qty (I.worker w).res r : Nat) :=
  resRows_holds σ _ _ (fun w => (I.worker w).types) _ _ _ (fun w r => (qty (I.worker w).res r : Nat))

theorem bin_of_decl {σ : Var → Int} {m : Model Var} (h : sat σ m) {v : Var}
    (hd : binDecl v ∈ m.vars) : σ v = 0 ∨ σ v = 1 := (h.1 _ hd).1 rfl

theorem cell_binary (h : sat σ (gen I)) {t : Nat} (ht : t ∈ I.nonRunning)
    {q : Nat × Nat × Nat} (hq : q ∈ I.keys t) (hv : I.hasVar t q.1 q.2.1 q.2.2 = true) :
    σ (.cell t q.1 q.2.1 q.2.2) = 0 ∨ σ (.cell t q.1 q.2.1 q.2.2) = 1 :=
  bin_of_decl h (cellVars_sub ht (List.mem_map.mpr ⟨q, List.mem_filter.mpr ⟨hq, hv⟩, rfl⟩))

theorem cellVal_nonRunning (σ : Var → Int) {t : Nat} (hr : I.running t = false)
    (q : Nat × Nat × Nat) :
    cellVal I σ t q = if I.hasVar t q.1 q.2.1 q.2.2 then σ (.cell t q.1 q.2.1 q.2.2) else 0 := by
  simp only [cellVal, Inst.cellE, hr, Inst.hasVar, Bool.false_eq_true, if_false, Bool.not_false, Bool.true_and]
  split <;> simp

theorem cellVal_running (σ : Var → Int) {t : Nat} (hr : I.running t = true)
    (q : Nat × Nat × Nat) :
    cellVal I σ t q = if q = runningCell I t then 1 else 0 := by
  obtain ⟨w, k, s⟩ := q
  simp only [cellVal, Inst.cellE, hr, if_true, runningCell, Prod.mk.injEq]
  split <;> simp

theorem cellVal_binary (h : sat σ (gen I)) {t : Nat} (ht : t ∈ I.nonRunning)
    {q : Nat × Nat × Nat} (hq : q ∈ I.keys t) : cellVal I σ t q = 0 ∨ cellVal I σ t q = 1 := by
  rw [cellVal_nonRunning σ (mem_nonRunning.mp ht).2.2]
  split
  · next hv => exact cell_binary h ht hq hv
  · exact Or.inl rfl

theorem wf_running (hwf : I.wf = true) {t : Nat} (ht : t ∈ I.act) (hr : I.running t = true) :
    (I.task t).prevW < I.nW ∧ (I.task t).prevS < (I.task t).nS ∧
    compatible (I.worker (I.task t).prevW) ((I.task t).strat (I.task t).prevS) = true := by
  simp only [Inst.wf, Inst.wfRunning, Bool.and_eq_true, List.all_eq_true] at hwf
  have := hwf.1.1.1 t ht
  simp only [hr, Bool.not_true, Bool.false_or, Bool.and_eq_true, decide_eq_true_eq] at this
  exact ⟨this.1.1.1, this.1.1.2, this.1.2⟩

theorem wf_parents (hwf : I.wf = true) {c : Nat} (hc : c ∈ I.act) :
    (I.parentVars c).length ≤ I.nParents c := by
  simp only [Inst.wf, Inst.wfParents, Bool.and_eq_true, List.all_eq_true, decide_eq_true_eq] at hwf
  exact hwf.1.1.2 c hc

theorem wf_grid (hwf : I.wf = true) :
    1 ≤ I.disc ∧ 0 ≤ I.now ∧ (I.noModel = false → 1 ≤ I.nSlots) ∧ I.nOffered ≤ I.nT := by
  simp only [Inst.wf, Inst.wfGrid, Bool.and_eq_true, Bool.or_eq_true, decide_eq_true_eq] at hwf
  obtain ⟨⟨⟨⟨h1, h2⟩, h3⟩, h4⟩, _⟩ := hwf.1.2
  exact ⟨h1, h2, fun hm => by simpa [hm] using h3, h4⟩

theorem wf_fit (hwf : I.wf = true) {k : Nat} (hk : k < I.nSlots) {w : Nat} (hw : w < I.nW) {r : String}
    (hr : r ∈ (I.worker w).types) : I.runningLoad w k r ≤ qty (I.worker w).res r := by
  simp only [Inst.wf, Inst.wfRunningFit, Bool.and_eq_true, List.all_eq_true, List.mem_range,
    decide_eq_true_eq] at hwf
  exact hwf.2 k hk w hw r hr

def pick (I : Inst) (σ : Var → Int) (t : Nat) : Option Cell :=
  if I.running t then some (runningCell I t) else I.chosen σ t

theorem planOf_get (σ : Var → Int) {t : Nat} (ht : t < I.nT) :
    (planOf I σ).get t = if I.active t then pick I σ t else none := by
  simp only [Plan.get, planOf, List.getD_eq_getElem?_getD, List.getElem?_map, List.getElem?_range ht,
    Option.map_some, Option.getD_some, pick]
  cases I.active t <;> simp

theorem planOf_get_act (σ : Var → Int) {t : Nat} (ht : t ∈ I.act) : (planOf I σ).get t = pick I σ t := by
  rw [planOf_get σ (mem_act.mp ht).1, if_pos (mem_act.mp ht).2]

theorem planOf_get_some {t : Nat} {c : Cell} (ht : t < I.nT) (hp : (planOf I σ).get t = some c) :
    t ∈ I.act ∧ pick I σ t = some c := by
  rw [planOf_get σ ht] at hp
  cases ha : I.active t <;> simp [ha] at hp
  exact ⟨mem_act.mpr ⟨ht, ha⟩, hp⟩

theorem planOf_length (I : Inst) (σ : Var → Int) : (planOf I σ).length = I.nT := by
  simp [planOf]

theorem chosen_spec {t : Nat} {q : Nat × Nat × Nat} (h : I.chosen σ t = some q) :
    q ∈ I.keys t ∧ I.hasVar t q.1 q.2.1 q.2.2 = true ∧ σ (.cell t q.1 q.2.1 q.2.2) = 1 := by
  have h2 := List.find?_some h
  simp only [Bool.and_eq_true, beq_iff_eq] at h2
  exact ⟨List.mem_of_find?_eq_some h, h2.1, h2.2⟩

theorem chosen_eq_find (σ : Var → Int) {t : Nat} (hr : I.running t = false) :
    I.chosen σ t = (I.keys t).find? (fun q => cellVal I σ t q == 1) := by
  unfold Inst.chosen
  congr 1
  funext q
  rw [cellVal_nonRunning σ hr]
  cases I.hasVar t q.1 q.2.1 q.2.2 <;> simp

theorem running_key (hwf : I.wf = true) {t : Nat} (ht : t ∈ I.act) (hr : I.running t = true)
    (hm : I.noModel = false) : runningCell I t ∈ I.keys t := by
  obtain ⟨hw, hs, _⟩ := wf_running hwf ht hr
  have := (wf_grid hwf).2.2.1 hm
  exact mem_keys.mpr ⟨hw, by simp only [runningCell]; omega, hs⟩

theorem pick_mem_keys (hwf : I.wf = true) (hm : I.noModel = false)
    {t : Nat} (ht : t ∈ I.act) {q : Cell} (h : pick I σ t = some q) : q ∈ I.keys t := by
  unfold pick at h
  split at h
  · next hr => exact Option.some.inj h ▸ running_key hwf ht hr hm
  · exact (chosen_spec h).1

/-- Every matrix entry of a task with variables is 1 at the picked cell and 0 elsewhere: the
entries are binary and the placement rows bound their sum by one. -/
theorem cellVal_pick (h : sat σ (gen I)) {t : Nat} (ht : t ∈ I.act) {q : Nat × Nat × Nat}
    (hq : q ∈ I.keys t) : cellVal I σ t q = if pick I σ t = some q then 1 else 0 := by
  cases hr : I.running t with
  | true => rw [cellVal_running σ hr]; simp [pick, hr, eq_comm]
  | false =>
    have htn := nonRunning_of_act ht hr
    simp only [pick, hr, Bool.false_eq_true, if_false, chosen_eq_find σ hr]
    refine eq_ite_find (f := cellVal I σ t) (fun p hp => cellVal_binary h htn hp) ?_ hq
    have := (cPlace_holds I σ t).mp ((rows h).place t htn)
    rw [eval_sumCells] at this
    unfold ksum at this
    split at this <;> omega

theorem ind_of_sat (h : sat σ (gen I)) (hwf : I.wf = true) (hm : I.noModel = false) :
    Ind I σ (planOf I σ) := by
  intro t ht
  rw [planOf_get_act σ ht]
  exact ⟨fun q hq => cellVal_pick h ht hq, fun c hc => pick_mem_keys hwf hm ht hc⟩

theorem isPlacedE_eval (h : sat σ (gen I)) (hwf : I.wf = true) (hm : I.noModel = false)
    {t : Nat} (ht : t ∈ I.act) : (I.isPlacedE t).eval σ = if (pick I σ t).isSome then 1 else 0 := by
  cases hr : I.running t with
  | true => simp [Inst.isPlacedE, hr, pick]
  | false =>
    have hrow := (cPlace_holds I σ t).mp ((rows h).place t (nonRunning_of_act ht hr))
    rw [sumCells_ind (ind_of_sat h hwf hm) ht, planOf_get_act σ ht] at hrow
    cases hmu : I.must t <;> simp only [hmu, if_true, if_false, Bool.false_eq_true] at hrow
    · simp [Inst.isPlacedE, hr, hmu, hrow.2]
    · simp [Inst.isPlacedE, hmu, hrow]

theorem must_picked (h : sat σ (gen I)) (hwf : I.wf = true) (hm : I.noModel = false)
    {t : Nat} (ht : t ∈ I.act) (hmu : I.must t = true) : (pick I σ t).isSome = true := by
  have := isPlacedE_eval h hwf hm ht
  simp only [Inst.isPlacedE, hmu, Bool.or_true, if_true, LinExpr.eval_ofConst] at this
  cases hp : (pick I σ t).isSome
  · simp [hp] at this
  · rfl

end ErdosVerif.Tetri
