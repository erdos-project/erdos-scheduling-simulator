/-
Capacity at every planned instant, from the pairwise overlap rows: for a feasible point
`σ`, the plan read off `σ` never loads a worker beyond its total quantity of any resource
at any instant `τ`.
-/
import ErdosVerif.Lemmas.IlpChain
import ErdosVerif.Model.IlpSpec
namespace ErdosVerif.Ilp
open ErdosVerif.Mip ErdosVerif.IlpSpec

theorem nsum_cast (l : List Nat) : ((nsum l : Nat) : Int) = isum (l.map (fun (n : Nat) => (n : Int))) := by
  induction l with
  | nil => rfl
  | cons x xs ih => simp [nsum, ih]

theorem nsum_eq_zero {l : List Nat} (h : ∀ a ∈ l, a = 0) : nsum l = 0 := by
  induction l with
  | nil => rfl
  | cons x xs ih =>
    have := h x (by simp)
    have := ih (fun a ha => h a (by simp [ha]))
    simp [nsum, *]

theorem qty_eq_zero_of_not_mem {l : List (String × Nat)} {r : String} (h : r ∉ l.map (fun p => p.1)) :
    qty l r = 0 :=
  nsum_eq_zero fun a ha => by
    obtain ⟨p, hp, rfl⟩ := List.mem_map.mp ha
    have hp' := List.mem_filter.mp hp
    exact absurd (List.mem_map.mpr ⟨p, hp'.1, by simpa using hp'.2⟩) h

theorem compat_qty_zero {W : WorkerI} {S : Strat} {r : String} (hc : compatible W S = true)
    (h0 : qty W.res r = 0) : qty S.req r = 0 :=
  nsum_eq_zero fun a ha => by
    obtain ⟨p, hp, rfl⟩ := List.mem_map.mp ha
    have hp' := List.mem_filter.mp hp
    simp only [compatible, List.all_eq_true, decide_eq_true_eq] at hc
    have := hc p hp'.1
    have hpr : p.1 = r := by simpa using hp'.2
    rw [hpr, h0] at this
    omega

theorem planOf_get {I : Inst} {σ : Var → Int} {t : Nat} (ht : t < I.nT) :
    (planOf I σ).get t =
      if I.running t then some (runningPlace I t)
      else (I.chosen σ t).map (fun ws => ⟨ws.1, ws.2, σ (.start t)⟩) := by
  simp [planOf, Plan.get, List.getD_eq_getElem?_getD, List.getElem?_map, List.getElem?_range ht]

theorem planOf_length (I : Inst) (σ : Var → Int) : (planOf I σ).length = I.nT := by
  simp [planOf]

theorem placed_spec {I : Inst} {σ : Var → Int} (hwr : I.wfRunning = true) {t : Nat} (ht : t < I.nT)
    {pl : Place} (hg : (planOf I σ).get t = some pl) :
    pl.w < I.nW ∧ pl.s < (I.task t).nS ∧ xval I σ t pl.w pl.s = 1 ∧ pl.start = sval I σ t ∧
    compatible (I.worker pl.w) ((I.task t).strat pl.s) = true := by
  rw [planOf_get ht] at hg
  cases hr : I.running t with
  | true =>
    simp [hr] at hg
    subst hg
    have h1 := wfRunning_spec hwr ht hr
    exact ⟨h1.1, h1.2, by simp [xval_running hr, runningPlace], by simp [sval_running hr, runningPlace],
      (wfRunning_compat hwr ht hr).1⟩
  | false =>
    simp [hr] at hg
    obtain ⟨w, s, hc, rfl⟩ := hg
    have hs := chosen_spec hc
    exact ⟨hs.1, hs.2.1, chosen_xval hc, (sval_var hr).symm, (hasVar_compatible hs.2.2.1).2⟩

theorem demandAt_pos {I : Inst} {plan : Plan} {w t : Nat} {r : String} {τ : Int}
    (h : demandAt I plan w r τ t ≠ 0) :
    ∃ pl, plan.get t = some pl ∧ pl.w = w ∧ occupies I t pl τ ∧ demandAt I plan w r τ t = qreq I t pl.s r := by
  unfold demandAt at h ⊢
  cases hg : plan.get t with
  | none => simp [hg] at h
  | some pl =>
    by_cases hc : pl.w = w ∧ occupies I t pl τ
    · exact ⟨pl, rfl, hc.1, hc.2, by simp [hc, qreq]⟩
    · simp [hg, hc] at h

section
variable {I : Inst} {σ : Var → Int}

theorem dval_term_nonneg (h : sat σ (gen I)) {t w : Nat} (ht : t < I.nT) (hw : w < I.nW) (r : String) :
    ∀ s ∈ I.stratsNeeding t r, 0 ≤ (qreq I t s r : Int) * xval I σ t w s := fun _ hs =>
  Int.mul_nonneg (by simp) (xval_nonneg h ht hw (mem_stratsNeeding.mp hs).1)

theorem dval_nonneg (h : sat σ (gen I)) {t w : Nat} (ht : t < I.nT) (hw : w < I.nW) (r : String) :
    0 ≤ dval I σ t w r := isum_map_nonneg (dval_term_nonneg h ht hw r)

theorem qreq_le_dval (h : sat σ (gen I)) {t w s : Nat} (ht : t < I.nT) (hw : w < I.nW)
    (hs : s < (I.task t).nS) (hx : xval I σ t w s = 1) (r : String) :
    (qreq I t s r : Int) ≤ dval I σ t w r := by
  by_cases hq : qreq I t s r = 0
  · rw [hq]; exact dval_nonneg h ht hw r
  · have := le_isum_map (dval_term_nonneg h ht hw r) (mem_stratsNeeding.mpr ⟨hs, hq⟩)
    rw [hx] at this
    unfold dval; omega

def active (I : Inst) (σ : Var → Int) (t w : Nat) (τ : Int) : Prop :=
  w < I.nW ∧ ∃ s, s < (I.task t).nS ∧ xval I σ t w s = 1 ∧ sval I σ t ≤ τ ∧ τ ≤ sval I σ t + I.runtime t s

theorem demandAt_spec (h : sat σ (gen I)) (hwr : I.wfRunning = true)
    {t w : Nat} (ht : t < I.nT) (hw : w < I.nW) (r : String) (τ : Int) :
    (demandAt I (planOf I σ) w r τ t : Int) ≤ dval I σ t w r ∧
    (demandAt I (planOf I σ) w r τ t ≠ 0 → active I σ t w τ) := by
  by_cases hd : demandAt I (planOf I σ) w r τ t = 0
  · exact ⟨by simpa [hd] using dval_nonneg h ht hw r, fun h' => absurd hd h'⟩
  · obtain ⟨pl, hg, rfl, hocc, he⟩ := demandAt_pos hd
    have hp := placed_spec hwr ht hg
    rw [he]
    refine ⟨qreq_le_dval h ht hp.1 hp.2.1 hp.2.2.1 r, fun _ => ⟨hp.1, pl.s, hp.2.1, hp.2.2.1, ?_, ?_⟩⟩
    · rw [← hp.2.2.2.1]; exact hocc.1
    · rw [← hp.2.2.2.1]; exact hocc.2

theorem overlap_one (h : sat σ (gen I)) (hwr : I.wfRunning = true) (hwp : I.wfParents = true)
    (hwc : I.wfChains = true) {a b wa wb : Nat} {τ : Int} (ha : a < I.nT) (hb : b < I.nT)
    (hne : b ≠ a) (hA : active I σ a wa τ) (hB : active I σ b wb τ) : σ (.overlap a b) = 1 := by
  obtain ⟨hwa, sa, hsa, hxa, ha1, ha2⟩ := hA
  obtain ⟨hwb, sb, hsb, hxb, hb1, hb2⟩ := hB
  cases hd : I.dependent a b with
  | true =>
    -- a dependent pair is ordered by the chain of precedence rows between them
    exfalso
    have hpa : 1 ≤ psum I σ a := by have := xval_le_psum h ha hwa hsa; omega
    have hpb : 1 ≤ psum I σ b := by have := xval_le_psum h hb hwb hsb; omega
    rcases wfChains_spec hwc ha hb hd with hl | hl
    · have := (linked_ordered h hwr hwp hl hpb).2 wa sa hwa hsa hxa
      rw [sval_var (hl.nonrunning hwr)] at hb1
      omega
    · have := (linked_ordered h hwr hwp hl hpa).2 wb sb hwb hsb hxb
      rw [sval_var (hl.nonrunning hwr)] at ha1
      omega
  | false =>
    have hda := runtime_le_dur h ha hwa hsa hxa
    have hdb := runtime_le_dur h hb hwb hsb hxb
    rw [overlap_value h (mem_pairs.mpr ⟨ha, hb, hne⟩) hd, if_neg (by omega)]

theorem capacity_at_instant (h : sat σ (gen I)) (hwr : I.wfRunning = true) (hwp : I.wfParents = true)
    (hwc : I.wfChains = true) {w : Nat} (hw : w < I.nW) (r : String) (τ : Int) :
    load I (planOf I σ) w r τ ≤ qty (I.worker w).res r := by
  have hsp := fun {t} (ht : t < I.nT) => demandAt_spec h hwr ht hw r τ
  have noskip : ∀ t, t < I.nT → active I σ t w τ → I.skipOn t w = false := by
    intro t ht ⟨_, s, hs, hx, _, _⟩
    cases hrt : I.running t with
    | false => simp [Inst.skipOn, hrt]
    | true =>
      rw [xval_running hrt] at hx
      have hws : w = (I.task t).prevW ∧ s = (I.task t).prevS := Classical.byContradiction fun hc => by simp [hc] at hx
      simp [Inst.skipOn, hrt, hws.1, (wfRunning_spec hwr ht hrt).2]
  have := isum_le_of_pairwise_rows (n := I.nT) (dem := fun t => (demandAt I (planOf I σ) w r τ t : Int))
    (d := fun t => dval I σ t w r) (o := fun a b => σ (.overlap a b)) (q := fun t => !I.skipOn t w)
    (act := fun t => active I σ t w τ) (cap := (qty (I.worker w).res r : Nat)) (Int.natCast_nonneg _)
    (fun t ht hd => have ha := (hsp ht).2 (by simpa using hd); ⟨ha, by simp [noskip t ht ha]⟩)
    (fun t ht => (hsp ht).1)
    (fun a b ha hb hne => by have := overlap_binary h (mem_pairs.mpr ⟨ha, hb, hne⟩); omega)
    (fun a b ha hb hne hA hB => overlap_one h hwr hwp hwc ha hb hne hA hB)
    fun a ha hd => by
      have hd : demandAt I (planOf I σ) w r τ a ≠ 0 := by simpa using hd
      -- the worker owns resource `r` (otherwise nothing compatible asks for it)
      have hrt : r ∈ (I.worker w).types := Classical.byContradiction fun hm => by
        obtain ⟨pl, hg, rfl, _, he⟩ := demandAt_pos hd
        exact hd (he.trans (compat_qty_zero (placed_spec hwr ha hg).2.2.2.2
          (qty_eq_zero_of_not_mem (by simpa [WorkerI.types, List.mem_eraseDups] using hm))))
      exact (rows h).resource a ha w hw (noskip a ha ((hsp ha).2 hd)) r hrt
  unfold load
  rw [← Int.ofNat_le, nsum_cast, List.map_map]
  exact this

end
end ErdosVerif.Ilp
