/-
`sigmaOf I plan` is a feasible point of `gen I` that decodes to `plan`: completeness, and with
soundness the exactness of both formulations for the specification.
-/
import ErdosVerif.Lemmas.TetriWitness
namespace ErdosVerif.Tetri
open ErdosVerif.Mip ErdosVerif.TetriSpec

variable {I : Inst} {plan : Plan}

theorem binDecl_ok {σ : Var → Int} {v : Var} (h : σ v = 0 ∨ σ v = 1) : (binDecl v).ok σ := by
  simp [VarDecl.ok, binDecl, h]

theorem sigmaOf_binary (I : Inst) (plan : Plan) (v : Var) :
    (∃ t, v = .start t ∨ v = .reward t) ∨ sigmaOf I plan v = 0 ∨ sigmaOf I plan v = 1 := by
  cases v with
  | start t => exact Or.inl ⟨t, Or.inl rfl⟩
  | reward t => exact Or.inl ⟨t, Or.inr rfl⟩
  | cell t w k s => exact Or.inr (ite01 _)
  | isPlaced t | allParents t => exact Or.inr (ite01 _)
  | placedAt t k | notPlacedAt t k | phase t k =>
    refine Or.inr ?_
    simp only [sigmaOf]
    cases plan.get t with
    | none => simp
    | some c => dsimp only; split <;> simp

theorem sigmaOf_binDecl {v : Var} (h : ∀ t, v ≠ .start t ∧ v ≠ .reward t) :
    (binDecl v).ok (sigmaOf I plan) :=
  binDecl_ok ((sigmaOf_binary I plan v).resolve_left (fun ⟨t, ht⟩ => ht.elim (h t).1 (h t).2))

theorem cellVars_ok {t : Nat} {d : VarDecl Var} (hd : d ∈ I.cellVars t) : d.ok (sigmaOf I plan) := by
  obtain ⟨q, _, rfl⟩ := List.mem_map.mp hd
  exact sigmaOf_binDecl (by simp)

theorem placedVar_ok {t : Nat} {d : VarDecl Var} (hd : d ∈ I.placedVar t) : d.ok (sigmaOf I plan) := by
  unfold Inst.placedVar at hd
  split at hd
  · simp at hd
  · rw [List.mem_singleton.mp hd]
    exact sigmaOf_binDecl (by simp)

theorem taskVarsG_ok (hwf : I.wf = true) {t : Nat} {d : VarDecl Var} (hd : d ∈ I.taskVarsG t) :
    d.ok (sigmaOf I plan) := by
  simp only [Inst.taskVarsG, List.mem_append, List.mem_flatMap, List.mem_map, List.mem_filter, List.mem_range,
    List.mem_cons, List.not_mem_nil, or_false] at hd
  rcases hd with (((hd | ⟨k, _, rfl | rfl⟩) | rfl) | ⟨k, _, rfl⟩) | hd
  · exact cellVars_ok hd
  · exact sigmaOf_binDecl (by simp)
  · exact sigmaOf_binDecl (by simp)
  · -- `start_time ≥ 0`: a slot, or a phantom start beyond the last one
    have h0 := (wf_grid hwf).2.1
    refine ⟨(by intro h; cases h), fun _ => ⟨?_, trivial⟩⟩
    show (0 : Int) ≤ sigmaOf I plan (.start t)
    simp only [sigmaOf]
    cases plan.get t <;> simp only [Inst.slot] <;> omega
  · exact sigmaOf_binDecl (by simp)
  · exact placedVar_ok hd

theorem taskVarsC_ok (hv : ValidPlan I plan) {t : Nat} (ht : t ∈ I.nonRunning) {d : VarDecl Var}
    (hd : d ∈ I.taskVarsC t) : d.ok (sigmaOf I plan) := by
  simp only [Inst.taskVarsC, List.mem_append, List.mem_singleton] at hd
  rcases hd with (hd | hd) | rfl
  · exact cellVars_ok hd
  · exact placedVar_ok hd
  · -- `0 ≤ reward ≤ 4·den`: the reward of the plan's slot is at most `2·den`
    have hden : 1 ≤ I.den := by unfold Inst.den; split <;> omega
    refine ⟨(by intro h; cases h), fun _ => ?_⟩
    show (0 : Int) ≤ sigmaOf I plan (.reward t) ∧ sigmaOf I plan (.reward t) ≤ 4 * (I.den : Int)
    simp only [sigmaOf]
    cases hp : plan.get t with
    | none => simp only; omega
    | some c =>
      have := rew_bounds I (mem_keys.mp (plan_nonRunning_hasVar hv ht hp).1).2.1
      simp only
      omega

theorem reward_hold (hv : ValidPlan I plan) (hwf : I.wf = true) (hm : I.noModel = false)
    {t : Nat} (ht : t ∈ I.nonRunning) : (I.cRewardC t).holds (sigmaOf I plan) := by
  simp only [Inst.cRewardC, Constr.holds, Sense.holds, LinExpr.eval_sub, LinExpr.eval_ofVar,
    rewardSum_ind (ind_sigmaOf hv hwf hm) (act_of_nonRunning ht), sigmaOf]
  cases plan.get t <;> simp

/-- **The witness is a feasible point** (Gurobi formulation: when the dependencies among the
tasks of the call are acyclic). -/
theorem sigmaOf_sat (hv : ValidPlan I plan) (hwf : I.wf = true) (hm : I.noModel = false)
    (hac : I.cplex = false → wfAcyclic I = true) : sat (sigmaOf I plan) (gen I) := by
  constructor
  · intro d hd
    rcases mem_vars.mp hd with ⟨t, ht, hd⟩ | ⟨_, c, _, _, rfl⟩
    · split at hd
      · exact taskVarsC_ok hv ht hd
      · exact taskVarsG_ok hwf hd
    · exact sigmaOf_binDecl (by simp)
  · exact holds_constrs_iff.mpr ⟨fun _ => place_hold hv hwf hm, fun _ _ => reward_hold hv hwf hm,
      fun _ _ => slots_hold hv hwf hm, fun hG _ => deps_hold hv hG hwf hm (hac hG), res_hold hv hwf hm⟩

theorem find?_unique {α : Type} {p : α → Bool} {l : List α} {a : α} (ha : a ∈ l) (hpa : p a = true)
    (hu : ∀ b ∈ l, p b = true → b = a) : l.find? p = some a := by
  induction l with
  | nil => simp at ha
  | cons x xs ih =>
    by_cases hx : p x = true
    · simp [hu x (by simp) hx, hpa]
    · have hxa : a ∈ xs := (List.mem_cons.mp ha).resolve_left (fun e => hx (e ▸ hpa))
      simp only [List.find?_cons, hx]
      exact ih hxa (fun b hb => hu b (by simp [hb]))

theorem chosen_sigmaOf (hv : ValidPlan I plan) {t : Nat} (ht : t ∈ I.nonRunning) :
    I.chosen (sigmaOf I plan) t = plan.get t := by
  unfold Inst.chosen
  cases hp : plan.get t with
  | none =>
    apply List.find?_eq_none.mpr
    intro q _
    simp [sigmaOf, hp]
  | some c =>
    obtain ⟨hk, hvar⟩ := plan_nonRunning_hasVar hv ht hp
    apply find?_unique hk
    · simp [sigmaOf, hp, hvar]
    · intro b _ hb
      simp only [Bool.and_eq_true, beq_iff_eq, sigmaOf, hp, Option.some.injEq] at hb
      by_cases hbc : c = (b.1, b.2.1, b.2.2)
      · exact hbc.symm
      · simp [hbc] at hb

theorem planOf_sigmaOf (hv : ValidPlan I plan) : planOf I (sigmaOf I plan) = plan := by
  have hget : ∀ (p : Plan) t, t < p.length → p[t]? = some (p.get t) := fun p t h => by simp [Plan.get, h]
  apply List.ext_getElem?
  intro t
  by_cases ht : t < I.nT
  · rw [hget _ t (by rwa [planOf_length]), hget _ t (by rwa [hv.len]), planOf_get _ ht]
    cases ha : I.active t with
    | false => simp [hv.inactive t ht ha]
    | true =>
      cases hr : I.running t with
      | true => simp [pick, hr, hv.running t ht ha hr]
      | false => simp [pick, hr, chosen_sigmaOf hv (mem_nonRunning.mpr ⟨ht, ha, hr⟩)]
  · rw [List.getElem?_eq_none (by rw [planOf_length]; omega), List.getElem?_eq_none (by rw [hv.len]; omega)]

/-- **Completeness.** Every valid plan of the specification is the decoded plan of a feasible
point of `gen I`, whose objective is the plan's reward. -/
theorem tetri_complete (hv : ValidPlan I plan) (hwf : I.wf = true) (hm : I.noModel = false)
    (hac : I.cplex = false → wfAcyclic I = true) :
    ∃ σ, sat σ (gen I) ∧ planOf I σ = plan ∧ objective σ (gen I) = planReward I plan := by
  have hs := sigmaOf_sat hv hwf hm hac
  refine ⟨sigmaOf I plan, hs, planOf_sigmaOf hv, ?_⟩
  have := objective_eq_planReward hs hwf hm
  rwa [planOf_sigmaOf hv] at this

end ErdosVerif.Tetri
