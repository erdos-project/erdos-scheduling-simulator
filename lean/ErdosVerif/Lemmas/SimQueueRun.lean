import ErdosVerif.Lemmas.SimWalk
import ErdosVerif.Lemmas.SimEditPending
/-!
Event order at simulator level: the invariant `QInv` where a handler is (`QI`), that it is closed under
the steps of the handlers and of the loop (`QI.closed`), and `simulate_qinv`.

`QI γ s` adds to `QInv s` what a handler knows besides: the events it has created and not yet queued are
well formed, and the popped event is due now (the loop of `Lemmas/SimLoop.lean` says so when it pops).
`StepOK.qinv`, `nothing_overdue_at_pop`: what `__step` as a relation (`StepOK`) gives for the queue invariant.
-/
open Std.Do
set_option mvcgen.warning false

namespace ErdosVerif.Model.Sim
open Heap

abbrev QA : Assertion (.except SErr (.arg SimS .pure)) := fun s => ⌜QInv s⌝
abbrev KeepsQ {α} (x : SimM α) : Prop := ⦃QA⦄ x ⦃post⟨fun _ => QA, fun _ => QA⟩⦄

structure MkPost (e : SEvent) (ty : Nat) (time : Int) (tid : Option TaskId) : Prop where
  ty : e.ev.etype = ty
  time : e.ev.time = time
  task : e.ev.task.isSome = tid.isSome
  tid : e.tid = tid

theorem MkPost.wf {e : SEvent} {ty : Nat} {time : Int} {tid : Option TaskId} (h : MkPost e ty time tid)
    (ht : taskType ty = tid.isSome) : e.WF := by
  unfold SEvent.WF Event.WF
  rw [h.task, h.ty, ht]

theorem advanceClock_q (dt : Int) (hdt : 0 ≤ dt) : KeepsQ (advanceClock dt) := by
  mvcgen [advanceClock]
  exact QInv.clock _ dt ‹QInv _› hdt

theorem evInv_nil {s : SimS} (h : QInv s) : QInv s ∧ ∀ e ∈ ([] : List SEvent), e.WF :=
  ⟨h, fun _ he => by cases he⟩
theorem evInv_carry {s2 s : SimS} {b : List SEvent} (h2 : QInv s2 ∧ ∀ e ∈ b, e.WF) (h : QInv s) :
    QInv s ∧ ∀ e ∈ b, e.WF := ⟨h, h2.2⟩
theorem evInv_push {s2 s : SimS} {b : List SEvent} {r : SEvent} {ty : Nat} {time : Int} {tid : Option TaskId}
    (h2 : QInv s2 ∧ ∀ e ∈ b, e.WF) (h : QInv s ∧ MkPost r ty time tid) (ht : taskType ty = tid.isSome) :
    QInv s ∧ ∀ e ∈ b ++ [r], e.WF := by
  refine ⟨h.1, fun e he => ?_⟩
  rcases List.mem_append.mp he with he | he
  · exact h2.2 e he
  · rw [List.mem_singleton.mp he]; exact h.2.wf ht
theorem evInv_append {s2 s : SimS} {b r : List SEvent} (h2 : QInv s2 ∧ ∀ e ∈ b, e.WF) (h : QInv s ∧ ∀ e ∈ r, e.WF) :
    QInv s ∧ ∀ e ∈ b ++ r, e.WF := by
  refine ⟨h.1, fun e he => ?_⟩
  rcases List.mem_append.mp he with he | he
  · exact h2.2 e he
  · exact h.2 e he
theorem evInv_single {s : SimS} {r : SEvent} {ty : Nat} {time : Int} {tid : Option TaskId}
    (h : QInv s ∧ MkPost r ty time tid) (ht : taskType ty = tid.isSome) : QInv s ∧ ∀ e ∈ [r], e.WF :=
  ⟨h.1, fun e he => by rw [List.mem_singleton.mp he]; exact h.2.wf ht⟩

theorem LogE.routine_clk {e : LogE} (h : e.routine = true) : clk e = none ∧ isPop e = false := by
  cases e <;> first | exact ⟨rfl, rfl⟩ | cases h

theorem QInv.logs {s s' : SimS} (h : QInv s) (es : List LogE) (hes : ∀ e ∈ es, clk e = none ∧ isPop e = false)
    (hl : s'.log = es.foldl Array.push s.log := by rfl) (hq : s'.queue = s.queue := by rfl)
    (hn : s'.now = s.now := by rfl) : QInv s' := by
  induction es generalizing s with
  | nil => exact h.congr hq hl hn
  | cons e es ih =>
    exact ih (QInv.log s e h (hes e (List.mem_cons_self ..)).1 (hes e (List.mem_cons_self ..)).2)
      (fun x hx => hes x (List.mem_cons_of_mem _ hx)) hl hq hn

structure QI (γ : Ghost) (s : SimS) : Prop where
  inv : QInv s
  ex : ∀ e ∈ γ.ex, e.WF
  due : ∀ e, γ.cur = some e → s.now = e.ev.time

theorem QI.logs {γ γ' : Ghost} {s s' : SimS} (h : QI γ s) (es : List LogE) (hes : ∀ e ∈ es, clk e = none ∧ isPop e = false)
    (hl : s'.log = es.foldl Array.push s.log := by rfl) (hq : s'.queue = s.queue := by rfl)
    (hn : s'.now = s.now := by rfl) (hex : γ'.ex = γ.ex := by rfl) (hcur : γ'.cur = γ.cur := by rfl) : QI γ' s' :=
  ⟨h.inv.logs es hes hl hq hn, hex ▸ h.ex, fun e he => hn.trans (h.due e (hcur ▸ he))⟩

theorem QI.frame {γ γ' : Ghost} {s s' : SimS} (h : QI γ s) (hl : s'.log = s.log := by rfl) (hq : s'.queue = s.queue := by rfl)
    (hn : s'.now = s.now := by rfl) (hex : γ'.ex = γ.ex := by rfl) (hcur : γ'.cur = γ.cur := by rfl) : QI γ' s' :=
  h.logs [] (fun _ h => nomatch h) hl hq hn hex hcur

/-- `owed` is free in the conclusion: the lemma serves `Act.mk`, which leaves it, and `Act.payCancel`, which pays one
task. -/
theorem QI.made {γ : Ghost} {s s' : SimS} {ty : Nat} {time : Int} {name : Option String} {tid : Option TaskId}
    {pl : Option PlacementS} {gr : Option Nat} {owed : List TaskId} (h : QI γ s) (hwf : name.isSome = taskType ty)
    (es : List LogE := []) (hes : ∀ e ∈ es, clk e = none ∧ isPop e = false := by exact fun _ h => nomatch h)
    (hl : s'.log = es.foldl Array.push s.log := by rfl) (hq : s'.queue = s.queue := by rfl)
    (hn : s'.now = s.now := by rfl) : QI ⟨γ.cur, γ.ex ++ [eventAt s ty time name tid pl gr], owed⟩ s' :=
  ⟨h.inv.logs es hes hl hq hn, fun x hx => by
    rcases List.mem_append.mp hx with hx | hx
    · exact h.ex x hx
    · rw [List.mem_singleton.mp hx]; exact hwf, fun e he => hn.trans (h.due e he)⟩

theorem QI.handled {γ : Ghost} {s : SimS} (h : QI γ s) : QI { γ with cur := none } s :=
  ⟨h.inv, h.ex, fun _ he => by cases he⟩

theorem QI.state {γ : Ghost} {s s' : SimS} (h : QI γ s) (hq : QInv s') (hn : s'.now = s.now := by rfl) : QI γ s' :=
  ⟨hq, h.ex, fun e he => hn.trans (h.due e he)⟩

theorem retimes_wf {f : SEvent → SEvent} (hf : Retimes f) (e : SEvent) (he : e.WF) : (f e).WF := by
  rw [hf e]; exact he

theorem QI.closed : ClosedTick QI QInv where
  weak h := h.inv
  abort a h := by
    cases a with
    | cancelGraph | cancelPlaced | notifyGraph | countCancel => exact h.inv.congr
    | payCancel => exact h.inv.logs [.cancel _ _] (by simp [clk, isPop])
    | placedNoStrategy | placedNoDraw | placedNoStart => exact h.inv.logs [.place _ _ _] (by simp [clk, isPop])
    | placedStarted => exact h.inv.logs [.place _ _ _, .start _ _ _ _] (by simp [clk, isPop])
    | removedNoFinish => exact h.inv.logs [.remove _ _ _] (by simp [clk, isPop])
  act a h := by
    cases a with
    | row | call | uncache | draw | followUp | follow | load | pool | schedStart | schedRun | schedDone
    | cancelGraph | cancelPlaced | notifyGraph => exact h.frame
    | pop ev hcur => exact h.state (QInv.logPop _ _ _ h.inv (h.due ev hcur))
    | done => exact h.handled
    | simEnd => exact h.handled.frame
    | log e he => exact h.logs [e] (by simpa using LogE.routine_clk he)
    | mk _ _ _ _ _ _ _ _ hwf => exact h.made hwf
    | mkCached => exact h.made (by rfl)
    | placeNow => exact h.made (by rfl) [.place _ _ _, .start _ _ _ _] (by simp [clk, isPop])
    | mkSched _ _ hty => subst hty; exact h.made (by rfl)
    | retry time name t pl =>
      exact (h.state (QInv.add _ (eventAt _ ET.taskPlacement time (some name) (some t) pl) h.inv rfl)).frame
    | add e rest hex =>
      exact ⟨QInv.add _ e h.inv (h.ex e (hex ▸ List.mem_cons_self ..)),
        fun x hx => h.ex x (hex ▸ List.mem_cons_of_mem _ hx), h.due⟩
    | perm _ hp => exact ⟨h.inv, fun x hx => h.ex x (hp.mem_iff.mpr hx), h.due⟩
    | edit eid f hf => exact h.state (QW.heapify _ (QInv.edit _ eid f h.inv (retimes_wf hf)))
    | repend c p => exact ⟨h.inv, editPending_forall (fun _ _ _ h => h) c p _ h.ex, h.due⟩
    | unqueue _ i => exact h.state (QInv.remove _ i h.inv)
    | place => exact h.logs [.place _ _ _, .start _ _ _ _] (by simp [clk, isPop])
    | finish => exact (h.logs [.remove _ _ _, .finish _ _] (by simp [clk, isPop])).handled
    | payCancel => exact h.made (by rfl) [.cancel _ _] (by simp [clk, isPop])
    | countCancel => exact h.handled.frame
  tick a h := by
    cases a with
    | stepTask => exact h.frame
    | mkDue => exact h.made (by rfl)
    | clock dt hcur hdt => exact ⟨QInv.clock _ dt h.inv hdt, h.ex, fun _ he => nomatch hcur.symm.trans he⟩
    | take e q _ hpop hdue => exact ⟨QInv.pop _ e q h.inv hpop, h.ex, fun _ he => Option.some.inj he ▸ hdue⟩

theorem StepOK.qinv {s s1 : SimS} {dt : Int} (h : QInv s) (hs : StepOK s dt s1) : QInv s1 := by
  obtain ⟨evs, hev, hq⟩ := hs.queue
  have := Heap.Good.foldl_push sevent_swo evs h.good (fun e he => (hev e he).1)
  have hc := QInv.clock s dt h hs.nonneg
  refine ⟨by rw [hq]; exact this.1, by rw [hq]; exact this.2, ?_, ?_, ?_, ?_⟩
  · rw [hs.now, hs.log]; exact hc.now
  · rw [hs.log]; exact hc.pops
  · rw [hs.log, hs.now]; exact hc.popsLe
  · rw [hs.log]; exact hc.popsMono

theorem nothing_overdue_at_pop (s s1 : SimS) (head e : SEvent) (q : Array SEvent) (h : QInv s)
    (hh : s.queue[0]? = some head) (hs : StepOK s (head.ev.time - s.now) s1)
    (hp : heappop SEvent.lt s1.queue = some (e, q)) : ∀ y ∈ q, s1.now ≤ y.ev.time := by
  intro y hy
  rw [hs.popped_due hh hp]
  exact SEvent.time_le_of_not_lt ((pop_is_min s1 e q (hs.qinv h) hp).2.2.1 y hy)

theorem QI.of {s : SimS} (h : QInv s) : QI {} s :=
  ⟨h, fun _ he => (nomatch he), fun _ he => (nomatch he)⟩

theorem iter_q : KeepsQ iter := by
  have h := iter_w QI.closed
  mvcgen [h]
  · exact .of ‹_›
  · exact fun _ h _ => h.inv

theorem init_q : KeepsQ init := by
  have h := init_w QI.closed.toClosed
  mvcgen [h]
  · exact .of ‹_›
  · exact fun _ h => h.inv

/-- **The queue invariant holds in every state a run can reach** (after the constructor and
any number of loop iterations, normal or aborted): the event queue is a heap of
well-formed events w.r.t. `Event.__lt__`, the clock is the last clock entry of the
history, and every event was popped when the clock showed its time. -/
theorem simulate_qinv (s0 : SimS) (fuel : Nat) (h : QInv s0) : QInv (simulate s0 fuel).2 :=
  (simulate_closed QI.closed s0 fuel (.of h)).2

theorem qinv_initial (s0 : SimS) (hq : s0.queue = #[]) (hl : s0.log = #[]) (hn : s0.now = 0) : QInv s0 := by
  refine ⟨?_, ?_, ?_, ?_, ?_, ?_⟩
  · intro i hi; simp [hq] at hi
  · intro j hj; simp [hq] at hj
  · simp [hl, hn, curClock]
  · rw [hl]; exact popsAtClock_nil
  · simp [hl]
  · simp [hl]

end ErdosVerif.Model.Sim
