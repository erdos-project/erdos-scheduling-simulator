/-
Capacity at an instant for the batching model — the part that is true of the code: the
BatchTasks that are not RUNNING, placed on a worker and occupying an instant, pairwise *not
dependent*, never exceed the worker's quantity of any of its resource types (each BatchTask
counted once).  RUNNING BatchTasks and dependent pairs are exactly the two counterexample
classes (C10-ILPB-1, C10-ILPB-5).  The argument is the one of `Lemmas/IlpCapacity.lean`
(pairwise overlap rows ⇒ per-instant load) over BatchTasks.
-/
import ErdosVerif.Lemmas.IlpBatchParents
namespace ErdosVerif.IlpBatch
open ErdosVerif.Mip ErdosVerif.Ilp

section
variable {I : BInst} {σ : Var → Int}

theorem overlap_one (h : sat σ (genB I)) {a b wa wb : Nat} (ha : a < I.nB) (hb : b < I.nB)
    (hab : b ≠ a) (hnd : I.dependent a b = false)
    (hca : I.chosen σ a = some wa) (hcb : I.chosen σ b = some wb) {τ : Int}
    (ha1 : σ (.start a) ≤ τ) (ha2 : τ ≤ σ (.start a) + I.runtime a)
    (hb1 : σ (.start b) ≤ τ) (hb2 : τ ≤ σ (.start b) + I.runtime b) : σ (.overlap a b) = 1 := by
  have hda := runtime_le_dur h ha (chosen_spec hca).1 (chosen_xval hca)
  have hdb := runtime_le_dur h hb (chosen_spec hcb).1 (chosen_xval hcb)
  rw [overlap_value h (mem_pairs.mpr ⟨ha, hb, hab⟩) hnd, sval_var (chosen_nonRunning hca),
    sval_var (chosen_nonRunning hcb), if_neg (by omega)]

/-- Is BatchTask `b` (not RUNNING) placed on `w` and occupying `τ` (closed occupancy)? -/
def occ (I : BInst) (σ : Var → Int) (w : Nat) (τ : Int) (b : Nat) : Prop :=
  I.chosen σ b = some w ∧ σ (.start b) ≤ τ ∧ τ ≤ σ (.start b) + I.runtime b

instance (I : BInst) (σ : Var → Int) (w : Nat) (τ : Int) (b : Nat) : Decidable (occ I σ w τ b) :=
  inferInstanceAs (Decidable (_ ∧ _ ∧ _))

/-- Demand of the not-RUNNING BatchTasks placed on `w` that occupy `τ`, each counted once. -/
def loadNR (I : BInst) (σ : Var → Int) (w : Nat) (r : String) (τ : Int) : Int :=
  isum ((List.range I.nB).map (fun b => if occ I σ w τ b then ((qty (I.bstrat b).req r : Nat) : Int) else 0))

/-- **Capacity at every instant** for the not-RUNNING, pairwise not dependent BatchTasks. -/
theorem capacity_at_instant_partial (h : sat σ (genB I)) {w : Nat} (hw : w < I.nW) {r : String}
    (hr : r ∈ (I.worker w).types) (τ : Int)
    (hind : ∀ a b, a < I.nB → b < I.nB → b ≠ a → occ I σ w τ a → occ I σ w τ b → I.dependent a b = false) :
    loadNR I σ w r τ ≤ (qty (I.worker w).res r : Nat) :=
  isum_le_of_pairwise_rows (d := fun b => ((qty (I.bstrat b).req r : Nat) : Int) * xval I σ b w)
    (o := fun a b => σ (.overlap a b)) (q := fun b => !I.bRunning b) (act := occ I σ w τ) (Int.natCast_nonneg _)
    (fun b _ hd => have ho : occ I σ w τ b := Classical.byContradiction fun hno => hd (if_neg hno)
      ⟨ho, by simp [chosen_nonRunning ho.1]⟩)
    (fun b hb => by
      split
      · rename_i ho; simp [chosen_xval ho.1]
      · exact Int.mul_nonneg (Int.natCast_nonneg _) (xval_nonneg h hb w (List.mem_range.mpr hw)))
    (fun a b ha hb hne => by have := overlap_binary h (mem_pairs.mpr ⟨ha, hb, hne⟩); omega)
    (fun a b ha hb hne hA hB =>
      overlap_one h ha hb hne (hind a b ha hb hne hA hB) hA.1 hB.1 hA.2.1 hA.2.2 hB.2.1 hB.2.2)
    fun a ha hd => have ho : occ I σ w τ a := Classical.byContradiction fun hno => hd (if_neg hno)
      (rows h).resource a (mem_nonRunning.mpr ⟨ha, chosen_nonRunning ho.1⟩) w hw r hr

end
end ErdosVerif.IlpBatch
