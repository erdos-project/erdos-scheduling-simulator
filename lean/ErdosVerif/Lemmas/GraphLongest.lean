/-
Specification of `Graph.getLongestPath` (model of `get_longest_path`) and of
`Graph.criticalPathRuntime`: on a well-formed non-empty DAG with strictly
positive weights the function returns a source-to-sink path of maximal weight.

The correctness of `topologicalSort` is taken as hypotheses (`htopo`, `hperm`,
`hfwd`); it is proved in `GraphTopo.lean`.
-/
import ErdosVerif.Lemmas.GraphBasic
import ErdosVerif.Lemmas.MinLoop

namespace ErdosVerif.Model.Graph

theorem pathSum_eq_sum (w : Nat → Int) (p : List Nat) : pathSum w p = (p.map w).sum := by
  rw [pathSum, List.sum_eq_foldl, List.foldl_map]

@[simp] theorem pathSum_nil (w : Nat → Int) : pathSum w [] = 0 := rfl

theorem pathSum_cons (w : Nat → Int) (n : Nat) (p : List Nat) :
    pathSum w (n :: p) = w n + pathSum w p := by
  simp [pathSum_eq_sum]

@[simp] theorem pathSum_singleton (w : Nat → Int) (n : Nat) : pathSum w [n] = w n := by
  simp [pathSum_eq_sum]

theorem pathSum_concat (w : Nat → Int) (p : List Nat) (n : Nat) :
    pathSum w (p ++ [n]) = pathSum w p + w n := by
  simp [pathSum_eq_sum]

theorem pathSum_reverse (w : Nat → Int) (p : List Nat) :
    pathSum w p.reverse = pathSum w p := by
  simp [pathSum_eq_sum]

@[simp] theorem isPath_nil (g : Graph) : g.IsPath [] := trivial

@[simp] theorem isPath_singleton (g : Graph) (u : Nat) : g.IsPath [u] := trivial

theorem isPath_cons_cons (g : Graph) (u v : Nat) (r : List Nat) :
    g.IsPath (u :: v :: r) ↔ g.Edge u v ∧ g.IsPath (v :: r) := Iff.rfl

theorem IsPath.tail {g : Graph} {u : Nat} {r : List Nat} (h : g.IsPath (u :: r)) : g.IsPath r := by
  cases r with
  | nil => trivial
  | cons v r => exact h.2

theorem isPath_append_cons {g : Graph} :
    ∀ (p : List Nat) (u v : Nat) (r : List Nat),
      g.IsPath (p ++ [u]) → g.Edge u v → g.IsPath (v :: r) → g.IsPath (p ++ u :: v :: r)
  | [], _, _, _, _, he, hr => ⟨he, hr⟩
  | [_], _, _, _, hp, he, hr => ⟨hp.1, he, hr⟩
  | _ :: b :: p, u, v, r, hp, he, hr =>
    ⟨hp.1, isPath_append_cons (b :: p) u v r hp.2 he hr⟩

theorem isPath_concat {g : Graph} (p : List Nat) (u v : Nat)
    (hp : g.IsPath (p ++ [u])) (he : g.Edge u v) : g.IsPath (p ++ [u, v]) :=
  isPath_append_cons p u v [] hp he trivial

theorem IsPath.hasNode_of_mem {g : Graph} (wf : g.WF) :
    ∀ {p : List Nat} {u : Nat}, g.IsPath (u :: p) → g.hasNode u = true →
      ∀ x ∈ u :: p, g.hasNode x = true
  | [], u, _, hu, x, hx => by
    simp at hx; subst hx; exact hu
  | v :: r, u, hp, hu, x, hx => by
    rcases List.mem_cons.mp hx with h | h
    · subst h; exact hu
    · exact IsPath.hasNode_of_mem wf hp.2 (wf.closed _ _ hp.1) x h

theorem not_edge_self_of_fwd {g : Graph} {order : List Nat}
    (hfwd : ∀ u v, g.Edge u v → Before order u v) (u : Nat) : ¬ g.Edge u u :=
  fun h => Before.irrefl (hfwd u u h)

/-- Invariant of the relaxation loops.  `frozen` are the nodes whose table entry
can no longer change (they were processed, or are being processed); `R p c`
says that the edge `p → c` has already been relaxed. -/
structure RelaxInv (g : Graph) (w : Nat → Int) (frozen : List Nat) (R : Nat → Nat → Prop)
    (s : Dict Int × Dict Nat) : Prop where
  keys : s.1.map Prod.fst = g.getNodes
  ge : ∀ c x, List.lookup c s.1 = some x → w c ≤ x
  ach : ∀ c x, List.lookup c s.1 = some x → x = w c ∨
    ∃ p, p ∈ frozen ∧ List.lookup c s.2 = some p ∧ g.Edge p c ∧
      List.lookup p s.1 = some (x - w c)
  opt : ∀ p c y x, p ∈ frozen → R p c → g.Edge p c → List.lookup p s.1 = some y →
    List.lookup c s.1 = some x → y + w c ≤ x

theorem RelaxInv.mono {g : Graph} {w : Nat → Int} {frozen frozen' : List Nat}
    {R R' : Nat → Nat → Prop} {s : Dict Int × Dict Nat} (inv : RelaxInv g w frozen R s)
    (hf : ∀ p, p ∈ frozen → p ∈ frozen')
    (hR : ∀ p c, p ∈ frozen' → R' p c → g.Edge p c → p ∈ frozen ∧ R p c) :
    RelaxInv g w frozen' R' s where
  keys := inv.keys
  ge := inv.ge
  ach := fun c x h => by
    rcases inv.ach c x h with h1 | ⟨p, hp, h2, h3, h4⟩
    · exact Or.inl h1
    · exact Or.inr ⟨p, hf p hp, h2, h3, h4⟩
  opt := fun p c y x hp hr he hy hx => by
    obtain ⟨hp', hr'⟩ := hR p c hp hr he
    exact inv.opt p c y x hp' hr' he hy hx

theorem RelaxInv.update {g : Graph} {w : Nat → Int} (hw : ∀ n, 0 < w n) {frozen : List Nat}
    {R : Nat → Nat → Prop} {lpl : Dict Int} {pred : Dict Nat}
    (inv : RelaxInv g w frozen R (lpl, pred)) {n c : Nat} (hn : n ∈ frozen) (hc : c ∉ frozen)
    (he : g.Edge n c) {lc ln : Int} (hlc : List.lookup c lpl = some lc)
    (hln : List.lookup n lpl = some ln) (hle : lc ≤ ln + w c) :
    RelaxInv g w frozen (fun p c' => R p c' ∨ (p = n ∧ c' = c))
      (Dict.set lpl c (ln + w c), Dict.set pred c n) := by
  -- only the entries of `c` change, and `c` is not frozen
  have hfc : ∀ p, p ∈ frozen → p ≠ c := fun p hp e => hc (e ▸ hp)
  refine ⟨?_, ?_, ?_, ?_⟩
  · show (Dict.set lpl c (ln + w c)).map Prod.fst = g.getNodes
    rw [Dict.keys_set, hlc]
    exact inv.keys
  · intro c' x h
    simp only [Dict.lookup_set] at h
    split at h
    · have := inv.ge n ln hln
      have := hw n
      simp only [Option.some.injEq] at h
      subst_vars
      omega
    · exact inv.ge c' x h
  · intro c' x h
    simp only [Dict.lookup_set] at h ⊢
    split at h
    · next e =>
      simp only [Option.some.injEq] at h
      subst e
      exact .inr ⟨n, hn, by simp, he, by simp [hfc n hn, hln, ← h]⟩
    · next e =>
      refine (inv.ach c' x h).imp_right fun ⟨p, hp, h2, h3, h4⟩ => ?_
      exact ⟨p, hp, by simp [e, h2], h3, by simp [hfc p hp, h4]⟩
  · intro p c' y x hp hr hpe hy hx
    simp only [Dict.lookup_set, hfc p hp, if_false] at hy hx
    split at hx
    · next e =>
      simp only [Option.some.injEq] at hx
      subst e
      rcases hr with hr | ⟨rfl, _⟩
      · have := inv.opt p c' y lc hp hr hpe hy hlc
        omega
      · rw [hln] at hy
        simp only [Option.some.injEq] at hy
        omega
    · next e =>
      rcases hr with hr | ⟨_, h2⟩
      · exact inv.opt p c' y x hp hr hpe hy hx
      · exact absurd h2 e

theorem RelaxInv.skip {g : Graph} {w : Nat → Int} {frozen : List Nat}
    {R : Nat → Nat → Prop} {lpl : Dict Int} {pred : Dict Nat}
    (inv : RelaxInv g w frozen R (lpl, pred)) {n c : Nat}
    {lc ln : Int} (hlc : List.lookup c lpl = some lc)
    (hln : List.lookup n lpl = some ln) (hle : ¬ lc ≤ ln + w c) :
    RelaxInv g w frozen (fun p c' => R p c' ∨ (p = n ∧ c' = c)) (lpl, pred) where
  keys := inv.keys
  ge := inv.ge
  ach := inv.ach
  opt := fun p c' y x hp hr he hy hx => by
    rcases hr with hr | ⟨rfl, rfl⟩
    · exact inv.opt p c' y x hp hr he hy hx
    · simp only [hln, hlc, Option.some.injEq] at hy hx
      omega

theorem relaxChildren_inv {g : Graph} {w : Nat → Int} (hw : ∀ n, 0 < w n) {frozen : List Nat}
    {n : Nat} (hn : n ∈ frozen) (hnode : g.hasNode n = true) :
    ∀ (cs : List Nat) (R : Nat → Nat → Prop) (s : Dict Int × Dict Nat),
      (∀ c ∈ cs, g.Edge n c ∧ c ∉ frozen ∧ g.hasNode c = true) →
      RelaxInv g w frozen R s →
      ∃ s', relaxChildren w n cs s = .ok s' ∧
        RelaxInv g w frozen (fun p c => R p c ∨ (p = n ∧ c ∈ cs)) s' := by
  intro cs
  induction cs with
  | nil =>
    intro R s _ inv
    exact ⟨s, by simp [relaxChildren], inv.mono (fun _ h => h) (by simp; exact fun _ _ hp hr _ => ⟨hp, hr⟩)⟩
  | cons c cs ih =>
    intro R s hcs inv
    obtain ⟨lpl, pred⟩ := s
    obtain ⟨hce, hcf, hcn⟩ := hcs c (List.mem_cons_self ..)
    obtain ⟨lc, hlc⟩ := (lookup_iff_hasNode inv.keys).mpr hcn
    obtain ⟨ln, hln⟩ := (lookup_iff_hasNode inv.keys).mpr hnode
    have hcs' : ∀ c' ∈ cs, g.Edge n c' ∧ c' ∉ frozen ∧ g.hasNode c' = true :=
      fun c' h => hcs c' (List.mem_cons_of_mem _ h)
    have hfin : ∀ s₁, RelaxInv g w frozen (fun p c' => R p c' ∨ (p = n ∧ c' = c)) s₁ →
        ∃ s', relaxChildren w n cs s₁ = .ok s' ∧
          RelaxInv g w frozen (fun p c' => R p c' ∨ (p = n ∧ c' ∈ c :: cs)) s' := by
      intro s₁ inv₁
      obtain ⟨s', hs', inv'⟩ := ih _ s₁ hcs' inv₁
      exact ⟨s', hs', inv'.mono (fun _ h => h) (by simp only [List.mem_cons]; grind)⟩
    by_cases hle : lc ≤ ln + w c
    · have := hfin _ (inv.update hw hn hcf hce hlc hln hle)
      simpa only [relaxChildren, hlc, hln, hle, if_true] using this
    · have := hfin _ (inv.skip (n := n) (c := c) hlc hln hle)
      simpa only [relaxChildren, hlc, hln, hle, if_false] using this

theorem relaxAll_inv {g : Graph} {w : Nat → Int} (wf : g.WF) (hw : ∀ n, 0 < w n) :
    ∀ (rest done : List Nat) (s : Dict Int × Dict Nat),
      (done ++ rest).Nodup →
      (∀ u v, g.Edge u v → Before (done ++ rest) u v) →
      (∀ n ∈ rest, g.hasNode n = true) →
      RelaxInv g w done (fun _ _ => True) s →
      ∃ s', foldE (relaxNode g w) rest s = .ok s' ∧
        RelaxInv g w (done ++ rest) (fun _ _ => True) s' := by
  intro rest
  induction rest with
  | nil =>
    intro done s _ _ _ inv
    exact ⟨s, rfl, by simpa using inv⟩
  | cons n rest ih =>
    intro done s hnd hfwd hnodes inv
    have hnode : g.hasNode n = true := hnodes n (List.mem_cons_self ..)
    have happ : done ++ n :: rest = (done ++ [n]) ++ rest := by simp
    have hn_notin : n ∉ done := not_mem_of_nodup_append_cons hnd
    obtain ⟨cs, hcs⟩ := hasNode_iff_lookup.mp hnode
    have hchild : ∀ c ∈ cs, g.Edge n c ∧ c ∉ done ++ [n] ∧ g.hasNode c = true := by
      intro c hc
      have he : g.Edge n c := edge_iff_lookup.mpr ⟨cs, hcs, hc⟩
      refine ⟨he, ?_, wf.closed _ _ he⟩
      intro hmem
      have hb := hfwd n c he
      rcases List.mem_append.mp hmem with h | h
      · exact hn_notin (Before.mem_prefix hb h)
      · simp at h; subst h; exact Before.irrefl hb
    have inv₀ : RelaxInv g w (done ++ [n]) (fun p _ => p ∈ done) s :=
      inv.mono (fun p h => List.mem_append_left _ h) (fun p c _ hr _ => ⟨hr, trivial⟩)
    obtain ⟨s₁, hs₁, inv₁⟩ :=
      relaxChildren_inv hw (List.mem_append_right _ (List.mem_singleton_self n)) hnode cs _ s
        hchild inv₀
    -- at this point every edge out of `n` is relaxed
    have inv₂ : RelaxInv g w (done ++ [n]) (fun _ _ => True) s₁ := by
      refine inv₁.mono (fun _ h => h) fun p c hp _ he => ⟨hp, ?_⟩
      rcases List.mem_append.mp hp with h | h
      · exact Or.inl h
      · obtain rfl : p = n := by simpa using h
        exact Or.inr ⟨rfl, by rwa [Edge, childrenOf_of_lookup hcs] at he⟩
    obtain ⟨s', hs', inv'⟩ := ih (done ++ [n]) s₁ (happ ▸ hnd) (happ ▸ hfwd)
      (fun m h => hnodes m (List.mem_cons_of_mem _ h)) inv₂
    refine ⟨s', ?_, happ ▸ inv'⟩
    rw [foldE_cons]
    simp only [relaxNode, hcs, hs₁]
    exact hs'

/-- What the table computed by the relaxation satisfies (Bellman equations in
inequality form plus a witness in `pred`). -/
structure LongestTable (g : Graph) (w : Nat → Int) (lpl : Dict Int) (pred : Dict Nat) : Prop where
  keys : lpl.map Prod.fst = g.getNodes
  ge : ∀ c x, List.lookup c lpl = some x → w c ≤ x
  ach : ∀ c x, List.lookup c lpl = some x → x = w c ∨
    ∃ p, List.lookup c pred = some p ∧ g.Edge p c ∧ List.lookup p lpl = some (x - w c)
  opt : ∀ p c y x, g.Edge p c → List.lookup p lpl = some y →
    List.lookup c lpl = some x → y + w c ≤ x

theorem relax_table {g : Graph} (wf : g.WF) {order : List Nat}
    (hperm : order.Perm g.getNodes) (hfwd : ∀ u v, g.Edge u v → Before order u v)
    (w : Nat → Int) (hw : ∀ n, 0 < w n) :
    ∃ lpl pred, foldE (relaxNode g w) order (g.getNodes.map (fun n => (n, w n)), []) =
        .ok (lpl, pred) ∧ LongestTable g w lpl pred := by
  have hnd : order.Nodup := hperm.nodup_iff.mpr wf.nodupKeys
  have hmem : ∀ n, n ∈ order ↔ g.hasNode n = true := fun n => by
    rw [hasNode_iff_mem_getNodes]; exact hperm.mem_iff
  have inv₀ : RelaxInv g w [] (fun _ _ => True) (g.getNodes.map (fun n => (n, w n)), []) :=
    ⟨by simp [List.map_map, Function.comp_def],
      fun c x h => Int.le_of_eq (Dict.lookup_map_mk h).symm,
      fun c x h => Or.inl (Dict.lookup_map_mk h), fun p c y x hp => by simp at hp⟩
  obtain ⟨⟨lpl, pred⟩, hs, inv⟩ := relaxAll_inv wf hw order [] _ (by simpa using hnd)
    (by simpa using hfwd) (fun n h => (hmem n).mp h) inv₀
  refine ⟨lpl, pred, hs, inv.keys, inv.ge, fun c x h => ?_, fun p c y x he hy hx => ?_⟩
  · exact (inv.ach c x h).imp_right fun ⟨p, _, h2, h3, h4⟩ => ⟨p, h2, h3, h4⟩
  · exact inv.opt p c y x (by simpa using (hmem p).mpr he.left_hasNode) trivial he hy hx

theorem LongestTable.path_le_aux {g : Graph} (wf : g.WF) {w : Nat → Int} {lpl : Dict Int}
    {pred : Dict Nat} (T : LongestTable g w lpl pred) :
    ∀ (r : List Nat) (u : Nat) (a y : Int), g.IsPath (u :: r) → List.lookup u lpl = some y →
      a + w u ≤ y →
      ∃ t x, (u :: r).getLast? = some t ∧ List.lookup t lpl = some x ∧
        a + pathSum w (u :: r) ≤ x := by
  intro r
  induction r with
  | nil =>
    intro u a y _ hy hle
    exact ⟨u, y, rfl, hy, by simpa using hle⟩
  | cons v r ih =>
    intro u a y hp hy hle
    obtain ⟨x', hx'⟩ := (lookup_iff_hasNode T.keys).mpr (wf.closed _ _ hp.1)
    have h1 := T.opt u v y x' hp.1 hy hx'
    obtain ⟨t, x, ht, hx, hsum⟩ := ih v (a + w u) x' hp.2 hx' (by omega)
    refine ⟨t, x, ?_, hx, ?_⟩
    · rw [List.getLast?_cons_cons]; exact ht
    · rw [pathSum_cons]; omega

theorem LongestTable.path_le {g : Graph} (wf : g.WF) {w : Nat → Int} {lpl : Dict Int}
    {pred : Dict Nat} (T : LongestTable g w lpl pred) {q : List Nat} {s : Nat}
    (hq : g.IsPath q) (hs : q.head? = some s) (hnode : g.hasNode s = true) :
    ∃ t x, q.getLast? = some t ∧ List.lookup t lpl = some x ∧ pathSum w q ≤ x := by
  cases q with
  | nil => simp at hs
  | cons u r =>
    simp only [List.head?_cons, Option.some.injEq] at hs
    subst hs
    obtain ⟨y, hy⟩ := (lookup_iff_hasNode T.keys).mpr hnode
    obtain ⟨t, x, h1, h2, h3⟩ := T.path_le_aux wf r u 0 y hq hy (by have := T.ge u y hy; omega)
    exact ⟨t, x, h1, h2, by omega⟩

theorem argmaxFirst_spec {d : Dict Int} (hd : d ≠ []) :
    ∃ k x, argmaxFirst d = some (k, x) ∧ (k, x) ∈ d ∧ ∀ q ∈ d, q.2 ≤ x := by
  cases d with
  | nil => exact absurd rfl hd
  | cons p r =>
    -- `max` with key `q.2` is `min` with key `-q.2`
    have := Heap.foldl_min_key (fun q : Nat × Int => -q.2) r p
    simp only [Int.neg_lt_neg_iff, Int.neg_le_neg_iff] at this
    exact ⟨_, _, rfl, this.1, this.2⟩

/-- The walk along `pred` reaches a source within `idxOf cur order + 1` steps and
prepends a path whose weight is exactly the remaining weight `cum`. -/
theorem walkBack_spec {g : Graph} (wf : g.WF) {order : List Nat}
    (hfwd : ∀ u v, g.Edge u v → Before order u v) {w : Nat → Int} (hw : ∀ n, 0 < w n)
    {lpl : Dict Int} {pred : Dict Nat} (T : LongestTable g w lpl pred) :
    ∀ (fuel cur : Nat) (cum : Int) (path tl : List Nat),
      path.reverse = cur :: tl → g.IsPath (cur :: tl) →
      List.lookup cur lpl = some (cum + w cur) → order.idxOf cur < fuel →
      ∃ res s front front', walkBack w pred fuel cur cum path = .ok res ∧
        res.reverse = s :: front ∧ s :: front = front' ++ cur :: tl ∧ g.IsPath (s :: front) ∧
        g.hasNode s = true ∧ g.parentsOf s = [] ∧ pathSum w res = pathSum w path + cum := by
  intro fuel
  induction fuel with
  | zero => intro cur cum path tl _ _ _ h; omega
  | succ k ih =>
    intro cur cum path tl hrev hpath hlk hfuel
    have hge := T.ge cur _ hlk
    by_cases hcum : cum > 0
    · rcases T.ach cur _ hlk with h | ⟨p, hp, he, hl⟩
      · omega
      · have hb := hfwd p cur he
        unfold Before at hb
        have hl' : List.lookup p lpl = some (cum - w p + w p) := by
          rw [hl]; congr 1; omega
        obtain ⟨res, s, front, front', h1, h2, h3, h4, h5, h6, h7⟩ :=
          ih p (cum - w p) (path ++ [p]) (cur :: tl) (by simp [hrev]) ⟨he, hpath⟩ hl' (by omega)
        refine ⟨res, s, front, front' ++ [p], ?_, h2, ?_, h4, h5, h6, ?_⟩
        · simp only [walkBack, hcum, if_true, hp]
          exact h1
        · rw [h3]; simp
        · rw [h7, pathSum_concat]; omega
    · have hc0 : cum = 0 := by omega
      subst hc0
      refine ⟨path, cur, tl, [], ?_, hrev, rfl, hpath, (lookup_iff_hasNode T.keys).mp ⟨_, hlk⟩, ?_, by simp⟩
      · simp [walkBack]
      · apply List.eq_nil_iff_forall_not_mem.mpr
        intro p hp
        have he : g.Edge p cur := wf.mem_parentsOf.mp hp
        obtain ⟨y, hy⟩ := (lookup_iff_hasNode T.keys).mpr he.left_hasNode
        have h1 := T.opt p cur y _ he hy hlk
        have h2 := T.ge p y hy
        have h3 := hw p
        omega

theorem longest_path_spec {g : Graph} (wf : g.WF) {order : List Nat}
    (htopo : g.topologicalSort = .ok order) (hperm : order.Perm g.getNodes)
    (hfwd : ∀ u v, g.Edge u v → Before order u v)
    (hne : g.getNodes ≠ []) (w : Nat → Int) (hw : ∀ n, 0 < w n) :
    ∃ p, g.getLongestPath w = .ok p ∧ g.IsSourceSinkPath p ∧
      ∀ q, g.IsSourceSinkPath q → pathSum w q ≤ pathSum w p := by
  obtain ⟨lpl, pred, hfold, T⟩ := relax_table wf hperm hfwd w hw
  have hlne : lpl ≠ [] := by
    intro h
    apply hne
    rw [← T.keys, h]; rfl
  obtain ⟨k, x, hamax, hmem, hmax⟩ := argmaxFirst_spec hlne
  have hnd : (lpl.map Prod.fst).Nodup := by rw [T.keys]; exact wf.nodupKeys
  have hlk : List.lookup k lpl = some x := Dict.lookup_eq_some_of_mem hnd hmem
  have hmax' : ∀ c y, List.lookup c lpl = some y → y ≤ x :=
    fun c y h => hmax (c, y) (Dict.mem_of_lookup_eq_some h)
  have hsink : g.childrenOf k = [] := by
    apply List.eq_nil_iff_forall_not_mem.mpr
    intro c hc
    have he : g.Edge k c := hc
    obtain ⟨y, hy⟩ := (lookup_iff_hasNode T.keys).mpr (wf.closed _ _ he)
    have h1 := T.opt k c x y he hlk hy
    have h2 := hmax' c y hy
    have h3 := hw c
    omega
  have hfuel : order.idxOf k < g.size + 1 := by
    have h1 : order.idxOf k ≤ order.length := List.idxOf_le_length
    have h2 : order.length = g.size := by
      rw [hperm.length_eq]; simp [getNodes, size]
    omega
  have hlk' : List.lookup k lpl = some (x - w k + w k) := by
    rw [hlk]; congr 1; omega
  obtain ⟨res, s, front, front', hwalk, hrev, hfront, hpath, hsnode, hsrc, hsum⟩ :=
    walkBack_spec wf hfwd hw T (g.size + 1) k (x - w k) [k] [] rfl trivial hlk' hfuel
  have hsum' : pathSum w res.reverse = x := by
    rw [pathSum_reverse, hsum, pathSum_singleton]; omega
  refine ⟨res.reverse, ?_, ⟨?_, s, k, ?_, ?_, hsnode, hsrc, hsink⟩, ?_⟩
  · simp only [getLongestPath, htopo, hfold, hamax, hwalk]
  · rw [hrev]; exact hpath
  · rw [hrev]; rfl
  · rw [hrev, hfront]; simp
  · intro q ⟨hq, s', t', hhead, hlast, hs'node, _, _⟩
    obtain ⟨t, y, _, hy, hle⟩ := T.path_le wf hq hhead hs'node
    have := hmax' t y hy
    omega

theorem critical_path_runtime_spec {g : Graph} (wf : g.WF) {order : List Nat}
    (htopo : g.topologicalSort = .ok order) (hperm : order.Perm g.getNodes)
    (hfwd : ∀ u v, g.Edge u v → Before order u v)
    (hne : g.getNodes ≠ []) (w : Nat → Int) (hw : ∀ n, 0 < w n) :
    ∃ t, g.criticalPathRuntime w = .ok t ∧
      (∃ p, g.IsSourceSinkPath p ∧ pathSum w p = t) ∧
      ∀ q, g.IsSourceSinkPath q → pathSum w q ≤ t := by
  obtain ⟨p, hp, hssp, hopt⟩ := longest_path_spec wf htopo hperm hfwd hne w hw
  refine ⟨pathSum w p, ?_, ⟨p, hssp, rfl⟩, hopt⟩
  simp only [criticalPathRuntime, hp]

end ErdosVerif.Model.Graph
