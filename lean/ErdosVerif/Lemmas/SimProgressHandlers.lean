import ErdosVerif.Lemmas.SimProgress
/-!
Progress of the `simulate()` loop: the pending-finish invariant where a handler is (`PI`), and that it is
closed under the steps of the handlers (`PI.closed`); the handlers themselves are those of `Lemmas/SimWalk.lean`.

`PI γ s` is `PG` with the events the handler holds in its hands as the events outside the queue (the popped event
until it is accounted for, then the events created and not yet queued), and "the popped event is due now or earlier":
a task that starts with no work left gets its TASK_FINISHED event at the time of the popped event (`PI.placeNow`).
Nothing is claimed where a handler raises (an exception ends the run).
-/
open Std.Do
set_option mvcgen.warning false

namespace ErdosVerif.Model.Sim

abbrev PA (ex : List SEvent) : Assertion (.except SErr (.arg SimS .pure)) := fun s => ⌜PG none ex s⌝

abbrev KeepsP {α} (ex : List SEvent) (x : SimM α) : Prop :=
  ⦃PA ex⦄ x ⦃post⟨fun _ => PA ex, fun _ _ => ⌜True⌝⟩⦄

theorem raiseTask_p (ex : List SEvent) (e : Option SErr) : KeepsP ex (raiseTask e) := by
  mvcgen [raiseTask] with try grind

theorem raiseOutcome_p (ex : List SEvent) (o : Outcome) : KeepsP ex (raiseOutcome o) := by
  mvcgen [raiseOutcome] with try grind

theorem raisePlace_p (ex : List SEvent) (r : Except PyErr Bool) :
    ⦃PA ex⦄ raisePlace r ⦃post⟨fun b s => ⌜PG none ex s ∧ r = .ok b⌝, fun _ _ => ⌜True⌝⟩⦄ := by
  mvcgen [raisePlace] with try grind

theorem LogE.routine_sk {e : LogE} (h : e.routine = true) : pg_sk e = none := by
  cases e <;> first | rfl | cases h

/-- `Task.start` and `Task.finish` make or change a RUNNING task, so `PG.benign` does not apply. -/
theorem PG.setTask {ex ex' : List SEvent} {s s' : SimS} (t : TaskId) {g : GraphS} {x : TaskS} (x' : TaskS)
    (h : PG none ex s) (hg : s.graphs[t.g]? = some g) (hx : g.task? t.t = some x) (hpre : x'.pre = x.pre)
    (heids : EInv (s'.queue.toList ++ ex') s'.future s'.nextSched s'.nextEid)
    (hold : ∀ e ∈ s.queue.toList ++ ex, e.ev.etype = ET.taskFinished → e.tid ≠ some t → e ∈ s'.queue.toList ++ ex')
    (hnew : x'.state = .running → x'.remaining = some 0 → pg_Due (s'.queue.toList ++ ex') s.now t)
    (hlg : LG s'.log.toList s.now)
    (hgr : s'.graphs = s.graphs.setIfInBounds t.g (g.setTask t.t x')) (hn : s'.now = s.now)
    (ha : s'.allGraphs = s.allGraphs) (hj : s'.jobs = s.jobs) : PG none ex' s' := by
  obtain ⟨hT't, hT'o⟩ := taskAt_setTask s.graphs t g x x' hg hx
  refine ⟨?_, ?_, heids, by rw [ha]; exact h.allQ, by rw [hj]; exact h.tmplQ, by rw [hn]; exact hlg⟩
  · intro u y hu
    rw [hgr] at hu
    by_cases hut : u = t
    · subst hut
      rw [hT't] at hu; cases hu
      have := h.pre u x (taskAt_of _ _ g x hg hx)
      unfold TaskS.PreOK at this ⊢
      rw [hpre]; exact this
    · rw [hT'o u hut] at hu; exact h.pre u y hu
  · intro u y hu hs hr _
    rw [hgr] at hu
    rw [hn]
    by_cases hut : u = t
    · subst hut
      rw [hT't] at hu; cases hu
      exact hnew hs hr
    · rw [hT'o u hut] at hu
      obtain ⟨e, he, h1, h2, h3⟩ := h.due u y hu hs hr (by simp)
      exact ⟨e, hold e he h1 (by rw [h2]; exact fun he => hut (Option.some.inj he)), h1, h2, h3⟩

theorem doFinish_ok (x : TaskS) (h : (x.call (.finish none)).2 = none) :
    (x.call (.finish none)).1.state ≠ .running ∧ (x.call (.finish none)).1.pre = x.pre := by
  simp only [TaskS.call, TaskS.doFinish] at h ⊢
  split at h
  · simp at h
  · rename_i hst
    rw [if_neg hst]
    constructor
    · simp only []; split <;> simp
    · rfl

structure PI (γ : Ghost) (s : SimS) : Prop where
  inv : PG none (γ.cur.toList ++ γ.ex) s
  due : ∀ e, γ.cur = some e → e.ev.time ≤ s.now

theorem PI.step {γ γ' : Ghost} {s s' : SimS} (h : PI γ s)
    (es : List LogE := []) (hes : ∀ e ∈ es, ∀ c, pg_sk e ≠ some (some c) := by exact fun _ h => nomatch h)
    (hg : TRel (taskAt s.graphs) (taskAt s'.graphs) := by exact TRel.refl _)
    (hq : ∀ e ∈ s'.queue.toList ++ (γ'.cur.toList ++ γ'.ex), e.ev.etype = ET.taskFinished →
      e ∈ s.queue.toList ++ (γ.cur.toList ++ γ.ex) := by exact fun _ h _ => h)
    (hq2 : ∀ e ∈ s.queue.toList ++ (γ.cur.toList ++ γ.ex), e.ev.etype = ET.taskFinished →
      e ∈ s'.queue.toList ++ (γ'.cur.toList ++ γ'.ex) := by exact fun _ h _ => h)
    (hef : ∀ x, EF s'.future s'.nextSched x → EF s.future s.nextSched x ∨ (s.nextEid ≤ x ∧ x < s'.nextEid) := by
      exact fun _ h => .inl h)
    (hid : s.nextEid ≤ s'.nextEid := by exact Nat.le_refl _)
    (hj : ∀ j ∈ s'.jobs.toList, ∃ j0 ∈ s.jobs.toList, j.template = j0.template := by exact fun j h => ⟨j, h, rfl⟩)
    (hl : s'.log = es.foldl Array.push s.log := by rfl) (hn : s'.now = s.now := by rfl)
    (ha : s'.allGraphs = s.allGraphs := by rfl)
    (hcur : ∀ e, γ'.cur = some e → γ.cur = some e := by exact fun _ h => h) : PI γ' s' :=
  ⟨h.inv.benign hg hq hq2 hef hid hj (LG.logs es hes hl) hn ha, fun e he => hn ▸ h.due e (hcur e he)⟩

/-- An event other than a TASK_FINISHED event is created; its id may be kept (`_future_placement_events[task] = event`,
`_next_scheduler_event = event`). `owed` is free in the conclusion, for `Act.mk` and `Act.payCancel` alike. -/
theorem PI.made {γ : Ghost} {s s' : SimS} {ty : Nat} {time : Int} {name : Option String} {tid : Option TaskId}
    {pl : Option PlacementS} {gr : Option Nat} {owed : List TaskId} (h : PI γ s) (hty : ty ≠ ET.taskFinished)
    (hef : ∀ x, EF s'.future s'.nextSched x → EF s.future s.nextSched x ∨ x = s.nextEid := by exact fun _ h => .inl h)
    (es : List LogE := []) (hes : ∀ e ∈ es, ∀ c, pg_sk e ≠ some (some c) := by exact fun _ h => nomatch h)
    (hl : s'.log = es.foldl Array.push s.log := by rfl) (hid : s'.nextEid = s.nextEid + 1 := by rfl)
    (hg : s'.graphs = s.graphs := by rfl) (hq : s'.queue = s.queue := by rfl) (hj : s'.jobs = s.jobs := by rfl)
    (hn : s'.now = s.now := by rfl) (ha : s'.allGraphs = s.allGraphs := by rfl) :
    PI ⟨γ.cur, γ.ex ++ [eventAt s ty time name tid pl gr], owed⟩ s' := by
  refine h.step es hes (by rw [hg]; exact TRel.refl _) ?_ ?_ (by rw [hid]; exact ef_fresh hef)
    (by rw [hid]; exact Nat.le_succ _) (by rw [hj]; exact fun j hj => ⟨j, hj, rfl⟩) hl hn ha fun _ he => he
  · rw [hq]; exact made_sub (perm_snoc ..) hty
  · rw [hq]; exact made_sup (perm_snoc ..)

theorem PG.queueEx {sk : Option TaskId} {c rest : List SEvent} {e : SEvent} {s : SimS} (h : PG sk (c ++ e :: rest) s) :
    PG sk (c ++ rest) { s with queue := Heap.heappush SEvent.lt s.queue e } := by
  exact h.benign (hq := fun _ he _ => (perm_add ..).subset he) (hq2 := fun _ he _ => (perm_add ..).symm.subset he)

/-- The first UPDATE_WORKLOAD adopts the loader's graphs (none of their tasks is RUNNING). -/
theorem PI.load {γ : Ghost} {s : SimS} {lr : Bool} {ms : Array GraphMeta} (h : PI γ s) :
    PI γ { s with loaderReleased := lr, graphs := s.allGraphs, metas := ms } := by
  have hquiet : ∀ t x, taskAt s.allGraphs t = some x → x.state ≠ .running ∧ x.PreOK := by
    intro t x hx
    obtain ⟨g0, h0, h1⟩ := taskAt_some _ t x hx
    exact (h.inv.allQ g0 (Array.mem_toList_iff.mpr (Array.mem_of_getElem? h0))).quiet t.t x h1
  exact ⟨⟨fun t x hx => (hquiet t x hx).2, fun t x hx hs => absurd hs (hquiet t x hx).1, h.inv.eids, h.inv.allQ,
    h.inv.tmplQ, h.inv.lg⟩, h.due⟩

/-- **The task started (`place_task`, `Task.start` succeeded) with work left**: no new obligation. -/
theorem PI.place {γ : Ghost} {s s' : SimS} {t : TaskId} {time fuzzed a : Int} {g : GraphS} {x : TaskS} (h : PI γ s)
    (hg : s.graphs[t.g]? = some g) (hx : g.task? t.t = some x) (hstart : (x.doStart time fuzzed).2 = none)
    (hr : (x.doStart time fuzzed).1.remainingTime = .ok a) (ha0 : ¬ (a == 0) = true)
    (es : List LogE) (hes : ∀ e ∈ es, ∀ c, pg_sk e ≠ some (some c))
    (hl : s'.log = es.foldl Array.push s.log := by rfl)
    (hgr : s'.graphs = s.graphs.setIfInBounds t.g (g.setTask t.t (x.doStart time fuzzed).1) := by rfl)
    (hq : s'.queue = s.queue := by rfl) (hfu : s'.future = s.future := by rfl)
    (hns : s'.nextSched = s.nextSched := by rfl) (hid : s'.nextEid = s.nextEid := by rfl)
    (hj : s'.jobs = s.jobs := by rfl) (hn : s'.now = s.now := by rfl) (ha : s'.allGraphs = s.allGraphs := by rfl) :
    PI γ s' := by
  obtain ⟨_, _, k1, _, _, k4, k5⟩ := doStart_ok x time fuzzed hstart
  have hrem : (x.doStart time fuzzed).1.remaining ≠ some 0 := by
    simp only [TaskS.remainingTime, k1, k4] at hr
    cases hr
    rw [k4]
    intro he; cases he; exact ha0 rfl
  exact ⟨PG.setTask t _ h.inv hg hx k5 (by rw [hq, hfu, hns, hid]; exact h.inv.eids)
    (fun e he _ _ => by rw [hq]; exact he) (fun _ hr => absurd hr hrem) (LG.logs es hes hl h.inv.lg) hgr hn ha hj,
    fun e he => hn ▸ h.due e he⟩

/-- **The task started with no work left: its TASK_FINISHED event is created at once**, stamped with the time of the
popped event, which is not later than the clock. -/
theorem PI.placeNow {γ : Ghost} {s s' : SimS} {t : TaskId} {time fuzzed : Int} {g : GraphS} {x : TaskS} {ev : SEvent}
    {name : Option String} {owed : List TaskId} (h : PI γ s)
    (hg : s.graphs[t.g]? = some g) (hx : g.task? t.t = some x) (hstart : (x.doStart time fuzzed).2 = none)
    (hcur : γ.cur = some ev) (htime : time = ev.ev.time)
    (es : List LogE) (hes : ∀ e ∈ es, ∀ c, pg_sk e ≠ some (some c))
    (hl : s'.log = es.foldl Array.push s.log := by rfl)
    (hgr : s'.graphs = s.graphs.setIfInBounds t.g (g.setTask t.t (x.doStart time fuzzed).1) := by rfl)
    (hq : s'.queue = s.queue := by rfl) (hfu : s'.future = s.future := by rfl)
    (hns : s'.nextSched = s.nextSched := by rfl) (hid : s'.nextEid = s.nextEid + 1 := by rfl)
    (hj : s'.jobs = s.jobs := by rfl) (hn : s'.now = s.now := by rfl) (ha : s'.allGraphs = s.allGraphs := by rfl) :
    PI ⟨γ.cur, γ.ex ++ [eventAt s ET.taskFinished time name (some t)], owed⟩ s' := by
  have hp : (s'.queue.toList ++ (γ.cur.toList ++ (γ.ex ++ [eventAt s ET.taskFinished time name (some t)]))).Perm
      (eventAt s ET.taskFinished time name (some t) :: (s.queue.toList ++ (γ.cur.toList ++ γ.ex))) := by
    rw [hq]; exact perm_snoc ..
  refine ⟨PG.setTask t _ h.inv hg hx (doStart_ok x time fuzzed hstart).2.2.2.2.2.2 ?_ (fun e he _ _ => hp.symm.subset (List.mem_cons_of_mem _ he))
    (fun _ _ => ⟨eventAt s ET.taskFinished time name (some t), ?_, rfl, rfl, by rw [htime]; exact h.due ev hcur⟩) (LG.logs es hes hl h.inv.lg) hgr hn ha hj,
    fun e he => hn ▸ h.due e he⟩
  · rw [hfu, hns, hid]; exact h.inv.eids.fresh rfl fun e he => (List.mem_cons.mp (hp.subset he)).symm
  · exact hp.symm.subset List.mem_cons_self

/-- **TASK_FINISHED**: `remove_task` and `Task.finish` succeeded on the task of the popped event, which is accounted for:
its task has left RUNNING, and no other task's obligation rests on it. -/
theorem PI.finish {γ : Ghost} {s s' : SimS} {t : TaskId} {e0 : SEvent} {g : GraphS} {x : TaskS} (h : PI γ s)
    (hcur : γ.cur = some e0) (htid : e0.tid = some t) (hg : s.graphs[t.g]? = some g) (hx : g.task? t.t = some x)
    (hfin : (x.call (.finish none)).2 = none)
    (es : List LogE) (hes : ∀ e ∈ es, ∀ c, pg_sk e ≠ some (some c))
    (hl : s'.log = es.foldl Array.push s.log := by rfl)
    (hgr : s'.graphs = s.graphs.setIfInBounds t.g (g.setTask t.t (x.call (.finish none)).1) := by rfl)
    (hq : s'.queue = s.queue := by rfl) (hfu : s'.future = s.future := by rfl)
    (hns : s'.nextSched = s.nextSched := by rfl) (hid : s'.nextEid = s.nextEid := by rfl)
    (hj : s'.jobs = s.jobs := by rfl) (hn : s'.now = s.now := by rfl) (ha : s'.allGraphs = s.allGraphs := by rfl) :
    PI { γ with cur := none } s' := by
  obtain ⟨hnr, hpre⟩ := doFinish_ok x hfin
  have hi := h.inv
  rw [hcur] at hi
  have hi : PG none (e0 :: γ.ex) s := hi
  refine ⟨PG.setTask t _ hi hg hx hpre ?_ ?_ (fun hs => absurd hs hnr) (LG.logs es hes hl hi.lg) hgr hn ha hj,
    fun _ he => nomatch he⟩
  · rw [hq, hfu, hns, hid]
    exact hi.eids.benign (fun _ he _ => List.perm_middle.symm.subset (List.mem_cons_of_mem _ he)) (fun _ h' => .inl h') (Nat.le_refl _)
  · intro e he _ hne
    rw [hq]
    rcases List.mem_append.mp he with h1 | h1
    · exact List.mem_append_left _ h1
    · exact List.mem_append_right _ ((List.mem_cons.mp h1).resolve_left fun h2 => hne (h2 ▸ htid))

theorem PI.move {γ γ' : Ghost} {s s' : SimS} (h : PI γ s) (mv : EvMove γ s γ' s')
    (hcur : ∀ e, γ'.cur = some e → γ.cur = some e)
    (hnf : ∀ e, γ.cur = some e → γ'.cur = none → e.ev.etype ≠ ET.taskFinished := by
      exact fun _ h1 h2 => nomatch h1.symm.trans h2)
    (es : List LogE := []) (hes : ∀ e ∈ es, ∀ c, pg_sk e ≠ some (some c) := by exact fun _ h => nomatch h)
    (hl : s'.log = es.foldl Array.push s.log := by rfl) (hid : s'.nextEid = s.nextEid := by rfl)
    (hg : s'.graphs = s.graphs := by rfl) (hj : s'.jobs = s.jobs := by rfl) (hn : s'.now = s.now := by rfl)
    (ha : s'.allGraphs = s.allGraphs := by rfl) : PI γ' s' :=
  h.step es hes (hg ▸ TRel.refl _) (mv.sub h.inv.eids.notKept)
    (fun e he hf => (mv.sup h.inv.eids.notKept e he hf).resolve_right fun ⟨h1, h2⟩ => hnf e h1 h2 hf) mv.ids.ef
    (Nat.le_of_eq hid.symm) (hj ▸ fun j hj => ⟨j, hj, rfl⟩) hl hn ha hcur

theorem PI.closed : Closed PI fun _ => True where
  weak _ := trivial
  abort _ _ := trivial
  act {γ _ _ _} a h := by
    have mv := a.moves
    have hcs := a.cur_sub
    cases a with
    | row | draw | followUp | pool | schedDone | add | perm | edit | repend | unqueue | uncache | schedStart | schedRun =>
      exact h.move (mv rfl) hcs
    | pop => exact h.move (mv rfl) hcs (es := [.pop _ _]) (hes := by simp [pg_sk])
    | log e he => exact h.move (mv rfl) hcs (es := [e]) (hes := by simp [LogE.routine_sk he])
    -- the popped event is let go
    | done ev hcur _ hfin => exact h.move (mv rfl) hcs fun _ h1 _ => Option.some.inj (hcur.symm.trans h1) ▸ hfin
    | countCancel ev _ hcur hty =>
      exact h.move (mv rfl) hcs fun _ h1 _ => Option.some.inj (hcur.symm.trans h1) ▸ (by rw [hty]; decide)
    | simEnd ev hcur hty =>
      exact h.move (mv rfl) hcs fun _ h1 _ => Option.some.inj (hcur.symm.trans h1) ▸ (by rw [hty]; decide)
    | call t c gr x hg hx hc =>
      exact h.step (hg := h.inv.trel hg fun hp =>
        RFrame.setTask gr _ x _ hx (call_TR x c (hp _ x hx) (TaskCall.routine_isQuiet hc)))
    | cancelGraph _ _ _ _ _ _ hg => exact h.step (hg := h.inv.trel hg (GraphS.rframe_cancel _ _ _))
    | cancelPlaced _ _ _ _ _ hg =>
      exact h.step (hg := h.inv.trel hg (GraphS.rframe_cancel _ _ _)) (hef := fun x hx => .inl (EF_erase _ _ _ x hx))
    | notifyGraph _ _ _ _ _ hg => exact h.step (hg := h.inv.trel hg (GraphS.rframe_notifyCompletion _ _ _ _))
    | follow gi tape m j start d hm hj =>
      have hjm := Array.mem_toList_iff.mpr (Array.mem_of_getElem? hj)
      exact h.step (hg := TRel.push _ _ (quiet_instantiate _ _ _ (fun _ _ => ⟨rfl, rfl⟩) (h.inv.tmplQ j hjm)))
        (hj := fun j' hj' => (Array.mem_or_eq_of_mem_setIfInBounds (Array.mem_toList_iff.mp hj')).elim
          (fun h1 => ⟨j', Array.mem_toList_iff.mpr h1, rfl⟩) fun h1 => ⟨j, hjm, by rw [h1]⟩)
    | load => exact h.load
    | mk _ _ _ _ _ _ hfin => exact h.made hfin
    | mkCached => exact h.made (by decide) (EF_set _ _ _ _)
    | mkSched _ _ hty => exact h.made (by rw [hty]; decide) (EF_some _ _ _)
    | payCancel => exact h.made (by decide) (es := [.cancel _ _]) (hes := by simp [pg_sk])
    | retry =>
      exact h.step (hq := made_sub (perm_heappush ..) (Nat.ne_of_beq_eq_false rfl)) (hq2 := made_sup (perm_heappush ..))
        (hef := ef_fresh (EF_set _ _ _ _)) (hid := Nat.le_succ _)
    | place _ _ _ _ _ _ _ _ _ _ _ hP hstart _ _ _ hr ha =>
      exact h.place hP.hg hP.hx hstart hr ha [.place _ _ _, .start _ _ _ _] (by simp [pg_sk])
    | placeNow _ _ _ _ _ _ _ _ _ _ _ _ hP hstart _ hcur htime =>
      exact h.placeNow hP.hg hP.hx hstart hcur htime [.place _ _ _, .start _ _ _ _] (by simp [pg_sk])
    | finish _ _ _ _ _ _ _ hcur _ htid _ hfin hx hg =>
      exact h.finish hcur htid hg hx hfin [.remove _ _ _, .finish _ _] (by simp [pg_sk])

end ErdosVerif.Model.Sim
