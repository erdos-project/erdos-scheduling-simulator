import ErdosVerif.Lemmas.SimResidentCore
/-!
The residency / exact-runtime invariant of the simulator state (`AP`), its weak form
that also holds at the raise point of an aborted handler (`WInv`), and the state-level
update lemmas.
-/
namespace ErdosVerif.Model.Sim

/-- A RUNNING task has been stepped up to the current clock, and
`start + remaining-at-start = now + remaining`, where the remaining time at the start is
the one recorded in the task's `.start` entry of the history log. -/
def RunOK (now : Int) (log : List LogE) (t : TaskId) (x : TaskS) : Prop :=
  ∃ r, x.remaining = some r ∧ 0 ≤ r ∧ x.lastStep = now ∧ x.start ≤ now ∧
    ∃ r0 pid, LogE.start t x.start r0 pid ∈ log ∧ x.start + r0 = now + r

/-- In the middle of `__step(dt)`: the task has either not been stepped yet (and `dt` does
not exceed its remaining time) or has been stepped to `now + dt`. -/
def RunMid (dt : Int) (now : Int) (log : List LogE) (t : TaskId) (x : TaskS) : Prop :=
  ∃ r, x.remaining = some r ∧ 0 ≤ r ∧ x.start ≤ now ∧
    (∃ r0 pid, LogE.start t x.start r0 pid ∈ log ∧ x.start + r0 = x.lastStep + r) ∧
    ((x.lastStep = now ∧ dt ≤ r) ∨ x.lastStep = now + dt)

def LogMono (P : Int → List LogE → TaskId → TaskS → Prop) : Prop :=
  ∀ now l l' t x, (∀ e ∈ l, e ∈ l') → P now l t x → P now l' t x

theorem logMono_RunOK : LogMono RunOK := by
  intro now l l' t x hsub ⟨r, h1, h2, h3, h4, r0, pid, h5, h6⟩
  exact ⟨r, h1, h2, h3, h4, r0, pid, hsub _ h5, h6⟩

theorem logMono_RunMid (dt : Int) : LogMono (RunMid dt) := by
  intro now l l' t x hsub ⟨r, h1, h2, h3, ⟨r0, pid, h5, h6⟩, h7⟩
  exact ⟨r, h1, h2, h3, ⟨r0, pid, hsub _ h5, h6⟩, h7⟩

/-- **Every `.finish t τ` entry is preceded by a `.start t σ r _` entry with `τ = σ + r`.** -/
def LogOK (l : List LogE) : Prop :=
  ∀ (i : Nat) (t : TaskId) (τ : Int), l[i]? = some (LogE.finish t τ) →
    ∃ j : Nat, j < i ∧ ∃ σ r pid, l[j]? = some (LogE.start t σ r pid) ∧ τ = σ + r

theorem LogOK.nil : LogOK [] := by intro i t τ h; simp at h

theorem LogOK.push (l : List LogE) (e : LogE) (h : LogOK l)
    (he : ∀ t τ, e = LogE.finish t τ → ∃ σ r pid, LogE.start t σ r pid ∈ l ∧ τ = σ + r) : LogOK (l ++ [e]) := by
  intro i t τ hi
  by_cases hlt : i < l.length
  · rw [List.getElem?_append_left hlt] at hi
    obtain ⟨j, hj, σ, r, pid, h1, h2⟩ := h i t τ hi
    exact ⟨j, hj, σ, r, pid, by rw [List.getElem?_append_left (by omega)]; exact h1, h2⟩
  · have hge : l.length ≤ i := by omega
    rw [List.getElem?_append_right hge] at hi
    have hi0 : i - l.length = 0 := by
      cases hk : i - l.length with
      | zero => rfl
      | succ k => rw [hk] at hi; simp at hi
    rw [hi0] at hi
    simp only [List.getElem?_cons_zero, Option.some.injEq] at hi
    obtain ⟨σ, r, pid, hm, hτ⟩ := he t τ hi
    obtain ⟨j, hj, hje⟩ := List.getElem_of_mem hm
    refine ⟨j, by omega, σ, r, pid, ?_, hτ⟩
    rw [List.getElem?_append_left hj, List.getElem?_eq_getElem hj, hje]

theorem LogOK.append (l es : List LogE) (h : LogOK l) (he : ∀ e ∈ es, ∀ t τ, e ≠ LogE.finish t τ) : LogOK (l ++ es) := by
  induction es generalizing l with
  | nil => simpa using h
  | cons e es ih =>
    have : l ++ e :: es = (l ++ [e]) ++ es := by simp
    rw [this]
    apply ih
    · apply LogOK.push l e h
      intro t τ het
      exact absurd het (he e (List.mem_cons_self ..) t τ)
    · intro e' he'; exact he e' (List.mem_cons_of_mem _ he')

/-- The event ids the simulator keeps for later in-place edits: the cached placement
events (`_future_placement_events`) and the pending scheduler start. -/
def EF (fut : AList TaskId Nat) (ns : Option Nat) (x : Nat) : Prop := (∃ t, (t, x) ∈ fut) ∨ ns = some x

/-- No TASK_FINISHED event can be reached through a kept event id (so `editEvent` never
re-times one), and ids are below the counter. -/
structure EInv (q : List SEvent) (fut : AList TaskId Nat) (ns : Option Nat) (nid : Nat) : Prop where
  efLt : ∀ x, EF fut ns x → x < nid
  finLt : ∀ e ∈ q, e.ev.etype = ET.taskFinished → e.ev.eid < nid
  finNotEF : ∀ e ∈ q, e.ev.etype = ET.taskFinished → ¬ EF fut ns e.ev.eid

theorem EInv.mono {q q' : List SEvent} {fut fut' : AList TaskId Nat} {ns ns' : Option Nat} {nid nid' : Nat}
    (h : EInv q fut ns nid) (hid : nid ≤ nid')
    (hq : ∀ e ∈ q', e.ev.etype = ET.taskFinished → e ∈ q ∨ (e.ev.eid < nid' ∧ ¬ EF fut' ns' e.ev.eid))
    (hef : ∀ x, EF fut' ns' x →
      x < nid' ∧ (EF fut ns x ∨ ∀ e ∈ q, e.ev.etype = ET.taskFinished → e.ev.eid ≠ x)) :
    EInv q' fut' ns' nid' := by
  refine ⟨fun x hx => (hef x hx).1, ?_, ?_⟩
  · intro e he hf
    rcases hq e he hf with h1 | h1
    · exact Nat.lt_of_lt_of_le (h.finLt e h1 hf) hid
    · exact h1.1
  · intro e he hf hx
    rcases hq e he hf with h1 | h1
    · rcases (hef _ hx).2 with h2 | h2
      · exact h.finNotEF e h1 hf h2
      · exact h2 e h1 hf rfl
    · exact h1.2 hx

theorem EInv.benign {q q' : List SEvent} {fut fut' : AList TaskId Nat} {ns ns' : Option Nat} {nid nid' : Nat}
    (h : EInv q fut ns nid)
    (hq : ∀ e ∈ q', e.ev.etype = ET.taskFinished → e ∈ q)
    (hef : ∀ x, EF fut' ns' x → EF fut ns x ∨ (nid ≤ x ∧ x < nid'))
    (hid : nid ≤ nid') : EInv q' fut' ns' nid' := by
  refine h.mono hid (fun e he hf => Or.inl (hq e he hf)) fun x hx => ?_
  rcases hef x hx with h1 | h1
  · exact ⟨Nat.lt_of_lt_of_le (h.efLt x h1) hid, Or.inl h1⟩
  · exact ⟨h1.2, Or.inr fun e he hf => Nat.ne_of_lt (Nat.lt_of_lt_of_le (h.finLt e he hf) h1.1)⟩

theorem EInv.q_add {q q' : List SEvent} {fut : AList TaskId Nat} {ns : Option Nat} {nid : Nat}
    (h : EInv q fut ns nid) (e0 : SEvent) (hq : ∀ e ∈ q', e ∈ q ∨ e = e0)
    (he0 : e0.ev.etype = ET.taskFinished → e0.ev.eid < nid ∧ ¬ EF fut ns e0.ev.eid) : EInv q' fut ns nid :=
  h.mono (Nat.le_refl _) (fun e he hf => (hq e he).imp_right fun h1 => by subst h1; exact he0 hf)
    fun x hx => ⟨h.efLt x hx, Or.inl hx⟩

theorem EInv.fresh {q q' : List SEvent} {fut : AList TaskId Nat} {ns : Option Nat} {nid : Nat} (h : EInv q fut ns nid)
    {e0 : SEvent} (heid : e0.ev.eid = nid) (hq : ∀ e ∈ q', e ∈ q ∨ e = e0) : EInv q' fut ns (nid + 1) :=
  h.mono (Nat.le_succ _)
    (fun e he _ => (hq e he).imp_right fun h1 => by
      rw [h1, heid]; exact ⟨Nat.lt_succ_self _, fun hx => Nat.lt_irrefl _ (h.efLt _ hx)⟩)
    fun x hx => ⟨Nat.lt_succ_of_lt (h.efLt x hx), Or.inl hx⟩

/-- The invariant, parametrised by what is known of the RUNNING tasks (`RunOK` between
handlers, `RunMid dt` inside `__step(dt)`) and by the events that exist but are not in
the queue at the moment (`ex`: the event that was popped and is being handled; the events a
handler or `__step` has created and not yet queued). -/
structure AP (P : Int → List LogE → TaskId → TaskS → Prop) (ex : List SEvent) (s : SimS) : Prop where
  core : Core (views s.pools) (pmaps s.pools) (taskAt s.graphs) (P s.now s.log.toList) (s.queue.toList ++ ex)
  log : LogOK s.log.toList
  eids : EInv (s.queue.toList ++ ex) s.future s.nextSched s.nextEid
  allQ : ∀ g ∈ s.allGraphs.toList, g.Quiet
  tmplQ : ∀ j ∈ s.jobs.toList, j.template.Quiet
  loader : s.loaderReleased = false → s.graphs = #[] ∧ s.metas = #[]

/-- **The residency and exact-runtime invariant** (holds whenever a handler returns). -/
abbrev AInv (s : SimS) : Prop := AP RunOK [] s

/-- What also holds at the raise point of an aborted handler: single residency, every
RUNNING task is resident, and the log property. (Not: every resident task is RUNNING —
`__handle_task_placement` places the task on the worker before `Task.start`, which can
still raise.) -/
structure WInv (s : SimS) : Prop where
  wnodup : ∀ pi i ks, Wk (views s.pools) pi i = some ks → ks.Nodup
  single : ∀ pi i pj j n, At (views s.pools) pi i n → At (views s.pools) pj j n → pi = pj ∧ i = j
  runRes : ∀ t x, taskAt s.graphs t = some x → x.state = .running → ∃ pi i, At (views s.pools) pi i (gid t)
  log : LogOK s.log.toList

theorem AP.weak {P : Int → List LogE → TaskId → TaskS → Prop} {ex : List SEvent} {s : SimS} (h : AP P ex s) : WInv s :=
  ⟨h.core.wnodup, h.core.single, h.core.runRes, h.log⟩

/-- Everything a handler does that leaves the RUNNING tasks, the
residency views and the clock alone: new rows, new non-`.finish` log entries, fresh events
of other types, edits of non-TASK_FINISHED events, removing events, `RFrame` changes of
task graphs, new task graphs, changes of the kept event ids. -/
theorem AP.benign {P : Int → List LogE → TaskId → TaskS → Prop} (hPm : LogMono P) {ex ex' : List SEvent}
    (s s' : SimS) (h : AP P ex s)
    (hv : views s'.pools = views s.pools) (hm : pmaps s'.pools = pmaps s.pools)
    (hg : TRel (taskAt s.graphs) (taskAt s'.graphs))
    (hn : s'.now = s.now)
    (hl : ∃ es, s'.log.toList = s.log.toList ++ es ∧ ∀ e ∈ es, ∀ t τ, e ≠ LogE.finish t τ)
    (hq : ∀ e ∈ s'.queue.toList ++ ex', e.ev.etype = ET.taskFinished → e ∈ s.queue.toList ++ ex)
    (hef : ∀ x, EF s'.future s'.nextSched x → EF s.future s.nextSched x ∨ (s.nextEid ≤ x ∧ x < s'.nextEid))
    (hid : s.nextEid ≤ s'.nextEid)
    (ha : s'.allGraphs = s.allGraphs) (hj : ∀ j ∈ s'.jobs.toList, j.template.Quiet)
    (hld : s'.loaderReleased = false → s'.graphs = #[] ∧ s'.metas = #[]) : AP P ex' s' := by
  obtain ⟨es, hes, hnf⟩ := hl
  refine ⟨?_, ?_, ?_, ?_, hj, hld⟩
  · rw [hv, hm, hn, hes]
    refine ((h.core.trel hg).mono_P ?_).q_sub hq
    intro t x _ _ hp
    exact hPm _ _ _ t x (fun e he => List.mem_append_left _ he) hp
  · rw [hes]; exact LogOK.append _ _ h.log hnf
  · exact h.eids.benign hq hef hid
  · rw [ha]; exact h.allQ

theorem AP.frame {P : Int → List LogE → TaskId → TaskS → Prop} (hPm : LogMono P) {ex ex' : List SEvent} (s s' : SimS)
    (h : AP P ex s) (hmem : ∀ e' ∈ s'.queue.toList ++ ex', e' ∈ s.queue.toList ++ ex)
    (hv : views s'.pools = views s.pools) (hpm : pmaps s'.pools = pmaps s.pools)
    (hg : s'.graphs = s.graphs) (hn : s'.now = s.now) (hl : s'.log = s.log)
    (hfu : s'.future = s.future) (hns : s'.nextSched = s.nextSched)
    (hid : s'.nextEid = s.nextEid) (ha : s'.allGraphs = s.allGraphs) (hj : s'.jobs = s.jobs)
    (hlr : s'.loaderReleased = s.loaderReleased) (hm : s'.metas = s.metas) : AP P ex' s' :=
  AP.benign hPm s s' h hv hpm (hg ▸ TRel.refl _) hn ⟨[], by rw [hl, List.append_nil], fun _ h => nomatch h⟩
    (fun e he _ => hmem e he) (by rw [hfu, hns]; exact fun _ h => .inl h) (Nat.le_of_eq hid.symm) ha (hj ▸ h.tmplQ)
    (by rw [hlr, hg, hm]; exact h.loader)

theorem AP.finEvent {P : Int → List LogE → TaskId → TaskS → Prop} {ex ex' : List SEvent} {s s' : SimS} (h : AP P ex s)
    {e : SEvent} {t : TaskId} {x : TaskS} (hT : taskAt s.graphs t = some x) (hrun : x.state = .running)
    (hdue : ∀ r, x.remaining = some r → e.ev.time = x.lastStep + r) (htid : e.tid = some t)
    (heid : e.ev.eid = s.nextEid)
    (hmem : ∀ e' ∈ s'.queue.toList ++ ex', e' ∈ s.queue.toList ++ ex ∨ e' = e)
    (hid : s'.nextEid = s.nextEid + 1 := by rfl)
    (hp : s'.pools = s.pools := by rfl) (hg : s'.graphs = s.graphs := by rfl) (hn : s'.now = s.now := by rfl)
    (hl : s'.log = s.log := by rfl) (hfu : s'.future = s.future := by rfl)
    (hns : s'.nextSched = s.nextSched := by rfl) (ha : s'.allGraphs = s.allGraphs := by rfl)
    (hj : s'.jobs = s.jobs := by rfl) (hlr : s'.loaderReleased = s.loaderReleased := by rfl)
    (hm : s'.metas = s.metas := by rfl) : AP P ex' s' := by
  refine ⟨?_, ?_, ?_, ?_, ?_, ?_⟩
  · rw [hp, hg, hn, hl]
    refine h.core.q_add e hmem fun _ u hu => ?_
    rw [htid] at hu; cases hu
    exact ⟨x, hT, Or.inl hrun, fun _ => hdue⟩
  · rw [hl]; exact h.log
  · rw [hfu, hns, hid]
    exact h.eids.fresh heid hmem
  · rw [ha]; exact h.allQ
  · rw [hj]; exact h.tmplQ
  · rw [hlr, hg, hm]; exact h.loader

end ErdosVerif.Model.Sim
