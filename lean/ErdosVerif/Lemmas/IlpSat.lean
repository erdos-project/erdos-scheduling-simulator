/-
What `sat σ (gen I)` says about the ILP scheduler's model, in semantic form (values of the
start / placement / demand expressions), read off the generator once as an equivalence:
`holds_constrs_iff` (the rows, `Rows I σ`), `holds_vars_iff` (the declarations, `Bounds I σ`), `sat_iff`.
Everything that starts from a feasible point reads the constraints through the fields `(rows h).…`,
`(bounds h).…`; the converse direction (`Lemmas/IlpComplete.lean`) is the other half of the same
equivalence.  The shapes of the row blocks (`holds_overlapRows`, `holds_depsRows`, `holds_varDecls`)
and `isum_le_of_pairwise_rows` are shared with the batching model; the sums are those of `Lemmas/Isum.lean`.
-/
import ErdosVerif.Model.Ilp
import ErdosVerif.Lemmas.Isum
namespace ErdosVerif.Ilp
open ErdosVerif.Mip

attribute [local simp] Constr.holds Sense.holds

/-- **Pairwise capacity rows bound the load at an instant.**  `dem t` is what index `t` contributes
to the load (nothing unless `t` is `act`ive, i.e. occupies the instant, and then at most its charge
`d t`); the row of index `a` charges `d a` plus `d t * o a t` for every other index selected by `q`;
two active indices have `o = 1`.  Then the row of ANY contributing index bounds the whole load: the
others either contribute nothing or are active together with it.  (The filter in `row` is the body of `Inst.others` /
`BInst.others` written out: both models match it by unfolding.) -/
theorem isum_le_of_pairwise_rows {n : Nat} {dem d : Nat → Int} {o : Nat → Nat → Int} {q : Nat → Bool}
    {act : Nat → Prop} {cap : Int} (hcap : 0 ≤ cap)
    (hact : ∀ t, t < n → dem t ≠ 0 → act t ∧ q t = true)
    (hle : ∀ t, t < n → dem t ≤ d t)
    (ho : ∀ a b, a < n → b < n → b ≠ a → 0 ≤ o a b)
    (hov : ∀ a b, a < n → b < n → b ≠ a → act a → act b → o a b = 1)
    (row : ∀ a, a < n → dem a ≠ 0 →
      d a + isum (((List.range n).filter fun t => t != a && q t).map fun t => d t * o a t) ≤ cap) :
    isum ((List.range n).map dem) ≤ cap := by
  by_cases hz : isum ((List.range n).map dem) = 0
  · rw [hz]; exact hcap
  obtain ⟨a, ham, hda⟩ := exists_of_isum_ne_zero hz
  have ha := List.mem_range.mp ham
  refine Int.le_trans ?_ (row a ha hda)
  have e : d a = isum ((List.range n).map fun t => if t = a then d a else 0) := by
    rw [isum_range_indicator, if_pos ha]
  rw [isum_filter, e, ← isum_map_add]
  refine isum_map_le fun t ht => ?_
  have ht := List.mem_range.mp ht
  by_cases hta : t = a
  · subst hta; simpa using hle t ht
  · by_cases hdt : dem t = 0
    · have h0 : 0 ≤ d t := hdt ▸ hle t ht
      have := Int.mul_nonneg h0 (ho a t ha ht hta)
      simp only [hta, if_false, Int.zero_add, hdt]
      split <;> omega
    · have h1 := hact t ht hdt
      simpa [hta, h1.2, hov a t ha ht hta (hact a ha hda).1 h1.1] using hle t ht

section
variable {σ : Var → Int}

/-- The rows `_overlaps` emits for a pair (both models), over the variables `A` ("starts after"),
`B` ("ends before") and `O`. -/
theorem holds_overlapRows (dep : Bool) {A B O : Var} {ea eb : LinExpr Var} {n₀ n₁ n₂ n₃ n₄ n₅ : String} :
    (∀ c ∈ (if dep then [Constr.lin n₀ (.ofVar O) .eq 0] else
        [.ind n₁ A 0 ea .le 0, .ind n₂ A 1 ea .ge 1, .ind n₃ B 0 eb .ge 0, .ind n₄ B 1 eb .le (-1),
          .lin n₅ (.add (.add (.ofVar A) (.ofVar B)) (.ofVar O)) .eq 1]), c.holds σ) ↔
      if dep then σ O = 0 else
        (σ A = 0 → ea.eval σ ≤ 0) ∧ (σ A = 1 → 1 ≤ ea.eval σ) ∧ (σ B = 0 → 0 ≤ eb.eval σ) ∧
        (σ B = 1 → eb.eval σ ≤ -1) ∧ σ A + σ B + σ O = 1 := by
  cases dep <;> simp

/-- What the five rows say of `_overlaps`: `A` is forced to "the other starts after this one ends", `B` to "it ends before
this one starts", and `O = 1 - A - B` is 1 exactly when neither holds. -/
theorem overlap_of_rows {A B O ea eb : Int} (hA : A = 0 ∨ A = 1) (hB : B = 0 ∨ B = 1) (hO : O = 0 ∨ O = 1)
    (r : (A = 0 → ea ≤ 0) ∧ (A = 1 → 1 ≤ ea) ∧ (B = 0 → 0 ≤ eb) ∧ (B = 1 → eb ≤ -1) ∧ A + B + O = 1) :
    O = if 1 ≤ ea ∨ eb ≤ -1 then 0 else 1 := by
  obtain ⟨r1, r2, r3, r4, r5⟩ := r
  have ha := hA.imp (fun a => And.intro a (r1 a)) fun a => And.intro a (r2 a)
  have hb := hB.imp (fun b => And.intro b (r3 b)) fun b => And.intro b (r4 b)
  split <;> omega

/-- The rows `_add_task_dependency_constraints` emits for one task (both models): the precedence
rows `rows p` of every parent variable, and the three rows on the `all_parents_placed` indicator `P`. -/
theorem holds_depsRows {α : Type} (pv : List α) (rows : α → List (Constr Var)) {P : Var} {e sx : LinExpr Var}
    {n : Int} {n₁ n₂ n₃ : String} :
    (∀ c ∈ (if pv.isEmpty then [] else pv.flatMap rows ++
        [Constr.ind n₁ P 0 e .le (n - 1), .ind n₂ P 1 e .eq n, .ind n₃ P 0 sx .eq 0]), c.holds σ) ↔
      (pv ≠ [] → (∀ p ∈ pv, ∀ c ∈ rows p, c.holds σ) ∧
        (σ P = 0 → e.eval σ ≤ n - 1) ∧ (σ P = 1 → e.eval σ = n) ∧ (σ P = 0 → sx.eval σ = 0)) := by
  by_cases hne : pv = []
  · simp [hne]
  · simp only [List.isEmpty_iff, hne, if_false, ne_eq, not_false_eq_true, true_implies,
      List.forall_mem_append, List.forall_mem_flatMap]
    exact and_congr_right fun _ => by simp

end

theorem mem_keys {I : Inst} {t w s : Nat} : (w, s) ∈ I.keys t ↔ w < I.nW ∧ s < (I.task t).nS := by
  simp [Inst.keys, List.mem_flatMap, List.mem_map, List.mem_range]

theorem forall_mem_keys {I : Inst} {t : Nat} {P : Nat → Nat → Prop} :
    (∀ k ∈ I.keys t, P k.1 k.2) ↔ ∀ w s, w < I.nW → s < (I.task t).nS → P w s :=
  ⟨fun h w s hw hs => h (w, s) (mem_keys.mpr ⟨hw, hs⟩),
    fun h k hk => h k.1 k.2 (mem_keys.mp hk).1 (mem_keys.mp hk).2⟩

theorem mem_nonRunning {I : Inst} {t : Nat} : t ∈ I.nonRunning ↔ t < I.nT ∧ I.running t = false := by
  simp [Inst.nonRunning, List.mem_filter, List.mem_range]

theorem runtime_nonneg (I : Inst) (t s : Nat) : 0 ≤ I.runtime t s := by simp [Inst.runtime]

theorem running_eq_false_of_scheduled {I : Inst} {t : Nat} (hs : (I.task t).state = .scheduled) :
    I.running t = false := by
  simp [Inst.running, TaskI.running, hs]

theorem mem_pairs {I : Inst} {a b : Nat} : (a, b) ∈ I.pairs ↔ a < I.nT ∧ b < I.nT ∧ b ≠ a := by
  simp [Inst.pairs, List.mem_flatMap, List.mem_map, List.mem_filter, List.mem_range]

theorem mem_parentVars {I : Inst} {c p : Nat} :
    p ∈ I.parentVars c ↔ p < I.nT ∧ I.edges.contains ((I.task p).uniq, (I.task c).uniq) = true := by
  simp [Inst.parentVars, List.mem_filter, List.mem_range]

theorem mem_rewardTasks_lt {I : Inst} {g : String} {t : Nat} (h : t ∈ I.rewardTasks g) : t < I.nT := by
  simp only [Inst.rewardTasks, List.mem_filter, List.mem_range] at h
  exact h.1

theorem isum_keys_indicator (I : Inst) (t w0 s0 : Nat) (c : Int) :
    isum ((I.keys t).map fun k => if k.1 = w0 ∧ k.2 = s0 then c else 0) =
      if w0 < I.nW ∧ s0 < (I.task t).nS then c else 0 := by
  unfold Inst.keys
  rw [isum_flatMap, isum_map_eq (g := fun w => if w = w0 then (if s0 < (I.task t).nS then c else 0) else 0),
    isum_range_indicator]
  · by_cases ha : w0 < I.nW <;> simp [ha]
  · intro w _
    rw [List.map_map]
    by_cases hw : w = w0
    · simp [Function.comp_def, hw, isum_range_indicator]
    · exact (isum_map_zero fun s _ => by simp [hw]).trans (by simp [hw])

theorem wfRunning_spec {I : Inst} (h : I.wfRunning = true) {t : Nat} (ht : t < I.nT)
    (hr : I.running t = true) : (I.task t).prevW < I.nW ∧ (I.task t).prevS < (I.task t).nS := by
  simp only [Inst.wfRunning, List.all_eq_true, List.mem_range] at h
  have := h t ht
  simp [hr] at this
  exact ⟨this.1.1.1, this.1.1.2⟩

theorem wfRunning_compat {I : Inst} (h : I.wfRunning = true) {t : Nat} (ht : t < I.nT)
    (hr : I.running t = true) :
    compatible (I.worker (I.task t).prevW) ((I.task t).strat (I.task t).prevS) = true ∧
    I.parentVars t = [] := by
  simp only [Inst.wfRunning, List.all_eq_true, List.mem_range] at h
  have := h t ht
  simp [hr] at this
  exact ⟨this.1.2, this.2⟩

theorem wfParents_spec {I : Inst} (h : I.wfParents = true) {c : Nat} (hc : c < I.nT) :
    (I.parentVars c).length ≤ I.nParents c := by
  simp only [Inst.wfParents, List.all_eq_true, List.mem_range] at h
  simpa using h c hc

/-- Value of `placed_on_worker_with_strategy(w, s)` under `σ` (constants for RUNNING tasks
and incompatible pairs). -/
def xval (I : Inst) (σ : Var → Int) (t w s : Nat) : Int := (I.xE t w s).eval σ
/-- Value of the start expression (`now` for a RUNNING task). -/
def sval (I : Inst) (σ : Var → Int) (t : Nat) : Int := (I.startE t).eval σ
/-- `Σ x[w,s]`. -/
def psum (I : Inst) (σ : Var → Int) (t : Nat) : Int := isum ((I.keys t).map (fun k => xval I σ t k.1 k.2))
/-- `Σ x[w,s] * runtime(s)`. -/
def dur (I : Inst) (σ : Var → Int) (t : Nat) : Int :=
  isum ((I.keys t).map (fun k => I.runtime t k.2 * xval I σ t k.1 k.2))
def qreq (I : Inst) (t s : Nat) (r : String) : Nat := qty ((I.task t).strat s).req r
/-- Value of the demand expression of task `t` on worker `w` for resource `r`. -/
def dval (I : Inst) (σ : Var → Int) (t w : Nat) (r : String) : Int :=
  isum ((I.stratsNeeding t r).map (fun s => (qreq I t s r : Int) * xval I σ t w s))

section
variable {I : Inst} {σ : Var → Int}

theorem eval_sumX (I : Inst) (σ : Var → Int) (t : Nat) : (I.sumX t).eval σ = psum I σ t := by
  simp [Inst.sumX, psum, LinExpr.eval_sumL, List.map_map, Function.comp_def, xval]

theorem eval_durE (I : Inst) (σ : Var → Int) (t : Nat) : (I.durE t).eval σ = dur I σ t := by
  simp [Inst.durE, dur, LinExpr.eval_sumL, List.map_map, Function.comp_def, xval]

theorem eval_parentExpr (I : Inst) (σ : Var → Int) (c : Nat) :
    (I.parentExpr c).eval σ = isum ((I.parentVars c).map (psum I σ)) := by
  simp [Inst.parentExpr, LinExpr.eval_sumL, List.map_map, Function.comp_def, eval_sumX]

theorem eval_afterExpr (a b : Nat) :
    (I.afterExpr a b).eval σ = sval I σ a - sval I σ b - dur I σ b := by
  simp [Inst.afterExpr, eval_durE, sval]

theorem eval_beforeExpr (a b : Nat) :
    (I.beforeExpr a b).eval σ = sval I σ a + dur I σ a - sval I σ b := by
  simp [Inst.beforeExpr, eval_durE, sval]

theorem eval_ownDemand (I : Inst) (σ : Var → Int) (t w : Nat) (r : String) :
    (I.ownDemand t w r).eval σ = dval I σ t w r := by
  simp [Inst.ownDemand, dval, LinExpr.eval_sumL, List.map_map, Function.comp_def, xval, qreq]

theorem eval_otherDemand (I : Inst) (σ : Var → Int) (t1 t2 w : Nat) (r : String) :
    (I.otherDemand t1 t2 w r).eval σ = dval I σ t2 w r * σ (.overlap t1 t2) := by
  simp only [Inst.otherDemand, dval, QuadExpr.eval_sumQ, List.map_map, Function.comp_def,
    QuadExpr.eval_mulVar, LinExpr.eval_smul]
  rw [← isum_map_mul_right]
  rfl

theorem mem_stratsNeeding {t s : Nat} {r : String} :
    s ∈ I.stratsNeeding t r ↔ s < (I.task t).nS ∧ qreq I t s r ≠ 0 := by
  simp [Inst.stratsNeeding, List.mem_filter, List.mem_range, qreq]

theorem sval_running {t : Nat} (h : I.running t = true) : sval I σ t = I.now := by
  simp [sval, Inst.startE, h]

theorem sval_var {t : Nat} (h : I.running t = false) : sval I σ t = σ (.start t) := by
  simp [sval, Inst.startE, h]

theorem hasVar_compatible {t w s : Nat} (h : I.hasVar t w s = true) :
    I.running t = false ∧ compatible (I.worker w) ((I.task t).strat s) = true := by
  simpa [Inst.hasVar] using h

theorem xval_var {t w s : Nat} (h : I.hasVar t w s = true) : xval I σ t w s = σ (.x t w s) := by
  have := hasVar_compatible h
  simp [xval, Inst.xE, this.1, this.2]

theorem xval_novar {t w s : Nat} (hr : I.running t = false) (h : I.hasVar t w s = false) :
    xval I σ t w s = 0 := by
  simp [Inst.hasVar, hr] at h
  simp [xval, Inst.xE, hr, h]

theorem xval_running {t w s : Nat} (hr : I.running t = true) :
    xval I σ t w s = if w = (I.task t).prevW ∧ s = (I.task t).prevS then 1 else 0 := by
  simp [xval, Inst.xE, hr]

/-- A RUNNING task counts as placed: its constants sum to 1. -/
theorem psum_running {t : Nat} (hr : I.running t = true) (hw : (I.task t).prevW < I.nW)
    (hs : (I.task t).prevS < (I.task t).nS) : psum I σ t = 1 := by
  unfold psum
  rw [isum_map_eq fun k _ => xval_running hr, isum_keys_indicator, if_pos ⟨hw, hs⟩]

theorem binDecl_ok_iff {v : Var} : (binDecl v).ok σ ↔ (σ v = 0 ∨ σ v = 1) := by
  simp [VarDecl.ok, binDecl]

/-- The declarations both models emit: those of the tasks / BatchTasks (`units`), then the
`all_parents_placed`, `Overlap`, `starts_after` / `ends_before` and reward variables. -/
theorem holds_varDecls (units : List (VarDecl Var)) (nr : List Nat) (pv : Nat → List Nat)
    (pairs : List (Nat × Nat)) (dep : Nat → Nat → Bool) (nG : Nat) (slack : Bool) (rew : Nat → List Nat) :
    (∀ d ∈ units ++ (nr.filter fun c => !(pv c).isEmpty).map (fun c => binDecl (.allParents c)) ++
        pairs.map (fun p => binDecl (.overlap p.1 p.2)) ++
        (pairs.filter fun p => !dep p.1 p.2).flatMap (fun p => [binDecl (.after p.1 p.2), binDecl (.before p.1 p.2)]) ++
        (List.range nG).map (fun g => (⟨.greward g, .int, none, none⟩ : VarDecl Var)) ++
        (if slack then [] else (List.range nG).flatMap fun gi => (rew gi).map fun t => binDecl (.treward t)),
      d.ok σ) ↔
      (∀ d ∈ units, d.ok σ) ∧
      (∀ c ∈ nr, pv c ≠ [] → σ (.allParents c) = 0 ∨ σ (.allParents c) = 1) ∧
      (∀ p ∈ pairs, σ (.overlap p.1 p.2) = 0 ∨ σ (.overlap p.1 p.2) = 1) ∧
      (∀ p ∈ pairs, dep p.1 p.2 = false →
        (σ (.after p.1 p.2) = 0 ∨ σ (.after p.1 p.2) = 1) ∧ (σ (.before p.1 p.2) = 0 ∨ σ (.before p.1 p.2) = 1)) ∧
      (slack = false → ∀ gi, gi < nG → ∀ t ∈ rew gi, σ (.treward t) = 0 ∨ σ (.treward t) = 1) := by
  cases slack <;>
    simp only [Bool.false_eq_true, if_false, if_true, List.forall_mem_append, List.forall_mem_flatMap,
      List.forall_mem_map, List.forall_mem_filter, List.forall_mem_cons, List.mem_range, binDecl_ok_iff, and_assoc] <;>
    simp [VarDecl.ok, optLe, optGe]

/-- What the declarations of `gen I` say of an assignment. -/
structure Bounds (I : Inst) (σ : Var → Int) : Prop where
  start : ∀ t ∈ I.nonRunning, I.startLb t ≤ σ (.start t)
  x : ∀ t ∈ I.nonRunning, ∀ k ∈ I.keys t, I.hasVar t k.1 k.2 = true → σ (.x t k.1 k.2) = 0 ∨ σ (.x t k.1 k.2) = 1
  allParents : ∀ c ∈ I.nonRunning, I.parentVars c ≠ [] → σ (.allParents c) = 0 ∨ σ (.allParents c) = 1
  overlap : ∀ p ∈ I.pairs, σ (.overlap p.1 p.2) = 0 ∨ σ (.overlap p.1 p.2) = 1
  afterBefore : ∀ p ∈ I.pairs, I.dependent p.1 p.2 = false →
    (σ (.after p.1 p.2) = 0 ∨ σ (.after p.1 p.2) = 1) ∧ (σ (.before p.1 p.2) = 0 ∨ σ (.before p.1 p.2) = 1)
  treward : I.goalSlack = false → ∀ gi, gi < I.graphs.length → ∀ t ∈ I.rewardTasks (I.graphs.getD gi ""),
    σ (.treward t) = 0 ∨ σ (.treward t) = 1

theorem holds_vars_iff : (∀ d ∈ I.vars, d.ok σ) ↔ Bounds I σ := by
  have e : (∀ d ∈ I.nonRunning.flatMap I.taskVars, d.ok σ) ↔ ∀ t ∈ I.nonRunning, I.startLb t ≤ σ (.start t) ∧
      ∀ k ∈ I.keys t, I.hasVar t k.1 k.2 = true → σ (.x t k.1 k.2) = 0 ∨ σ (.x t k.1 k.2) = 1 := by
    simp only [Inst.taskVars, List.forall_mem_flatMap, List.forall_mem_cons, List.forall_mem_map,
      List.forall_mem_filter, binDecl_ok_iff]
    simp [VarDecl.ok, optLe, optGe]
  refine (holds_varDecls (I.nonRunning.flatMap I.taskVars) I.nonRunning I.parentVars I.pairs I.dependent
    I.graphs.length I.goalSlack fun gi => I.rewardTasks (I.graphs.getD gi "")).trans ?_
  rw [e]
  exact ⟨fun ⟨h1, h2, h3, h4, h5⟩ => ⟨fun t ht => (h1 t ht).1, fun t ht => (h1 t ht).2, h2, h3, h4, h5⟩,
    fun b => ⟨fun t ht => ⟨b.start t ht, b.x t ht⟩, b.allParents, b.overlap, b.afterBefore, b.treward⟩⟩

theorem bounds (h : sat σ (gen I)) : Bounds I σ := holds_vars_iff.mp h.1

theorem xval_binary (h : sat σ (gen I)) {t w s : Nat} (ht : t < I.nT) (hw : w < I.nW)
    (hs : s < (I.task t).nS) : xval I σ t w s = 0 ∨ xval I σ t w s = 1 := by
  cases hr : I.running t with
  | true => rw [xval_running hr]; split <;> simp
  | false =>
    cases hv : I.hasVar t w s with
    | false => exact Or.inl (xval_novar hr hv)
    | true => exact xval_var hv ▸ (bounds h).x t (mem_nonRunning.mpr ⟨ht, hr⟩) (w, s) (mem_keys.mpr ⟨hw, hs⟩) hv

theorem xval_nonneg (h : sat σ (gen I)) {t w s : Nat} (ht : t < I.nT) (hw : w < I.nW)
    (hs : s < (I.task t).nS) : 0 ≤ xval I σ t w s := by
  rcases xval_binary h ht hw hs with h0 | h1 <;> omega

theorem xval_le_one (h : sat σ (gen I)) {t w s : Nat} (ht : t < I.nT) (hw : w < I.nW)
    (hs : s < (I.task t).nS) : xval I σ t w s ≤ 1 := by
  rcases xval_binary h ht hw hs with h0 | h1 <;> omega

theorem xval_key_nonneg (h : sat σ (gen I)) {t : Nat} (ht : t < I.nT) :
    ∀ k ∈ I.keys t, 0 ≤ xval I σ t k.1 k.2 := fun k hk =>
  have hk' := mem_keys.mp (by simpa using hk : (k.1, k.2) ∈ I.keys t)
  xval_nonneg h ht hk'.1 hk'.2

theorem start_lb (h : sat σ (gen I)) {t : Nat} (ht : t < I.nT) (hr : I.running t = false) :
    I.startLb t ≤ σ (.start t) := (bounds h).start t (mem_nonRunning.mpr ⟨ht, hr⟩)

theorem overlap_binary (h : sat σ (gen I)) {a b : Nat} (hp : (a, b) ∈ I.pairs) :
    σ (.overlap a b) = 0 ∨ σ (.overlap a b) = 1 := (bounds h).overlap _ hp

theorem holds_constrs : (∀ c ∈ I.constrs, c.holds σ) ↔
    (∀ t ∈ I.nonRunning, (∀ c ∈ I.cDeadline t, c.holds σ) ∧ ∀ c ∈ I.cPlacement t, c.holds σ) ∧
    (∀ t ∈ I.nonRunning, ∀ c ∈ I.cDeps t, c.holds σ) ∧
    (∀ p ∈ I.pairs, ∀ c ∈ I.cOverlap p, c.holds σ) ∧
    (∀ t, t < I.nT → ∀ c ∈ I.cResource t, c.holds σ) ∧ ∀ c ∈ I.cObjective, c.holds σ := by
  simp only [Inst.constrs, List.forall_mem_append, List.forall_mem_flatMap, List.mem_range, and_assoc]

theorem holds_cDeadline (t : Nat) : (∀ c ∈ I.cDeadline t, c.holds σ) ↔
    (I.enforce t = true → sval I σ t + dur I σ t ≤ (I.task t).deadline) := by
  unfold Inst.cDeadline
  split <;> simp [*, eval_durE, sval]

theorem holds_cPlacement (t : Nat) : (∀ c ∈ I.cPlacement t, c.holds σ) ↔
    psum I σ t ≤ 1 ∧ ((I.task t).state = .scheduled → I.retract = false → psum I σ t = 1) := by
  unfold Inst.cPlacement
  split <;> rename_i hs <;> simp [eval_sumX] at hs ⊢
  · exact ⟨fun h => ⟨by omega, fun _ _ => h⟩, fun h => h.2 hs.1 hs.2⟩
  · exact fun _ h1 h2 => absurd h2 (by simpa using hs h1)

theorem holds_cDeps (c : Nat) : (∀ r ∈ I.cDeps c, r.holds σ) ↔ (I.parentVars c ≠ [] →
    (∀ p ∈ I.parentVars c, ∀ w s, w < I.nW → s < (I.task p).nS →
      sval I σ p + (I.runtime p s + 1) * xval I σ p w s ≤ sval I σ c) ∧
    (σ (.allParents c) = 0 → isum ((I.parentVars c).map (psum I σ)) ≤ I.nParents c - 1) ∧
    (σ (.allParents c) = 1 → isum ((I.parentVars c).map (psum I σ)) = I.nParents c) ∧
    (σ (.allParents c) = 0 → psum I σ c = 0)) := by
  refine (holds_depsRows (I.parentVars c) (I.cStartAfter c)).trans (imp_congr_right fun _ => ?_)
  refine and_congr (forall₂_congr fun p _ => ?_) (by simp [eval_parentExpr, eval_sumX])
  rw [← forall_mem_keys (P := fun w s => sval I σ p + (I.runtime p s + 1) * xval I σ p w s ≤ sval I σ c)]
  simp only [Inst.cStartAfter, List.forall_mem_map]
  refine forall₂_congr fun k _ => ?_
  simp [sval, xval]

theorem holds_cOverlap (a b : Nat) : (∀ c ∈ I.cOverlap (a, b), c.holds σ) ↔
    if I.dependent a b then σ (.overlap a b) = 0 else
      (σ (.after a b) = 0 → sval I σ a - sval I σ b - dur I σ b ≤ 0) ∧
      (σ (.after a b) = 1 → 1 ≤ sval I σ a - sval I σ b - dur I σ b) ∧
      (σ (.before a b) = 0 → 0 ≤ sval I σ a + dur I σ a - sval I σ b) ∧
      (σ (.before a b) = 1 → sval I σ a + dur I σ a - sval I σ b ≤ -1) ∧
      σ (.after a b) + σ (.before a b) + σ (.overlap a b) = 1 := by
  rw [← eval_afterExpr, ← eval_beforeExpr]
  exact holds_overlapRows (I.dependent a b)

theorem holds_cResource (t1 : Nat) : (∀ c ∈ I.cResource t1, c.holds σ) ↔
    ∀ w, w < I.nW → I.skipOn t1 w = false → ∀ r ∈ (I.worker w).types,
      dval I σ t1 w r + isum ((I.others t1 w).map (fun t2 => dval I σ t2 w r * σ (.overlap t1 t2))) ≤
        (qty (I.worker w).res r : Nat) := by
  simp only [Inst.cResource, List.forall_mem_flatMap, List.forall_mem_map, List.forall_mem_filter, List.mem_range]
  simp [Inst.resExpr, eval_ownDemand, QuadExpr.eval_sumQ, List.map_map, Function.comp_def, eval_otherDemand]

theorem holds_cObjective : (∀ c ∈ I.cObjective, c.holds σ) ↔ (I.goalSlack = false →
    ∀ gi, gi < I.graphs.length →
      (∀ t ∈ I.rewardTasks (I.graphs.getD gi ""), σ (.treward t) = psum I σ t) ∧
      σ (.greward gi) =
        if (∀ a ∈ (I.rewardTasks (I.graphs.getD gi "")).map Var.treward, σ a = 1) then 1 else 0) := by
  unfold Inst.cObjective
  split
  · rename_i hg; simp [hg]
  · rename_i hg
    simp only [hg, List.forall_mem_flatMap, List.forall_mem_append, List.forall_mem_map, List.mem_range]
    simp [eval_sumX]
    refine forall₂_congr fun gi _ => and_congr_left fun _ => forall₂_congr fun t _ => ?_
    omega

/-- What the rows of `gen I` say of an assignment, in terms of the values of the start, placement,
duration and demand expressions. -/
structure Rows (I : Inst) (σ : Var → Int) : Prop where
  deadline : ∀ t ∈ I.nonRunning, I.enforce t = true → sval I σ t + dur I σ t ≤ (I.task t).deadline
  placement : ∀ t ∈ I.nonRunning,
    psum I σ t ≤ 1 ∧ ((I.task t).state = .scheduled → I.retract = false → psum I σ t = 1)
  deps : ∀ c ∈ I.nonRunning, I.parentVars c ≠ [] →
    (∀ p ∈ I.parentVars c, ∀ w s, w < I.nW → s < (I.task p).nS →
      sval I σ p + (I.runtime p s + 1) * xval I σ p w s ≤ sval I σ c) ∧
    (σ (.allParents c) = 0 → isum ((I.parentVars c).map (psum I σ)) ≤ I.nParents c - 1) ∧
    (σ (.allParents c) = 1 → isum ((I.parentVars c).map (psum I σ)) = I.nParents c) ∧
    (σ (.allParents c) = 0 → psum I σ c = 0)
  overlap : ∀ p ∈ I.pairs,
    if I.dependent p.1 p.2 then σ (.overlap p.1 p.2) = 0 else
      (σ (.after p.1 p.2) = 0 → sval I σ p.1 - sval I σ p.2 - dur I σ p.2 ≤ 0) ∧
      (σ (.after p.1 p.2) = 1 → 1 ≤ sval I σ p.1 - sval I σ p.2 - dur I σ p.2) ∧
      (σ (.before p.1 p.2) = 0 → 0 ≤ sval I σ p.1 + dur I σ p.1 - sval I σ p.2) ∧
      (σ (.before p.1 p.2) = 1 → sval I σ p.1 + dur I σ p.1 - sval I σ p.2 ≤ -1) ∧
      σ (.after p.1 p.2) + σ (.before p.1 p.2) + σ (.overlap p.1 p.2) = 1
  resource : ∀ t1, t1 < I.nT → ∀ w, w < I.nW → I.skipOn t1 w = false → ∀ r ∈ (I.worker w).types,
    dval I σ t1 w r + isum ((I.others t1 w).map (fun t2 => dval I σ t2 w r * σ (.overlap t1 t2))) ≤
      (qty (I.worker w).res r : Nat)
  reward : I.goalSlack = false → ∀ gi, gi < I.graphs.length →
    (∀ t ∈ I.rewardTasks (I.graphs.getD gi ""), σ (.treward t) = psum I σ t) ∧
    σ (.greward gi) =
      if (∀ a ∈ (I.rewardTasks (I.graphs.getD gi "")).map Var.treward, σ a = 1) then 1 else 0

theorem holds_constrs_iff : (∀ c ∈ I.constrs, c.holds σ) ↔ Rows I σ := by
  rw [holds_constrs]
  constructor
  · rintro ⟨h1, h3, h4, h5, h6⟩
    exact ⟨fun t ht => (holds_cDeadline t).mp (h1 t ht).1, fun t ht => (holds_cPlacement t).mp (h1 t ht).2,
      fun c hc => (holds_cDeps c).mp (h3 c hc), fun p hp => (holds_cOverlap p.1 p.2).mp (h4 p hp),
      fun t ht => (holds_cResource t).mp (h5 t ht), holds_cObjective.mp h6⟩
  · intro r
    exact ⟨fun t ht => ⟨(holds_cDeadline t).mpr (r.deadline t ht), (holds_cPlacement t).mpr (r.placement t ht)⟩,
      fun c hc => (holds_cDeps c).mpr (r.deps c hc), fun p hp => (holds_cOverlap p.1 p.2).mpr (r.overlap p hp),
      fun t ht => (holds_cResource t).mpr (r.resource t ht), holds_cObjective.mpr r.reward⟩

/-- The feasible set of `gen I` in semantic form. -/
theorem sat_iff : sat σ (gen I) ↔ Bounds I σ ∧ Rows I σ := and_congr holds_vars_iff holds_constrs_iff

theorem rows (h : sat σ (gen I)) : Rows I σ := (sat_iff.mp h).2

theorem psum_le_one (h : sat σ (gen I)) {t : Nat} (ht : t < I.nT) (hr : I.running t = false) :
    psum I σ t ≤ 1 := ((rows h).placement t (mem_nonRunning.mpr ⟨ht, hr⟩)).1

theorem psum_eq_one_of_scheduled (h : sat σ (gen I)) {t : Nat} (ht : t < I.nT)
    (hr : I.running t = false) (hs : (I.task t).state = .scheduled) (hre : I.retract = false) :
    psum I σ t = 1 := ((rows h).placement t (mem_nonRunning.mpr ⟨ht, hr⟩)).2 hs hre

theorem psum_le_one_all (h : sat σ (gen I)) (hwr : I.wfRunning = true) {t : Nat} (ht : t < I.nT) :
    psum I σ t ≤ 1 := by
  cases hr : I.running t with
  | false => exact psum_le_one h ht hr
  | true =>
    have := wfRunning_spec hwr ht hr
    rw [psum_running hr this.1 this.2]; omega

theorem xval_le_psum (h : sat σ (gen I)) {t w s : Nat} (ht : t < I.nT) (hw : w < I.nW)
    (hs : s < (I.task t).nS) : xval I σ t w s ≤ psum I σ t :=
  le_isum_map (a := (w, s)) (xval_key_nonneg h ht) (mem_keys.mpr ⟨hw, hs⟩)

theorem exists_pair_of_placed (h : sat σ (gen I)) {t : Nat} (ht : t < I.nT) (hp : 1 ≤ psum I σ t) :
    ∃ w s, w < I.nW ∧ s < (I.task t).nS ∧ xval I σ t w s = 1 := by
  have hp' : psum I σ t ≠ 0 := by omega
  obtain ⟨k, hk, hx⟩ := exists_of_isum_ne_zero hp'
  have hk' := mem_keys.mp (by simpa using hk : (k.1, k.2) ∈ I.keys t)
  exact ⟨k.1, k.2, hk'.1, hk'.2, (xval_binary h ht hk'.1 hk'.2).resolve_left hx⟩

theorem dur_term_nonneg (h : sat σ (gen I)) {t : Nat} (ht : t < I.nT) :
    ∀ k ∈ I.keys t, 0 ≤ I.runtime t k.2 * xval I σ t k.1 k.2 := fun k hk =>
  Int.mul_nonneg (runtime_nonneg I t k.2) (xval_key_nonneg h ht k hk)

theorem dur_nonneg (h : sat σ (gen I)) {t : Nat} (ht : t < I.nT) : 0 ≤ dur I σ t :=
  isum_map_nonneg (dur_term_nonneg h ht)

theorem runtime_le_dur (h : sat σ (gen I)) {t w s : Nat} (ht : t < I.nT) (hw : w < I.nW)
    (hs : s < (I.task t).nS) (hx : xval I σ t w s = 1) : I.runtime t s ≤ dur I σ t := by
  have := le_isum_map (dur_term_nonneg h ht) (mem_keys.mpr ⟨hw, hs⟩)
  simp only [hx] at this
  unfold dur; omega

theorem start_after_row (h : sat σ (gen I)) {c p w s : Nat} (hc : c < I.nT) (hr : I.running c = false)
    (hp : p ∈ I.parentVars c) (hw : w < I.nW) (hs : s < (I.task p).nS) :
    sval I σ p + (I.runtime p s + 1) * xval I σ p w s ≤ σ (.start c) := by
  have := ((rows h).deps c (mem_nonRunning.mpr ⟨hc, hr⟩) (List.ne_nil_of_mem hp)).1 p hp w s hw hs
  rwa [sval_var hr] at this

/-- A placed task with parent variables has `all_parents_placed = 1`: the placement sums of its
parent variables add up to the number of ALL its graph parents. -/
theorem parents_counted (h : sat σ (gen I)) {c : Nat} (hc : c < I.nT) (hr : I.running c = false)
    (hne : I.parentVars c ≠ []) (hpl : psum I σ c ≠ 0) :
    isum ((I.parentVars c).map (psum I σ)) = I.nParents c := by
  have hm := mem_nonRunning.mpr ⟨hc, hr⟩
  have r := ((rows h).deps c hm hne).2
  exact r.2.1 (((bounds h).allParents c hm hne).resolve_left fun h0 => hpl (r.2.2 h0))

/-- A placed task with parent variables has at least as many of them as graph parents; when it
has no more (`wfParents`), all of them are placed: each counts at most 1 in `parents_counted`. -/
theorem placed_child_counts (h : sat σ (gen I)) (hwr : I.wfRunning = true) {c : Nat} (hc : c < I.nT)
    (hr : I.running c = false) (hne : I.parentVars c ≠ []) (hpl : psum I σ c ≠ 0) :
    I.nParents c ≤ (I.parentVars c).length ∧
      ((I.parentVars c).length ≤ I.nParents c → ∀ p ∈ I.parentVars c, psum I σ p = 1) := by
  have hcount := parents_counted h hc hr hne hpl
  have h1 : ∀ p ∈ I.parentVars c, psum I σ p ≤ 1 := fun p hp => psum_le_one_all h hwr (mem_parentVars.mp hp).1
  have := isum_le_length h1
  exact ⟨by omega, fun hlen => all_one_of_isum_eq_length h1 (by omega)⟩

/-- The `Overlap` variable of a pair that is not dependent: 1 iff neither task starts after
the other's duration expression ends. -/
theorem overlap_value (h : sat σ (gen I)) {a b : Nat} (hp : (a, b) ∈ I.pairs)
    (hd : I.dependent a b = false) :
    σ (.overlap a b) = if 1 ≤ sval I σ a - sval I σ b - dur I σ b ∨
      sval I σ a + dur I σ a - sval I σ b ≤ -1 then 0 else 1 := by
  have r := (rows h).overlap (a, b) hp
  simp only [hd, Bool.false_eq_true, if_false] at r
  have hb := (bounds h).afterBefore _ hp hd
  exact overlap_of_rows hb.1 hb.2 (overlap_binary h hp) r

end
end ErdosVerif.Ilp
