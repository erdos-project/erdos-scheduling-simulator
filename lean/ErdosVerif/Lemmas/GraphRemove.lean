/-
`Graph.remove` (as repaired by /repo commit ce9bde1) on a well-formed graph:
it raises nothing, keeps the graph well formed, deletes exactly the key of the
node (the order of the other keys is kept) and exactly the edges incident to it.

`WF` says nothing about the keys of `_parent_graph` (`Graph.parents`); `del
_parent_graph[node]` on an association list with a duplicated key would expose
the hidden second entry, so the statements carry the extra hypothesis
`(g.parents.map Prod.fst).Nodup`.  It is an invariant of every graph built
through the public constructors (`parentsKeysNodup_*` below).
-/
import ErdosVerif.Lemmas.GraphWF

namespace ErdosVerif.Model

namespace Dict
variable {β : Type}

theorem keys_erase_sublist (d : Dict β) (k : Nat) :
    ((Dict.erase d k).map Prod.fst).Sublist (d.map Prod.fst) := by
  induction d with
  | nil => simp [Dict.erase]
  | cons p r ih =>
    simp only [Dict.erase]
    split
    · simp
    · exact ih.cons_cons _

theorem nodup_keys_erase {d : Dict β} (h : (d.map Prod.fst).Nodup) (k : Nat) :
    ((Dict.erase d k).map Prod.fst).Nodup :=
  List.Nodup.sublist (keys_erase_sublist d k) h

theorem keys_erase {d : Dict β} (hd : (d.map Prod.fst).Nodup) (k : Nat) :
    (Dict.erase d k).map Prod.fst = (d.map Prod.fst).filter (fun a => a != k) := by
  induction d with
  | nil => simp [Dict.erase]
  | cons p r ih =>
    obtain ⟨k₀, v₀⟩ := p
    simp only [List.map_cons, List.nodup_cons] at hd
    by_cases h : k₀ = k
    · subst h
      have : (r.map Prod.fst).filter (fun a => a != k₀) = r.map Prod.fst :=
        List.filter_eq_self.mpr fun a ha => by
          have : a ≠ k₀ := fun e => hd.1 (e ▸ ha)
          simp [this]
      simp [Dict.erase, this]
    · simp [Dict.erase, h, ih hd.2]

theorem lookup_erase_ne (d : Dict β) {k k' : Nat} (h : k' ≠ k) :
    List.lookup k' (Dict.erase d k) = List.lookup k' d := by
  induction d with
  | nil => rfl
  | cons p r ih =>
    obtain ⟨k₀, v₀⟩ := p
    simp only [Dict.erase]
    split
    · next e => simp [lookup_cons, e ▸ h]
    · simp [lookup_cons, ih]

theorem lookup_erase {d : Dict β} (hd : (d.map Prod.fst).Nodup) (k k' : Nat) :
    List.lookup k' (Dict.erase d k) = if k' = k then none else List.lookup k' d := by
  split
  · next h => subst h; rw [lookup_eq_none_iff, keys_erase hd]; simp
  · next h => exact lookup_erase_ne d h

end Dict

namespace Graph

theorem removeFirst_eq_none {x : Nat} {l : List Nat} : removeFirst x l = none ↔ x ∉ l := by
  induction l with
  | nil => simp [removeFirst]
  | cons y ys ih =>
    by_cases h : y = x
    · simp [removeFirst, h]
    · have : x ≠ y := fun e => h e.symm
      simp [removeFirst, h, ih, this]

theorem removeFirst_of_mem {x : Nat} {l : List Nat} (hm : x ∈ l) :
    removeFirst x l = some (l.erase x) := by
  induction l with
  | nil => simp at hm
  | cons y ys ih =>
    by_cases h : y = x
    · simp [removeFirst, h]
    · have hm' : x ∈ ys := by simpa [Ne.symm h] using hm
      simp [removeFirst, h, ih hm']

theorem filter_ne_of_not_mem {x : Nat} {l : List Nat} (h : x ∉ l) : l.filter (fun a => a != x) = l :=
  List.filter_eq_self.mpr fun a ha => by simpa using fun e : a = x => h (e ▸ ha)

theorem filter_ne_erase (x : Nat) (l : List Nat) :
    (l.erase x).filter (fun a => a != x) = l.filter (fun a => a != x) := by
  induction l with
  | nil => rfl
  | cons y ys ih =>
    by_cases h : y = x
    · simp [h]
    · simp [ih, h]

theorem unlinkParents_nodup (x : Nat) : ∀ (cs : List Nat) (pa : Dict (List Nat)),
    (pa.map Prod.fst).Nodup → ((unlinkParents x cs pa).1.map Prod.fst).Nodup := by
  intro cs
  induction cs with
  | nil => intro pa h; exact h
  | cons c cs ih =>
    intro pa h
    unfold unlinkParents
    split
    · exact h
    · exact ih _ (Dict.nodup_keys_set h _ _)

/-- If `x` occurs in the list of every `c ∈ cs` exactly as often as `c` occurs in `cs`, the loop
`for c in cs: d[c].remove(x)` succeeds, creates no key and leaves no `x` in the lists it visits. -/
theorem unlinkParents_spec (x : Nat) : ∀ (cs : List Nat) (pa : Dict (List Nat)),
    (∀ c ∈ cs, cs.count c = ((List.lookup c pa).getD []).count x) →
    (unlinkParents x cs pa).2 = true ∧
    (unlinkParents x cs pa).1.map Prod.fst = pa.map Prod.fst ∧
    ∀ v, (List.lookup v (unlinkParents x cs pa).1).getD [] =
      if v ∈ cs then ((List.lookup v pa).getD []).filter (fun a => a != x) else (List.lookup v pa).getD [] := by
  intro cs
  induction cs with
  | nil => intro pa _; simp [unlinkParents]
  | cons c cs ih =>
    intro pa hpre
    have hc := hpre c List.mem_cons_self
    simp only [List.count_cons_self] at hc
    have hmem : x ∈ (List.lookup c pa).getD [] := List.count_pos_iff.mp (by omega)
    have hsome : (List.lookup c pa).isSome = true := by
      cases hl : List.lookup c pa <;> simp_all
    have hstep : unlinkParents x (c :: cs) pa =
        unlinkParents x cs (Dict.set pa c (((List.lookup c pa).getD []).erase x)) := by
      rw [unlinkParents, removeFirst_of_mem hmem]
    rw [hstep]
    have hcnt : (((List.lookup c pa).getD []).erase x).count x = cs.count c := by
      rw [List.count_erase_self]; omega
    obtain ⟨h1, h2, h3⟩ := ih (Dict.set pa c (((List.lookup c pa).getD []).erase x)) (by
      intro c' hc'
      rw [Dict.lookup_set]
      by_cases he : c' = c
      · subst he; simpa using hcnt.symm
      · simpa [he, List.count_cons, Ne.symm he] using hpre c' (List.mem_cons_of_mem _ hc'))
    refine ⟨h1, ?_, fun v => ?_⟩
    · rw [h2, Dict.keys_set]; simp [hsome]
    · rw [h3 v, Dict.lookup_set]
      by_cases he : v = c
      · subst he
        simp only [if_true, Option.getD_some, List.mem_cons, true_or, filter_ne_erase]
        -- a last occurrence: what `erase` leaves has no `x`
        split
        · rfl
        · next hv =>
          rw [← filter_ne_erase]
          have hx : x ∉ ((List.lookup v pa).getD []).erase x :=
            List.count_eq_zero.mp (by rw [hcnt]; exact List.count_eq_zero.mpr hv)
          exact (filter_ne_of_not_mem hx).symm
      · simp [he]

/-- The two loops differ only where `list.remove` raises. -/
theorem unlinkChildren_eq_of_success (x : Nat) : ∀ (ps : List Nat) (ch : Dict (List Nat)),
    (unlinkParents x ps ch).2 = true → unlinkChildren x ps ch = unlinkParents x ps ch := by
  intro ps
  induction ps with
  | nil => intro ch _; rfl
  | cons p ps ih =>
    intro ch h
    unfold unlinkParents at h
    unfold unlinkChildren unlinkParents
    split
    · rename_i hn; simp [hn] at h
    · rename_i l hl
      simp only [hl] at h
      exact ih _ h

theorem unlinkChildren_nodup (x : Nat) : ∀ (ps : List Nat) (ch : Dict (List Nat)),
    (ch.map Prod.fst).Nodup → ((unlinkChildren x ps ch).1.map Prod.fst).Nodup := by
  intro ps
  induction ps with
  | nil => intro ch h; exact h
  | cons p ps ih =>
    intro ch h
    unfold unlinkChildren
    split
    · exact nodup_keys_touch h p
    · exact ih _ (Dict.nodup_keys_set h _ _)

theorem count_filter_ne_self (x : Nat) (l : List Nat) :
    (l.filter (fun a => a != x)).count x = 0 := by
  rw [List.count_eq_zero]; simp

theorem count_filter_ne_of_ne {a x : Nat} (h : a ≠ x) (l : List Nat) :
    (l.filter (fun b => b != x)).count a = l.count a :=
  List.count_filter (by simp [h])

theorem remove_eq {g : Graph} (wf : g.WF) (hp : (g.parents.map Prod.fst).Nodup) {x : Nat}
    (hx : g.hasNode x = true) :
    ∃ ch pa, g.remove x = ({ children := Dict.erase ch x, parents := Dict.erase pa x }, none) ∧
      ch.map Prod.fst = g.children.map Prod.fst ∧
      (∀ u, u ≠ x → (List.lookup u ch).getD [] = (g.childrenOf u).filter (fun c => c != x)) ∧
      (pa.map Prod.fst).Nodup ∧
      (∀ v, (List.lookup v pa).getD [] = (g.parentsOf v).filter (fun p => p != x)) := by
  obtain ⟨cs, hl⟩ := hasNode_iff_lookup.mp hx
  have hcs : g.childrenOf x = cs := childrenOf_of_lookup hl
  -- loop 1: `x` occurs in `_parent_graph[c]` as often as `c` occurs among the children of `x`
  have H1 := unlinkParents_spec x cs g.parents (fun c _ => by
    rw [← hcs]; exact (wf.parentsCount x c).symm)
  have N1 := unlinkParents_nodup x cs g.parents hp
  generalize hr1 : unlinkParents x cs g.parents = r1 at H1 N1
  obtain ⟨pa, b1⟩ := r1
  obtain ⟨hb1, -, hpa0⟩ := H1
  simp only at hb1 hpa0 N1
  subst hb1
  have hpa : ∀ v, (List.lookup v pa).getD [] = (g.parentsOf v).filter (fun p => p != x) := by
    intro v
    rw [hpa0 v]
    split
    · rfl
    · next hv =>
      -- not a child of `x`: no `x` among its parents
      have : x ∉ g.parentsOf v := List.count_eq_zero.mp (by
        rw [wf.parentsCount x v, hcs]; exact List.count_eq_zero.mpr hv)
      exact (filter_ne_of_not_mem this).symm
  -- loop 2: the same, over what is left of the parents of `x`
  have hcount : ∀ p, p ≠ x → ((List.lookup x pa).getD []).count p = (g.childrenOf p).count x := fun p hpx => by
    rw [hpa x, count_filter_ne_of_ne hpx]; exact wf.parentsCount p x
  have H2 := unlinkParents_spec x ((List.lookup x pa).getD []) g.children (fun p hp' =>
    hcount p (by rw [hpa x] at hp'; simpa using (List.mem_filter.mp hp').2))
  have E2 := unlinkChildren_eq_of_success x ((List.lookup x pa).getD []) g.children H2.1
  generalize hr2 : unlinkParents x ((List.lookup x pa).getD []) g.children = r2 at H2 E2
  obtain ⟨ch, b2⟩ := r2
  obtain ⟨hb2, hkeys, hch0⟩ := H2
  simp only at hb2 hkeys hch0
  subst hb2
  refine ⟨ch, pa, ?_, hkeys, ?_, N1, hpa⟩
  · simp only [remove, hl, hr1, E2]
  · intro u hu
    rw [hch0 u]
    split
    · rfl
    · next hv =>
      have : x ∉ g.childrenOf u := List.count_eq_zero.mp (by
        rw [← hcount u hu]; exact List.count_eq_zero.mpr hv)
      exact (filter_ne_of_not_mem this).symm

theorem remove_absent {g : Graph} {x : Nat} (hx : g.hasNode x = false) :
    g.remove x = (g, some "ValueError") := by
  have : List.lookup x g.children = none := by simpa [hasNode] using hx
  simp only [remove, this]

/-- On a well-formed graph `remove` of a node raises nothing, keeps the graph well formed,
deletes exactly that key (order of the others kept) and exactly the edges incident to it. -/
theorem remove_spec {g : Graph} (wf : g.WF) (hp : (g.parents.map Prod.fst).Nodup) {x : Nat}
    (hx : g.hasNode x = true) :
    (g.remove x).2 = none ∧ (g.remove x).1.WF ∧
    (g.remove x).1.getNodes = g.getNodes.filter (fun k => k != x) ∧
    (∀ u, (g.remove x).1.childrenOf u =
      if u = x then [] else (g.childrenOf u).filter (fun c => c != x)) ∧
    (∀ v, (g.remove x).1.parentsOf v =
      if v = x then [] else (g.parentsOf v).filter (fun p => p != x)) := by
  obtain ⟨ch, pa, heq, hkeys, hch, hpaN, hpa⟩ := remove_eq wf hp hx
  rw [heq]
  have hchN : (ch.map Prod.fst).Nodup := hkeys ▸ wf.nodupKeys
  have hnodes : ({ children := Dict.erase ch x, parents := Dict.erase pa x } : Graph).getNodes =
      g.getNodes.filter (fun k => k != x) := by
    show (Dict.erase ch x).map Prod.fst = _
    rw [Dict.keys_erase hchN, hkeys]; rfl
  have hchildren : ∀ u, ({ children := Dict.erase ch x, parents := Dict.erase pa x } : Graph).childrenOf u =
      if u = x then [] else (g.childrenOf u).filter (fun c => c != x) := by
    intro u
    show (List.lookup u (Dict.erase ch x)).getD [] = _
    rw [Dict.lookup_erase hchN]
    by_cases hu : u = x
    · simp [hu]
    · simp only [hu, if_false]; exact hch u hu
  have hparents : ∀ v, ({ children := Dict.erase ch x, parents := Dict.erase pa x } : Graph).parentsOf v =
      if v = x then [] else (g.parentsOf v).filter (fun p => p != x) := by
    intro v
    show (List.lookup v (Dict.erase pa x)).getD [] = _
    rw [Dict.lookup_erase hpaN]
    by_cases hv : v = x
    · simp [hv]
    · simp only [hv, if_false]; exact hpa v
  refine ⟨rfl, ⟨?_, ?_, ?_⟩, hnodes, hchildren, hparents⟩
  · show (({ children := Dict.erase ch x, parents := Dict.erase pa x } : Graph).getNodes).Nodup
    rw [hnodes]
    exact List.Nodup.sublist List.filter_sublist wf.nodupKeys
  · intro u v he
    unfold Edge at he
    rw [hchildren u] at he
    by_cases hu : u = x
    · simp [hu] at he
    · simp only [hu, if_false, List.mem_filter] at he
      rw [hasNode_iff_mem_getNodes, hnodes, List.mem_filter]
      exact ⟨(hasNode_iff_mem_getNodes g v).mp (wf.closed u v he.1), he.2⟩
  · intro u v
    rw [hchildren u, hparents v]
    by_cases hv : v = x <;> by_cases hu : u = x
    · simp [hv, hu]
    · subst hv; simp only [hu, if_true, if_false, List.count_nil]
      exact (count_filter_ne_self _ _).symm
    · subst hu; simp only [hv, if_true, if_false, List.count_nil]
      exact count_filter_ne_self _ _
    · simp only [hv, hu, if_false]
      rw [count_filter_ne_of_ne hu, count_filter_ne_of_ne hv]
      exact wf.parentsCount u v

/-- `remove` keeps the graph well formed (for a non-node the state is unchanged:
`ValueError` before any mutation). -/
theorem wf_remove {g : Graph} (wf : g.WF) (hp : (g.parents.map Prod.fst).Nodup) (x : Nat) :
    (g.remove x).1.WF := by
  cases hx : g.hasNode x with
  | true => exact (remove_spec wf hp hx).2.1
  | false => rw [remove_absent hx]; exact wf

theorem edge_remove {g : Graph} (wf : g.WF) (hp : (g.parents.map Prod.fst).Nodup) {x : Nat}
    (hx : g.hasNode x = true) (u v : Nat) :
    (g.remove x).1.Edge u v ↔ g.Edge u v ∧ u ≠ x ∧ v ≠ x := by
  unfold Edge
  rw [(remove_spec wf hp hx).2.2.2.1 u]
  by_cases hu : u = x
  · simp [hu]
  · simp only [hu, if_false, List.mem_filter]
    simp [hu]

theorem hasNode_remove {g : Graph} (wf : g.WF) (hp : (g.parents.map Prod.fst).Nodup) {x : Nat}
    (hx : g.hasNode x = true) (u : Nat) :
    (g.remove x).1.hasNode u = true ↔ g.hasNode u = true ∧ u ≠ x := by
  rw [hasNode_iff_mem_getNodes, (remove_spec wf hp hx).2.2.1, List.mem_filter,
    ← hasNode_iff_mem_getNodes]
  simp

theorem parentsKeysNodup_empty : (Graph.empty.parents.map Prod.fst).Nodup := by
  simp [Graph.empty]

theorem parentsKeysNodup_linkChild {g : Graph} (hp : (g.parents.map Prod.fst).Nodup) (n c : Nat) :
    ((g.linkChild n c).parents.map Prod.fst).Nodup :=
  Dict.nodup_keys_set hp _ _

theorem parentsKeysNodup_addChild {g g' : Graph} (hp : (g.parents.map Prod.fst).Nodup) {n c : Nat}
    (h : g.addChild n c = .ok g') : (g'.parents.map Prod.fst).Nodup := by
  unfold addChild at h
  split at h
  · cases h; exact parentsKeysNodup_linkChild hp n c
  · cases h

theorem parentsKeysNodup_addNode {g : Graph} (hp : (g.parents.map Prod.fst).Nodup) (n : Nat)
    (cs : List Nat) : ((g.addNode n cs).parents.map Prod.fst).Nodup :=
  List.foldlRecOn (motive := fun g : Graph => (g.parents.map Prod.fst).Nodup) cs _ hp
    fun _ h c _ => parentsKeysNodup_linkChild h n c

theorem parentsKeysNodup_ofMapping (m : List (Nat × List Nat)) :
    ((ofMapping m).parents.map Prod.fst).Nodup :=
  List.foldlRecOn (motive := fun g : Graph => (g.parents.map Prod.fst).Nodup) m _ parentsKeysNodup_empty
    fun _ h p _ => parentsKeysNodup_addNode h p.1 p.2

theorem parentsKeysNodup_remove {g : Graph} (hp : (g.parents.map Prod.fst).Nodup) (x : Nat) :
    ((g.remove x).1.parents.map Prod.fst).Nodup := by
  unfold remove
  split
  · exact hp
  · rename_i cs _
    have N1 := unlinkParents_nodup x cs g.parents hp
    split
    · rename_i pa h1; rw [h1] at N1; exact N1
    · rename_i pa h1
      rw [h1] at N1
      split
      · exact N1
      · exact Dict.nodup_keys_erase N1 x

theorem childrenKeysNodup_remove {g : Graph} (hc : (g.children.map Prod.fst).Nodup) (x : Nat) :
    ((g.remove x).1.children.map Prod.fst).Nodup := by
  unfold remove
  split
  · exact hc
  · split
    · exact hc
    · rename_i pa _
      have N2 := unlinkChildren_nodup x ((List.lookup x pa).getD []) g.children hc
      split
      · rename_i ch h2; rw [h2] at N2; exact N2
      · rename_i ch h2; rw [h2] at N2; exact Dict.nodup_keys_erase N2 x

end Graph
end ErdosVerif.Model
