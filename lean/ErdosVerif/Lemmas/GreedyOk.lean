import ErdosVerif.Lemmas.GreedyWf
/-!
`schedule` returns normally on the inputs the loaders build: every task has at least one
strategy, strategies are plain `ExecutionStrategy` objects whose requirement has one entry per
resource name (Python: a dict keyed by `Resource(name, "any")`), `copy(worker_pools)` succeeds
and the LSF keys are defined.  Core Lean only.
-/
namespace ErdosVerif.Model

theorem scan_sumMatching_other (k x : Res) (hne : k.name ≠ x.name) (v : Vec) (n : Nat) :
    sumMatching x (Resources.scan k v n).1 = sumMatching x v := by
  induction v generalizing n with
  | nil => simp [Resources.scan]
  | cons p rest ih =>
    obtain ⟨r, q⟩ := p
    simp only [Resources.scan]
    split
    · rename_i hm
      have hname : r.name = k.name := by
        simp only [Res.matches, Bool.and_eq_true, beq_iff_eq] at hm; exact hm.1
      have hx : r.matches x = false := by
        simp only [Res.matches, Bool.and_eq_false_iff, beq_eq_false_iff_ne]
        exact .inl (fun e => hne (hname.symm.trans e))
      split
      · simp [sumMatching, hx]
      · split
        · simp [sumMatching, hx, ih]
        · simp [sumMatching, hx, ih]
    · split
      · rfl
      · simp [sumMatching, ih]

namespace Resources

def NiceReq (req : Vec) : Prop := (req.map (·.1.name)).Nodup

theorem allocate_ok (r : Resources) (k : Res) (c : Comp) (q : Nat) (h : q ≤ r.availQ k) :
    (r.allocate k c q).2 = .ok := by
  unfold allocate
  split
  · omega
  · rfl

theorem allocate_availQ_other (r : Resources) (k x : Res) (c : Comp) (q : Nat) (hne : k.name ≠ x.name) :
    (r.allocate k c q).1.availQ x = r.availQ x := by
  unfold allocate
  split
  · rfl
  · exact scan_sumMatching_other k x hne r.avail q

theorem checkAll_congr (r' r : Resources) (req : Vec) (h : ∀ p ∈ req, r'.availQ p.1 = r.availQ p.1) :
    r'.checkAll req = r.checkAll req := by
  induction req with
  | nil => rfl
  | cons p rest ih =>
    obtain ⟨k, q⟩ := p
    simp only [checkAll, h (k, q) List.mem_cons_self, ih (fun p hp => h p (List.mem_cons_of_mem _ hp))]

theorem allocateEach_ok (r : Resources) (c : Comp) (req : Vec) (hcheck : r.checkAll req = true)
    (hnice : NiceReq req) : (r.allocateEach c req).2 = .ok := by
  induction req generalizing r with
  | nil => rfl
  | cons p rest ih =>
    obtain ⟨k, q⟩ := p
    simp only [checkAll, Bool.and_eq_true, decide_eq_true_eq] at hcheck
    simp only [NiceReq, List.map_cons, List.nodup_cons, List.mem_map, not_exists, not_and] at hnice
    -- the first allocation succeeds and leaves the other names untouched, so the rest of the
    -- request still passes the check
    have hrest : (r.allocate k c q).1.checkAll rest = true := by
      rw [checkAll_congr _ r rest
        (fun p hp => allocate_availQ_other r k p.1 c q (fun e => hnice.1 p hp e.symm))]
      exact hcheck.2
    have hok := allocate_ok r k c q hcheck.1
    simp only [allocateEach]
    cases hres : r.allocate k c q with
    | mk r' o =>
      rw [hres] at hok hrest
      simp only at hok
      subst hok
      exact ih r' hrest hnice.2

theorem allocateMultiple_ok (r : Resources) (req : Vec) (c : Comp) (hcheck : r.checkAll req = true)
    (hnice : NiceReq req) : (r.allocateMultiple req c).2 = .ok := by
  unfold allocateMultiple
  simp only [hcheck, if_true]
  have h1 := allocateEach_ok { r with allocs := record r.allocs c [] } c req
    ((checkAll_congr { r with allocs := record r.allocs c [] } r req (fun _ _ => rfl)).trans hcheck)
    hnice
  cases hres : allocateEach { r with allocs := record r.allocs c [] } c req with
  | mk r' o =>
    rw [hres] at h1
    simp only at h1
    subst h1
    rfl

end Resources

theorem Worker.placeTask_ok (w : Worker) (t : Nat) (s : Strategy) (hb : s.isBatch = false)
    (hfit : w.canAccommodate s = true) (hnice : Resources.NiceReq s.req) : (w.placeTask t s).2 = .ok := by
  simp only [Worker.canAccommodate, hb, Bool.false_and, Bool.or_false, Resources.fits] at hfit
  unfold Worker.placeTask
  simp only [hb]
  have := Resources.allocateMultiple_ok w.res s.req (.task t) hfit hnice
  cases hres : w.res.allocateMultiple s.req (.task t) with
  | mk r o =>
    rw [hres] at this
    simp only at this
    subst this
    rfl

/-- `WorkerPool.place_task(task[, strategy])` without a worker id does not raise when the
strategies are plain and nice. -/
theorem Pool.placeTask_ok (p : Pool) (t : Nat) (strats : List Strategy) (s? : Option Strategy)
    (hs : ∀ s, s? = some s → s.isBatch = false ∧ Resources.NiceReq s.req)
    (hstrats : ∀ s ∈ strats, s.isBatch = false ∧ Resources.NiceReq s.req) :
    ∃ b, (p.placeTask t strats s? none).2 = .ok b := by
  rcases Pool.placeTask_cases p t strats s? none with ⟨_, _, h⟩ | ⟨i, w, s, hw, hc, hm, ⟨_, e⟩ | ⟨err, he, _⟩⟩
  · exact ⟨false, h rfl⟩
  · exact ⟨true, by rw [e]⟩
  · have hn := hm.elim (hs s) (hstrats s)
    rw [Worker.placeTask_ok w t s hn.1 hc hn.2] at he
    cases he

namespace Greedy

/-- A task as the loaders build it: at least one strategy, all plain and nice. -/
def NiceTask (o : Offered) : Prop :=
  o.task.strategies ≠ [] ∧ ∀ s ∈ o.task.strategies, s.isBatch = false ∧ Resources.NiceReq s.req

theorem step_ok (cfg : Cfg) (V : List Pool) (o : Offered) (hn : NiceTask o) :
    ∃ d V', step cfg V o = .ok (d, V') := by
  unfold step
  have hh : ∃ b, hopeless cfg o = .ok b := by
    unfold hopeless
    split
    · cases hf : TaskS.fastest? o.task.strategies with
      | none =>
        cases hl : o.task.strategies with
        | nil => exact absurd hl hn.1
        | cons a b => simp [hl, TaskS.fastest?] at hf
      | some f => exact ⟨_, rfl⟩
    · exact ⟨false, rfl⟩
  obtain ⟨b, hb⟩ := hh
  rw [hb]
  cases b with
  | true => exact ⟨_, _, rfl⟩
  | false =>
    simp only
    cases hc : choose V o.task.strategies with
    | none => exact ⟨_, _, rfl⟩
    | some si =>
      obtain ⟨s, i⟩ := si
      obtain ⟨a, b', p, hab, _, hp, _⟩ := choose_some V _ s i hc
      have hsm : s ∈ o.task.strategies := by rw [hab]; simp
      obtain ⟨bb, hpl⟩ := Pool.placeTask_ok p o.lid o.task.strategies (passed cfg s)
        (by
          intro s' hs'
          unfold passed at hs'
          split at hs'
          · cases hs'; exact hn.2 s hsm
          · cases hs')
        hn.2
      simp only [hp]
      cases hres : p.placeTask o.lid o.task.strategies (passed cfg s) none with
      | mk p' e =>
        rw [hres] at hpl
        simp only at hpl
        subst hpl
        exact ⟨_, _, rfl⟩

theorem run_ok (cfg : Cfg) (V : List Pool) (os : List Offered) (hn : ∀ o ∈ os, NiceTask o) :
    ∃ ds Vf, run cfg V os = .ok (ds, Vf) := by
  induction os generalizing V with
  | nil => exact ⟨[], V, rfl⟩
  | cons o rest ih =>
    obtain ⟨d, V', hs⟩ := step_ok cfg V o (hn o (List.mem_cons_self ..))
    obtain ⟨ds, Vf, hr⟩ := ih V' (fun x hx => hn x (List.mem_cons_of_mem _ hx))
    exact ⟨d :: ds, Vf, run_cons_intro cfg V V' Vf o rest d ds hs hr⟩

theorem schedule_ok_of_nice (cfg : Cfg) (offer : List Offered) (live V0 : List Pool)
    (hcopy : copyPools live = .ok V0) (hkey : keyError? cfg offer = none)
    (hn : ∀ o ∈ offer, NiceTask o) : ∃ r, schedule cfg offer live = .ok r := by
  obtain ⟨ds, Vf, hr⟩ := run_ok cfg V0 (order cfg offer)
    (fun o ho => hn o ((mem_sortBy o offer).mp ho))
  exact ⟨⟨order cfg offer, ds, V0, Vf⟩, by simp only [schedule, hcopy, hkey, hr]⟩

/-- The LSF keys are defined for RELEASED / VIRTUAL tasks with a strategy and for tasks that
carry a remaining time. -/
theorem keyError_none (cfg : Cfg) (offer : List Offered)
    (h : ∀ o ∈ offer, (o.task.strategies ≠ [] ∧ (o.task.state = .released ∨ o.task.state = .virtual)) ∨
      o.task.remaining.isSome ∧ o.task.state = .preempted) : keyError? cfg offer = none := by
  unfold keyError?
  split
  · split
    · rename_i hany
      exfalso
      obtain ⟨o, ho, hb⟩ := List.any_eq_true.mp hany
      rcases h o ho with ⟨hne, hst⟩ | ⟨hrem, hst⟩
      · have hs : ∃ x, TaskS.slowest? o.task.strategies = some x := by
          cases hl : o.task.strategies with
          | nil => exact absurd hl hne
          | cons a b => exact ⟨_, rfl⟩
        obtain ⟨x, hx⟩ := hs
        rcases hst with e | e <;> simp [TaskS.remainingTime, e, hx] at hb
      · obtain ⟨x, hx⟩ := Option.isSome_iff_exists.mp hrem
        simp [TaskS.remainingTime, hst, hx] at hb
    · rfl
  · rfl

theorem keyError_filter (cfg : Cfg) (offer : List Offered) (p : Offered → Bool)
    (h : keyError? cfg offer = none) : keyError? cfg (offer.filter p) = none := by
  unfold keyError? at h ⊢
  split
  · rename_i hpol
    simp only [hpol] at h
    split at h
    · cases h
    · rename_i hany
      split
      · rename_i hany'
        exfalso
        apply hany
        obtain ⟨o, ho, hb⟩ := List.any_eq_true.mp hany'
        exact List.any_eq_true.mpr ⟨o, (List.mem_filter.mp ho).1, hb⟩
      · rfl
  · rfl

end Greedy
end ErdosVerif.Model
