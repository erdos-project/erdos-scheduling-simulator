import ErdosVerif.Model.SimOrder
import Std.Data.String.ToNat
/-!
Lemmas for C09.

* What `logUtilizationWith ord` does to a simulator state, computed exactly: it appends
  `utilRows ord time pools` to the trace, changes nothing else and never raises.
* The label functions of the simulator model (`Sim.tlabel`, `Sim.plabel`) are injective
  and have disjoint ranges.
-/
namespace ErdosVerif.Model
namespace SimOrder
open Sim

theorem row_run (r : Row) (s : SimS) : (row r).run.run s = (.ok (), { s with rows := s.rows.push r }) := rfl

theorem bind_run {α β} (x : SimM α) (f : α → SimM β) (s : SimS) (a : α) (s' : SimS)
    (h : x.run.run s = (.ok a, s')) : (x >>= f).run.run s = (f a).run.run s' := by
  simp only [ExceptT.run_bind, StateT.run_bind] at *
  rw [h]; rfl

/-- The inner loop (`for resource_name in <order>`): one row per name, in that order. -/
theorem inner_run (f : String → Row) (names : List String) (s : SimS) :
    (forIn (m := SimM) names PUnit.unit (fun nm _ => do row (f nm); pure (ForInStep.yield PUnit.unit))).run.run s
      = (.ok PUnit.unit, { s with rows := s.rows ++ (names.map f).toArray }) := by
  induction names generalizing s with
  | nil => simp; rfl
  | cons a l ih =>
    simp only [List.forIn_cons, List.map_cons, bind_assoc, pure_bind]
    rw [bind_run _ _ s () _ (row_run (f a) s), ih]
    simp

/-- The outer loop (`for worker_pool in self._worker_pools.worker_pools`). -/
theorem outer_run (ord : Order) (time : Int) (l : List (Pool × Nat)) (s : SimS) :
    (forIn (m := SimM) l PUnit.unit (fun x _ => do
        let res := x.1.resources
        let names := ord x.2 (res.total.map (·.1.name)).eraseDups
        forIn names PUnit.unit (fun nm _ => do
          let k : Res := ⟨nm, none⟩
          row [istr time, "WORKER_POOL_UTILIZATION", plabel x.2, nm, istr (res.allocatedQ k), nstr (res.availQ k)]
          pure (ForInStep.yield PUnit.unit))
        pure (ForInStep.yield PUnit.unit))).run.run s
      = (.ok PUnit.unit, { s with rows := s.rows ++
          (l.flatMap fun (p, i) => poolRows time i p.resources (ord i (nameSet p.resources))).toArray }) := by
  induction l generalizing s with
  | nil => simp; rfl
  | cons a l ih =>
    simp only [List.forIn_cons, bind_assoc, pure_bind, List.flatMap_cons]
    have h := inner_run (utilRow time a.2 a.1.resources) (ord a.2 (nameSet a.1.resources)) s
    refine (bind_run _ _ s PUnit.unit _ h).trans ?_
    rw [ih]
    simp [poolRows]

theorem logUtilizationWith_run (ord : Order) (time : Int) (s : SimS) :
    (logUtilizationWith ord time).run.run s
      = (.ok (), { s with rows := s.rows ++ (utilRows ord time s.pools.toList).toArray }) := by
  unfold logUtilizationWith
  have hg : (get : SimM SimS).run.run s = (.ok s, s) := rfl
  refine (bind_run _ _ s s s hg).trans ?_
  refine (bind_run _ _ s PUnit.unit _ (outer_run ord time s.pools.toList.zipIdx s)).trans ?_
  rfl

theorem tlabel_toList (t : TaskId) :
    (tlabel t).toList = 'g' :: (Nat.toDigits 10 t.g ++ '.' :: 't' :: Nat.toDigits 10 t.t) := by
  simp [tlabel, toString]

theorem plabel_toList (p : Nat) : (plabel p).toList = 'p' :: Nat.toDigits 10 p := by
  simp [plabel, toString]

theorem append_sep_inj {α} {x : α} : ∀ {l₁ l₂ r₁ r₂ : List α}, x ∉ l₁ → x ∉ l₂ →
    l₁ ++ x :: r₁ = l₂ ++ x :: r₂ → l₁ = l₂ ∧ r₁ = r₂
  | [], [], _, _, _, _, h => by simpa using h
  | [], b :: l₂, _, _, _, h₂, h => by
    simp only [List.nil_append, List.cons_append, List.cons.injEq] at h
    exact absurd (h.1 ▸ List.mem_cons_self) h₂
  | a :: l₁, [], _, _, h₁, _, h => by
    simp only [List.nil_append, List.cons_append, List.cons.injEq] at h
    exact absurd (h.1 ▸ List.mem_cons_self) h₁
  | a :: l₁, b :: l₂, _, _, h₁, h₂, h => by
    simp only [List.cons_append, List.cons.injEq] at h
    have := append_sep_inj (fun m => h₁ (List.mem_cons_of_mem _ m)) (fun m => h₂ (List.mem_cons_of_mem _ m)) h.2
    exact ⟨by rw [h.1, this.1], this.2⟩

theorem dot_not_digit (n : Nat) : '.' ∉ Nat.toDigits 10 n := fun h => by
  have := Nat.isDigit_of_mem_toDigits (by decide) (by decide) h
  revert this; decide

theorem toDigits_inj {m n : Nat} (h : Nat.toDigits 10 m = Nat.toDigits 10 n) : m = n :=
  Nat.repr_injective (by rw [Nat.repr_eq_ofList_toDigits, Nat.repr_eq_ofList_toDigits, h])

theorem tlabel_inj {a b : TaskId} (h : tlabel a = tlabel b) : a = b := by
  have h' := congrArg String.toList h
  rw [tlabel_toList, tlabel_toList] at h'
  simp only [List.cons.injEq, true_and] at h'
  obtain ⟨hg, ht⟩ := append_sep_inj (dot_not_digit _) (dot_not_digit _) h'
  simp only [List.cons.injEq, true_and] at ht
  cases a; cases b
  simp only [TaskId.mk.injEq]
  exact ⟨toDigits_inj hg, toDigits_inj ht⟩

theorem plabel_inj {a b : Nat} (h : plabel a = plabel b) : a = b := by
  have h' := congrArg String.toList h
  rw [plabel_toList, plabel_toList] at h'
  simp only [List.cons.injEq, true_and] at h'
  exact toDigits_inj h'

theorem tlabel_ne_plabel (t : TaskId) (p : Nat) : tlabel t ≠ plabel p := fun h => by
  have h' := congrArg String.toList h
  rw [tlabel_toList, plabel_toList] at h'
  simp at h'

end SimOrder
end ErdosVerif.Model
