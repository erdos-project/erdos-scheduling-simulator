/-
The objective of an assignment that indicates a plan (`Ind`) is the plan's reward; a feasible
point indicates its decoded plan.  With soundness and completeness (`Lemmas/TetriExact.lean`)
this makes the model *exact* for the specification; C14's maximality theorem is a corollary.
-/
import ErdosVerif.Lemmas.TetriSound
namespace ErdosVerif.Tetri
open ErdosVerif.Mip ErdosVerif.TetriSpec

variable {I : Inst} {σ : Var → Int} {plan : Plan}

theorem objective_ind (hI : Ind I σ plan)
    (hrew : I.cplex = true → ∀ t ∈ I.nonRunning, σ (.reward t) = (I.rewardSum t).eval σ) :
    objective σ (gen I) = planReward I plan := by
  unfold objective gen planReward
  cases hc : I.cplex with
  | true =>
    -- CPLEX: every task is rewarded, through its `reward` variable or the constant of a RUNNING task
    have hall : I.act.filter I.rewarded = I.act :=
      List.filter_eq_self.mpr (fun t _ => by simp [Inst.rewarded, hc])
    simp only [if_true, genC, QuadExpr.eval_ofLin, Inst.objC, LinExpr.eval_sumL, List.map_map, hall]
    apply isum_map_eq
    intro t ht
    cases hr : I.running t with
    | true => simp [rewOf, Inst.rewardE, hr, hc]
    | false =>
      simp only [Function.comp, rewOf, Inst.rewardE, hr, Bool.false_eq_true, if_false, LinExpr.eval_ofVar,
        Bool.and_false, hrew hc t (nonRunning_of_act ht hr), rewardSum_ind hI ht]
      rfl
  | false =>
    simp only [Bool.false_eq_true, if_false, genG, QuadExpr.eval_ofLin, Inst.objG, LinExpr.eval_sumL,
      List.map_map]
    apply isum_map_eq
    intro t ht
    simp only [Function.comp, rewOf, hc, Bool.false_and, Bool.false_eq_true, if_false,
      rewardSum_ind hI (List.mem_filter.mp ht).1]
    rfl

theorem objective_eq_planReward (h : sat σ (gen I)) (hwf : I.wf = true)
    (hm : I.noModel = false) : objective σ (gen I) = planReward I (planOf I σ) := by
  apply objective_ind (ind_of_sat h hwf hm)
  intro hc t ht
  have := (rows h).reward hc t ht
  simp only [Inst.cRewardC, Constr.holds, Sense.holds, LinExpr.eval_sub, LinExpr.eval_ofVar] at this
  omega

end ErdosVerif.Tetri
