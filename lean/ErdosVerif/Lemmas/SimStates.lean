import ErdosVerif.Lemmas.SimCensusBase
import ErdosVerif.Lemmas.GraphInv
/-!
Census against the task states: counting tasks by state (`GraphS.cnt` in a graph, `totalCnt`
in a workload), and what every operation of the task / task-graph layer does to the counts.

* `isDone t` — the task is COMPLETED or EVICTED (`Task.is_complete()`); `isCanc t` — CANCELLED.
* A `Task` API call other than `finish` never changes `isDone`; other than `cancel` never
  changes `isCanc` (`call_done`, `call_canc`); a successful `finish` turns exactly one
  not-done task into a done one; a failed one changes nothing.
* `TaskGraph.cancel` / `notify_task_completion` never change the number of done tasks and
  raise the number of cancelled tasks by exactly the length of the list they report (when
  they do not raise; never lower it).
-/
namespace ErdosVerif.Model

def isDone (t : TaskS) : Bool := t.isComplete
def isCanc (t : TaskS) : Bool := t.state == .cancelled

theorem list_countP_set {α} (p : α → Bool) : ∀ (l : List α) (n : Nat) (x x' : α), l[n]? = some x →
    (l.set n x').countP p + (if p x then 1 else 0) = l.countP p + (if p x' then 1 else 0)
  | [], n, x, x', h => by simp at h
  | a :: l, 0, x, x', h => by
    simp only [List.getElem?_cons_zero, Option.some.injEq] at h
    subst h
    simp only [List.set_cons_zero, List.countP_cons]
    omega
  | a :: l, n + 1, x, x', h => by
    simp only [List.getElem?_cons_succ] at h
    have := list_countP_set p l n x x' h
    simp only [List.set_cons_succ, List.countP_cons]
    omega

theorem list_sum_set {α} (f : α → Nat) : ∀ (l : List α) (n : Nat) (x x' : α), l[n]? = some x →
    ((l.set n x').map f).sum + f x = (l.map f).sum + f x'
  | [], n, x, x', h => by simp at h
  | a :: l, 0, x, x', h => by
    simp only [List.getElem?_cons_zero, Option.some.injEq] at h
    subst h
    simp only [List.set_cons_zero, List.map_cons, List.sum_cons]
    omega
  | a :: l, n + 1, x, x', h => by
    simp only [List.getElem?_cons_succ] at h
    have := list_sum_set f l n x x' h
    simp only [List.set_cons_succ, List.map_cons, List.sum_cons]
    omega

namespace GraphS

def cnt (p : TaskS → Bool) (g : GraphS) : Nat := g.tasks.toList.countP p

theorem cnt_setTask (p : TaskS → Bool) (g : GraphS) (n : Nat) (x x' : TaskS) (h : g.task? n = some x) :
    cnt p (g.setTask n x') + (if p x then 1 else 0) = cnt p g + (if p x' then 1 else 0) := by
  unfold cnt setTask
  simp only [Array.toList_setIfInBounds]
  apply list_countP_set
  simpa [task?] using h

theorem cnt_setTask_same (p : TaskS → Bool) (g : GraphS) (n : Nat) (x x' : TaskS) (h : g.task? n = some x)
    (hp : p x' = p x) : cnt p (g.setTask n x') = cnt p g := by
  have := cnt_setTask p g n x x' h
  rw [hp] at this
  omega

theorem cnt_fresh (p : TaskS → Bool) (g : GraphS) (h : g.Fresh) (hp : ∀ t : TaskS, t.state = .virtual → p t = false) :
    cnt p g = 0 := by
  unfold cnt
  rw [List.countP_eq_zero]
  intro t ht
  obtain ⟨i, hi, rfl⟩ := List.getElem_of_mem ht
  have := (h i g.tasks.toList[i] (by simp [task?])).1
  simp only [Array.getElem_toList] at this ⊢
  simp [hp _ this]

theorem cnt_fresh_done (g : GraphS) (h : g.Fresh) : cnt isDone g = 0 :=
  cnt_fresh _ g h fun t ht => by simp [isDone, TaskS.isComplete, ht]

theorem cnt_fresh_canc (g : GraphS) (h : g.Fresh) : cnt isCanc g = 0 :=
  cnt_fresh _ g h fun t ht => by simp [isCanc, ht]

end GraphS

def totalCnt (p : TaskS → Bool) (gs : Array GraphS) : Nat := (gs.toList.map (GraphS.cnt p)).sum

theorem totalCnt_set (p : TaskS → Bool) (gs : Array GraphS) (gi : Nat) (g g' : GraphS) (h : gs[gi]? = some g) :
    totalCnt p (gs.setIfInBounds gi g') + g.cnt p = totalCnt p gs + g'.cnt p := by
  unfold totalCnt
  simp only [Array.toList_setIfInBounds]
  apply list_sum_set
  simpa using h

theorem totalCnt_set_same (p : TaskS → Bool) (gs : Array GraphS) (gi : Nat) (g g' : GraphS) (h : gs[gi]? = some g)
    (hc : g'.cnt p = g.cnt p) : totalCnt p (gs.setIfInBounds gi g') = totalCnt p gs := by
  have := totalCnt_set p gs gi g g' h
  omega

theorem totalCnt_push (p : TaskS → Bool) (gs : Array GraphS) (g : GraphS) :
    totalCnt p (gs.push g) = totalCnt p gs + g.cnt p := by
  simp [totalCnt]

theorem totalCnt_empty (p : TaskS → Bool) : totalCnt p #[] = 0 := rfl

theorem totalCnt_zero (p : TaskS → Bool) (gs : Array GraphS) (h : ∀ g ∈ gs.toList, g.cnt p = 0) : totalCnt p gs = 0 := by
  unfold totalCnt
  generalize gs.toList = l at h
  induction l with
  | nil => rfl
  | cons a l ih =>
    simp only [List.map_cons, List.sum_cons]
    rw [h a (List.mem_cons_self ..), ih (fun g hg => h g (List.mem_cons_of_mem _ hg))]

def TaskCall.isFinish : TaskCall → Bool
  | .finish _ => true
  | _ => false
def TaskCall.isCancel : TaskCall → Bool
  | .cancel _ => true
  | _ => false

theorem call_class (p : TState → Bool) (hout : ∀ s s', p s = true → Legal s s' = false)
    (t : TaskS) (c : TaskCall) (h : t.PreOK) (hc : ∀ s, c.target s = true → p s = false) :
    p (t.call c).1.state = p t.state := by
  rcases (call_ok t c h).2 with e | ⟨hl, ht⟩
  · rw [e]
  · rw [hc _ ht]
    cases hp : p t.state with
    | false => rfl
    | true => rw [hout _ _ hp] at hl; cases hl

theorem call_done (t : TaskS) (c : TaskCall) (h : t.PreOK) (hc : c.isFinish = false) :
    isDone (t.call c).1 = isDone t :=
  call_class (fun s => s == .evicted || s == .completed)
    (fun s s' hs => by cases s <;> cases s' <;> first | rfl | cases hs) t c h
    (fun s hs => by cases c <;> cases s <;> first | rfl | exact Bool.noConfusion hc | exact Bool.noConfusion hs)

theorem call_canc (t : TaskS) (c : TaskCall) (h : t.PreOK) (hc : c.isCancel = false) :
    isCanc (t.call c).1 = isCanc t :=
  call_class (fun s => s == .cancelled)
    (fun s s' hs => by cases s <;> cases s' <;> first | rfl | cases hs) t c h
    (fun s hs => by cases c <;> cases s <;> first | rfl | exact Bool.noConfusion hc | exact Bool.noConfusion hs)

theorem finish_done (t : TaskS) (time : Option Int) :
    ((t.doFinish time).2 = none → isDone (t.doFinish time).1 = true ∧ isDone t = false) ∧
    ((t.doFinish time).2 ≠ none → (t.doFinish time).1 = t) := by
  unfold TaskS.doFinish
  split
  · exact ⟨fun h => (by cases h), fun _ => rfl⟩
  · rename_i hg
    refine ⟨fun _ => ?_, fun h => absurd rfl h⟩
    cases hs : t.state <;> simp_all [isDone, TaskS.isComplete] <;>
      (by_cases hr : t.remaining = some 0 <;> simp [hr])

namespace GraphS

/-- What a cancellation walk does to the counts on its way from `g`, where it has reported the
tasks `acc` so far, to its end `r`, where it reports `out` and `err`. -/
structure WalkCnt (g r : GraphS) (acc out : List Nat) (err : Option SErr) : Prop where
  done : cnt isDone r = cnt isDone g
  mono : cnt isCanc g ≤ cnt isCanc r
  exact : err = none → cnt isCanc r + acc.length = cnt isCanc g + out.length

theorem Edit.cnt {time : Int} {skip : Option Nat} {g g' : GraphS} {l : List Nat}
    (h : Edit time skip g l g') :
    cnt isDone g' = cnt isDone g ∧ cnt isCanc g' = cnt isCanc g + l.length := by
  induction h with
  | refl => exact ⟨rfl, rfl⟩
  | @cancel g' l c tc t' _ htc hdc ih =>
    -- the task was VIRTUAL / RELEASED / SCHEDULED and is CANCELLED: neither done, one more cancelled
    obtain ⟨h1, -, h2⟩ := doCancel_ok tc time t' hdc
    have hc := cnt_setTask isCanc g' c tc t' htc
    have hd : isDone t' = isDone tc := by
      rcases h2 with h | h | h <;> simp only [isDone, TaskS.isComplete, h1, h] <;> rfl
    have hc' : isCanc t' = true ∧ isCanc tc = false := by
      rcases h2 with h | h | h <;> simp only [isCanc, h1, h] <;> exact ⟨rfl, rfl⟩
    rw [hc'.1, hc'.2] at hc
    refine ⟨(cnt_setTask_same _ g' c tc t' htc hd).trans ih.1, ?_⟩
    simp only [Bool.false_eq_true, if_false, if_true, List.length_append, List.length_singleton] at hc ⊢
    omega
  | @prob g' l c tc _ _ htc ih =>
    have same := fun p (hp : p { tc with prob := 1000 } = p tc) => cnt_setTask_same p g' c tc _ htc hp
    exact ⟨(same isDone rfl).trans ih.1, (same isCanc rfl).trans ih.2⟩

theorem Edit.walkCnt {time : Int} {skip : Option Nat} {g g' : GraphS} {l : List Nat}
    (h : Edit time skip g l g') (acc out : List Nat) (err : Option SErr) (ho : err = none → out = acc ++ l) :
    WalkCnt g g' acc out err :=
  ⟨h.cnt.1, by rw [h.cnt.2]; omega, fun he => by rw [ho he, h.cnt.2, List.length_append]; omega⟩

theorem cancel_cnt (g : GraphS) (n : Nat) (time : Int) :
    WalkCnt g (g.cancel n time).g [] (g.cancel n time).cancelled (g.cancel n time).err :=
  let ⟨_, he, e⟩ := cancel_edit g n time
  he.walkCnt _ _ _ e

theorem notifyCompletion_cnt (g : GraphS) (n : Nat) (finish : Int) (tape : List Draw) :
    WalkCnt g (g.notifyCompletion n finish tape).g [] (g.notifyCompletion n finish tape).cancelled
      (g.notifyCompletion n finish tape).err :=
  let ⟨_, _, he, e, _⟩ := notifyCompletion_edit g n finish tape
  he.walkCnt _ _ _ e

end GraphS
end ErdosVerif.Model
