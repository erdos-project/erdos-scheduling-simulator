import ErdosVerif.Model.Sim
import ErdosVerif.Lemmas.CancelClosure
import ErdosVerif.Lemmas.TaskLegal
/-!
The residency and exact-runtime invariants of the simulator model are stated over *views* of
the simulator state, so that most state changes are frame steps:

* `views pools`   : per pool, per worker, the list of resident task ids (`_placed_tasks` keys);
* `pmaps pools`   : per pool, the pool-level map task ↦ worker index (`_placed_tasks` of the pool);
* `taskAt graphs` : task identity ↦ task record.

The invariants survive every change of the task records that leaves the RUNNING tasks alone:
`TR` says so of one task, `RFrame` of a task graph, `TRel` of the whole lookup. `TaskGraph.cancel` and
`TaskGraph.notify_task_completion` are such changes: they never touch a RUNNING task and never make a task RUNNING
(`GraphS.rframe_cancel`, `GraphS.rframe_notifyCompletion`, for a graph whose tasks all satisfy `PreOK`: `AllPre`).
-/
namespace ErdosVerif.Model

def taskAt (gs : Array GraphS) (t : TaskId) : Option TaskS := (gs[t.g]?).bind (·.task? t.t)

def Pool.view (p : Pool) : List (List Nat) := p.workers.map (fun w => AList.keys w.placed)

def views (ps : Array Pool) : List (List (List Nat)) := ps.toList.map Pool.view
def pmaps (ps : Array Pool) : List (AList Nat Nat) := ps.toList.map (·.placed)

/-- Task id `n` is resident on worker `i` of pool `pi`. -/
def At (vs : List (List (List Nat))) (pi i n : Nat) : Prop :=
  ∃ v ks, vs[pi]? = some v ∧ v[i]? = some ks ∧ n ∈ ks

theorem Sim.gid_ungid (n : Nat) : Sim.gid (Sim.ungid n) = n := by
  simp only [Sim.gid, Sim.ungid]; omega

theorem Sim.ungid_gid (t : TaskId) (h : t.t < 65536) : Sim.ungid (Sim.gid t) = t := by
  obtain ⟨g, n⟩ := t
  simp only [Sim.gid, Sim.ungid] at h ⊢
  congr 1 <;> omega

theorem Sim.gid_inj (t u : TaskId) (ht : t.t < 65536) (hu : u.t < 65536) (h : Sim.gid t = Sim.gid u) : t = u := by
  rw [← Sim.ungid_gid t ht, ← Sim.ungid_gid u hu, h]

def TR (x x' : TaskS) : Prop :=
  x' = x ∨ (x.state ≠ .running ∧ x'.state ≠ .running ∧ x'.PreOK ∧ (x.isComplete = true → x'.isComplete = true))

theorem TR.refl (x : TaskS) : TR x x := Or.inl rfl

theorem TR.trans {x y z : TaskS} (h1 : TR x y) (h2 : TR y z) : TR x z := by
  rcases h1 with rfl | ⟨a1, a2, a3, a4⟩
  · exact h2
  · rcases h2 with rfl | ⟨b1, b2, b3, b4⟩
    · exact Or.inr ⟨a1, a2, a3, a4⟩
    · exact Or.inr ⟨a1, b2, b3, fun h => b4 (a4 h)⟩

/-- The `Task` API calls the simulator issues on tasks that are not running. -/
def TaskCall.isQuiet : TaskCall → Bool
  | .release _ => true
  | .schedule _ _ => true
  | .unschedule => true
  | .cancel _ => true
  | _ => false

/-- `release`, `schedule`, `unschedule`, `cancel` are refused by a RUNNING task and never
make a task RUNNING. -/
theorem call_TR (x : TaskS) (c : TaskCall) (hp : x.PreOK) (hc : c.isQuiet = true) : TR x (x.call c).1 := by
  obtain ⟨hpre, hstep⟩ := call_ok x c hp
  by_cases hr : x.state = .running
  · left
    cases c <;> first | exact Bool.noConfusion hc | simp [TaskS.call, TaskS.doRelease, TaskS.doSchedule, TaskS.doUnschedule,
      TaskS.doCancel, hr]
  · refine .inr ⟨hr, ?_, hpre, ?_⟩
    · rcases hstep with e | ⟨_, ht⟩
      · exact e ▸ hr
      · intro hs; rw [hs] at ht; cases c <;> first | exact Bool.noConfusion hc | exact Bool.noConfusion ht
    · rcases hstep with e | ⟨hl, _⟩
      · simp only [TaskS.isComplete, e, imp_self]
      · intro hcomp
        have : x.state = .evicted ∨ x.state = .completed := by simpa [TaskS.isComplete] using hcomp
        rw [legal_final (this.imp_right .inl)] at hl
        cases hl

structure TRel (T T' : TaskId → Option TaskS) : Prop where
  old : ∀ t x, T t = some x → ∃ x', T' t = some x' ∧ TR x x'
  new : ∀ t x', T' t = some x' → (∃ x, T t = some x) ∨ (x'.state ≠ .running ∧ x'.PreOK ∧ t.t < 65536)

theorem TRel.refl (T : TaskId → Option TaskS) : TRel T T :=
  ⟨fun _ x h => ⟨x, h, TR.refl x⟩, fun _ x' h => Or.inl ⟨x', h⟩⟩

theorem TRel.running_back {T T' : TaskId → Option TaskS} (hr : TRel T T') {t : TaskId} {x' : TaskS} (ht : T' t = some x')
    (hs : x'.state = .running) : T t = some x' := by
  rcases hr.new t x' ht with ⟨x, hx⟩ | ⟨hn, _, _⟩
  · obtain ⟨y, hy, r⟩ := hr.old t x hx
    rw [ht] at hy; cases hy
    rcases r with r | r
    · rw [r]; exact hx
    · exact absurd hs r.2.1
  · exact absurd hs hn

theorem TRel.preOK {T T' : TaskId → Option TaskS} (hr : TRel T T') (h : ∀ t x, T t = some x → x.PreOK) :
    ∀ t x', T' t = some x' → x'.PreOK := by
  intro t x' ht
  rcases hr.new t x' ht with ⟨x, hx⟩ | ⟨_, hp, _⟩
  · obtain ⟨y, hy, r⟩ := hr.old t x hx
    rw [ht] at hy; cases hy
    rcases r with r | r
    · rw [r]; exact h t x hx
    · exact r.2.2.1
  · exact hp

structure RFrame (g g' : GraphS) : Prop where
  size : g'.tasks.size = g.tasks.size
  rel : ∀ n x, g.task? n = some x → ∃ x', g'.task? n = some x' ∧ TR x x'

theorem RFrame.refl (g : GraphS) : RFrame g g := ⟨rfl, fun _ x h => ⟨x, h, TR.refl x⟩⟩

theorem RFrame.trans {a b c : GraphS} (h1 : RFrame a b) (h2 : RFrame b c) : RFrame a c := by
  refine ⟨h2.size.trans h1.size, ?_⟩
  intro n x hx
  obtain ⟨y, hy, r1⟩ := h1.rel n x hx
  obtain ⟨z, hz, r2⟩ := h2.rel n y hy
  exact ⟨z, hz, r1.trans r2⟩

theorem task?_lt (g : GraphS) (n : Nat) (x : TaskS) (h : g.task? n = some x) : n < g.tasks.size := by
  simp only [GraphS.task?] at h
  exact (Array.getElem?_eq_some_iff.mp h).1

theorem RFrame.back {g g' : GraphS} (h : RFrame g g') (n : Nat) (x' : TaskS) (hx' : g'.task? n = some x') :
    ∃ x, g.task? n = some x ∧ TR x x' := by
  have hlt : n < g.tasks.size := by rw [← h.size]; exact task?_lt g' n x' hx'
  have hx : g.task? n = some g.tasks[n] := Array.getElem?_eq_getElem hlt
  obtain ⟨y, hy, r⟩ := h.rel n _ hx
  rw [hx'] at hy; cases hy
  exact ⟨_, hx, r⟩

theorem RFrame.setTask (g : GraphS) (n : Nat) (x x' : TaskS) (hx : g.task? n = some x) (h : TR x x') :
    RFrame g (g.setTask n x') := by
  have hlt := task?_lt g n x hx
  refine ⟨by simp [GraphS.setTask], ?_⟩
  intro k y hy
  rw [GraphS.task?_setTask]
  by_cases hk : k = n
  · subst hk
    rw [hx] at hy
    cases hy
    exact ⟨x', by simp [hlt], h⟩
  · exact ⟨y, by simp [hk, hy], TR.refl y⟩

theorem taskAt_set (gs : Array GraphS) (gi : Nat) (g' : GraphS) (t : TaskId) :
    taskAt (gs.setIfInBounds gi g') t = if t.g = gi ∧ gi < gs.size then g'.task? t.t else taskAt gs t := by
  unfold taskAt
  rw [Array.getElem?_setIfInBounds]
  by_cases h : gi = t.g
  · subst h
    by_cases h2 : t.g < gs.size <;> simp [h2]
  · have : ¬ t.g = gi := fun e => h e.symm
    simp [h, this]

theorem taskAt_some (gs : Array GraphS) (t : TaskId) (x : TaskS) (h : taskAt gs t = some x) :
    ∃ g, gs[t.g]? = some g ∧ g.task? t.t = some x := by
  unfold taskAt at h
  cases hg : gs[t.g]? with
  | none => simp [hg] at h
  | some g => exact ⟨g, rfl, by simpa [hg] using h⟩

theorem taskAt_of (gs : Array GraphS) (t : TaskId) (g : GraphS) (x : TaskS) (hg : gs[t.g]? = some g)
    (hx : g.task? t.t = some x) : taskAt gs t = some x := by
  unfold taskAt; simp [hg, hx]

theorem TRel.setGraph (gs : Array GraphS) (gi : Nat) (g g' : GraphS) (hg : gs[gi]? = some g) (h : RFrame g g') :
    TRel (taskAt gs) (taskAt (gs.setIfInBounds gi g')) := by
  have hlt : gi < gs.size := (Array.getElem?_eq_some_iff.mp hg).1
  constructor
  · intro t x hx
    rw [taskAt_set]
    by_cases ht : t.g = gi
    · simp only [ht, hlt, and_self, if_true]
      obtain ⟨g0, h0, h1⟩ := taskAt_some gs t x hx
      rw [ht, hg] at h0
      cases h0
      exact h.rel t.t x h1
    · simp only [ht, false_and, if_false]
      exact ⟨x, hx, TR.refl x⟩
  · intro t x' hx'
    rw [taskAt_set] at hx'
    by_cases ht : t.g = gi
    · simp only [ht, hlt, and_self, if_true] at hx'
      obtain ⟨x, hx, _⟩ := h.back t.t x' hx'
      exact Or.inl ⟨x, taskAt_of gs t g x (by rw [ht]; exact hg) hx⟩
    · simp only [ht, false_and, if_false] at hx'
      exact Or.inl ⟨x', hx'⟩

/-- A task graph none of whose tasks is RUNNING (a graph the loader hands over, a job
template), small enough for the task-id encoding of the worker pools. -/
structure GraphS.Quiet (g : GraphS) : Prop where
  small : g.tasks.size ≤ 65536
  quiet : ∀ n x, g.task? n = some x → x.state ≠ .running ∧ x.PreOK

theorem GraphS.Quiet.task {g : GraphS} (hq : g.Quiet) {n : Nat} {x : TaskS} (h : g.task? n = some x) :
    x.state ≠ .running ∧ x.PreOK ∧ n < 65536 :=
  ⟨(hq.quiet n x h).1, (hq.quiet n x h).2, Nat.lt_of_lt_of_le (task?_lt g n x h) hq.small⟩

theorem TRel.push (gs : Array GraphS) (g : GraphS) (hq : g.Quiet) : TRel (taskAt gs) (taskAt (gs.push g)) := by
  constructor
  · intro t x hx
    obtain ⟨g0, h0, h1⟩ := taskAt_some gs t x hx
    have hlt : t.g < gs.size := (Array.getElem?_eq_some_iff.mp h0).1
    refine ⟨x, ?_, TR.refl x⟩
    unfold taskAt
    rw [Array.getElem?_push_lt hlt, ← Array.getElem?_eq_getElem hlt, h0]
    simpa using h1
  · intro t x' hx'
    obtain ⟨g0, h0, h1⟩ := taskAt_some _ t x' hx'
    rw [Array.getElem?_push] at h0
    split at h0
    · cases h0
      exact Or.inr (hq.task h1)
    · exact Or.inl ⟨x', taskAt_of gs t g0 x' h0 h1⟩

/-- Adopting the loader's graphs into an empty workload. -/
theorem TRel.load (gs' : Array GraphS) (hq : ∀ g ∈ gs'.toList, g.Quiet) : TRel (taskAt #[]) (taskAt gs') := by
  constructor
  · intro t x hx; simp [taskAt] at hx
  · intro t x' hx'
    obtain ⟨g0, h0, h1⟩ := taskAt_some _ t x' hx'
    exact Or.inr ((hq g0 (Array.mem_toList_iff.mpr (Array.mem_of_getElem? h0))).task h1)

namespace GraphS

def AllPre (g : GraphS) : Prop := ∀ n x, g.task? n = some x → x.PreOK

theorem AllPre.frame {g g' : GraphS} (h : g.AllPre) (hf : RFrame g g') : g'.AllPre := by
  intro n x' hx'
  obtain ⟨x, hx, r | r⟩ := hf.back n x' hx'
  · rw [r]; exact h n x hx
  · exact r.2.2.1

/-- Both writes of an `Edit` are `TR` steps: `Task.cancel` is a quiet call, and the task whose
`prob` is set is not RUNNING (it was not at the start, and no write makes it so). -/
theorem Edit.rframe {time : Int} {skip : Option Nat} {g g' : GraphS} {l : List Nat}
    (h : Edit time skip g l g') (hp : g.AllPre)
    (hs : ∀ c x, skip = some c → g.task? c = some x → x.state ≠ .running) :
    RFrame g g' ∧ g'.AllPre := by
  induction h with
  | refl => exact ⟨.refl _, hp⟩
  | @cancel g' l c tc t' _ htc hdc ih =>
    have hr := call_TR tc (.cancel time) (ih.2 c tc htc) rfl
    rw [TaskS.call, hdc] at hr
    have hf := RFrame.setTask g' c tc _ htc hr
    exact ⟨ih.1.trans hf, ih.2.frame hf⟩
  | @prob g' l c tc _ hsk htc ih =>
    have hnr : tc.state ≠ .running := by
      obtain ⟨x, hx, r | r⟩ := ih.1.back c tc htc
      · rw [r]; exact hs c x hsk hx
      · exact r.2.1
    have hr : TR tc { tc with prob := 1000 } :=
      Or.inr ⟨hnr, hnr, ih.2 c tc htc, fun hc => by simpa [TaskS.isComplete] using hc⟩
    have hf := RFrame.setTask g' c tc _ htc hr
    exact ⟨ih.1.trans hf, ih.2.frame hf⟩

theorem rframe_cancel (g : GraphS) (n : Nat) (time : Int) (h : g.AllPre) : RFrame g (g.cancel n time).g :=
  let ⟨_, he, _⟩ := cancel_edit g n time
  (he.rframe h fun _ _ hc => by cases hc).1

theorem rframe_notifyCompletion (g : GraphS) (n : Nat) (finish : Int) (tape : List Draw) (h : g.AllPre) :
    RFrame g (g.notifyCompletion n finish tape).g := by
  obtain ⟨skip, _, he, _, hsk⟩ := notifyCompletion_edit g n finish tape
  refine (he.rframe h fun c x hc hx hrun => ?_).1
  simpa [stateOf, hx, hrun, TState.val] using hsk c hc

end GraphS
end ErdosVerif.Model
