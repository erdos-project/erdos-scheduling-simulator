/-
Precedence facts every satisfying assignment of the Z3 scheduler's assertions has:
the two implications of `_add_task_dependency_constraints`, and their transitive closure
along chains of offered tasks.
-/
import ErdosVerif.Lemmas.Z3Sat
namespace ErdosVerif.Z3m

/-- `_add_task_dependency_constraints`: a placed task has every offered parent placed and starts
no earlier than `parent start + parent.remaining_time`. -/
theorem cDeps_holds (I : Inst) (σ : Assign Var) (c : Nat) : (∀ a ∈ I.cDeps c, a.eval σ = true) ↔
    (σ.b (.placed c) = true → ∀ p ∈ I.parentVars c,
      σ.b (.placed p) = true ∧ σ.i (.start c) ≥ σ.i (.start p) + (I.rem p : Int)) := by
  simp [-eval_imp, imp_holds, Inst.cDeps, Inst.placedT, Inst.startT, Inst.endT, forall_and]

theorem parent_ordered {I : Inst} {σ : Assign Var} (h : sat σ (gen I)) {c p : Nat}
    (hc : c < I.nT) (hp : p ∈ I.parentVars c) (hpl : σ.b (.placed c) = true) :
    σ.b (.placed p) = true ∧ σ.i (.start c) ≥ σ.i (.start p) + (I.rem p : Int) :=
  (cDeps_holds I σ c).mp ((sat_iff.mp h).deps c hc) hpl p hp

theorem parentVars_lt {I : Inst} {c p : Nat} (hp : p ∈ I.parentVars c) : p < I.nT := by
  obtain ⟨u, _, hu⟩ := List.mem_filterMap.mp hp
  exact List.mem_range.mp (List.mem_of_find?_eq_some hu)

theorem mem_descIn_lt {I : Inst} : ∀ {k a b : Nat}, b ∈ I.descIn k a → b < I.nT := by
  intro k
  induction k with
  | zero => intro a b hb; simp [Inst.descIn] at hb
  | succ k ih =>
    intro a b hb
    simp only [Inst.descIn, List.mem_append, List.mem_filter, List.mem_range, List.mem_flatMap] at hb
    rcases hb with ⟨hb, _⟩ | ⟨c, _, hb⟩
    · exact hb
    · exact ih hb

theorem linked_ordered {I : Inst} {σ : Assign Var} (h : sat σ (gen I)) :
    ∀ {k a b : Nat}, b ∈ I.descIn k a → σ.b (.placed b) = true →
      σ.b (.placed a) = true ∧ σ.i (.start b) ≥ σ.i (.start a) + (I.rem a : Int) := by
  intro k
  induction k with
  | zero => intro a b hb; simp [Inst.descIn] at hb
  | succ k ih =>
    intro a b hb hpl
    simp only [Inst.descIn, List.mem_append, List.mem_filter, List.mem_range, List.mem_flatMap,
      List.contains_iff_mem] at hb
    rcases hb with ⟨hb, hab⟩ | ⟨c, ⟨hc, hac⟩, hb⟩
    · exact parent_ordered h hb hab hpl
    · have ⟨hcp, hcb⟩ := ih hb hpl
      have ⟨hap, hca⟩ := parent_ordered h hc hac hcp
      exact ⟨hap, by omega⟩

end ErdosVerif.Z3m
