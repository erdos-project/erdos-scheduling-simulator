import ErdosVerif.Lemmas.SimProgressFwd
import ErdosVerif.Lemmas.SimQueueRun
/-!
Progress of the `simulate()` loop: the loop-head invariant `PJ` = pending-finish
invariant ∧ residency invariant ∧ queue invariant ∧ pool-map invariant; it holds at every
loop head of every run from a well-formed initial state.
-/
open Std.Do

namespace ErdosVerif.Model.Sim

structure PJ (s : SimS) : Prop where
  pg : PG none [] s
  ap : AP RunOK [] s
  q : QInv s
  pf : PFM s

theorem PJ.placed_running {s : SimS} (h : PJ s) (t : TaskId) (ht : t ∈ placedList s) :
    ∃ x, taskAt s.graphs t = some x ∧ x.state = .running := by
  unfold placedList at ht
  obtain ⟨p, hp, htp⟩ := List.mem_flatMap.mp ht
  obtain ⟨q, hq, rfl⟩ := List.mem_map.mp htp
  obtain ⟨ks, hk, hm⟩ := (h.pf p hp).2 q hq
  obtain ⟨pi, hpi, hpe⟩ := List.getElem_of_mem hp
  have hvs : (views s.pools)[pi]? = some p.view := by
    rw [views_getElem?]
    have : s.pools[pi]? = some p := by
      rw [Array.getElem?_eq_getElem (by simpa using hpi)]
      simp only [Array.getElem_toList] at hpe
      rw [hpe]
    rw [this]; rfl
  have hat : At (views s.pools) pi q.2 q.1 := ⟨p.view, ks, hvs, hk, hm⟩
  exact h.ap.core.resRun pi q.2 q.1 hat

/-- The TASK_FINISHED event of the task is queued, and the root of the heap is not later. -/
theorem PJ.noStall {s : SimS} (h : PJ s) : NoStallPre s := by
  intro t ht x hx hrem head hh
  obtain ⟨x', hx', hrun⟩ := h.placed_running t ht
  rw [hx] at hx'; cases hx'
  have hr : x.remaining = some 0 := by
    simp only [TaskS.remainingTime, hrun] at hrem
    cases hr : x.remaining with
    | none => rw [hr] at hrem; cases hrem
    | some r => rw [hr] at hrem; cases hrem; rfl
  obtain ⟨e, he, _, _, hle⟩ := h.pg.due t x hx hrun hr (by simp)
  simp only [List.append_nil] at he
  obtain ⟨j, hj, hje⟩ := Array.getElem_of_mem (Array.mem_toList_iff.mp he)
  have hmin := Heap.root_min sevent_swo s.queue h.q.wf h.q.heap j hj
  have h0 : 0 < s.queue.size := by omega
  have hhead : head = s.queue[0] := by
    rw [Array.getElem?_eq_getElem h0] at hh; exact (Option.some.inj hh).symm
  rw [hje, ← hhead] at hmin
  have : ¬ (e.ev.time < head.ev.time) := by
    intro hlt
    have := (Event.lt_iff e.ev head.ev).mpr (Or.inl hlt)
    simp only [SEvent.lt] at hmin
    rw [this] at hmin; cases hmin
  omega

theorem HoldsAfter.pj {α} {W W' W'' : SimS → Prop} {r : Except SErr α × SimS}
    (a : HoldsAfter (fun _ s => PG none [] s) (fun _ => True) r) (b : HoldsAfter (fun _ s => AP RunOK [] s) W r)
    (c : HoldsAfter (fun _ s => QInv s) W' r) (d : HoldsAfter (fun _ s => PFM s) W'' r) :
    HoldsAfter (fun _ s => PJ s) (fun _ => True) r := by
  obtain ⟨_ | _, _⟩ := r
  · trivial
  · exact ⟨a, b, c, d⟩

theorem iter_j : ⦃fun s => ⌜PJ s⌝⦄ iter ⦃post⟨fun b s => ⌜PJ s ∧ (b = true → True)⌝, fun _ _ => ⌜True⌝⟩⦄ := by
  apply triple_of_run iter PJ (fun b s => PJ s ∧ (b = true → True)) (fun _ => True)
  intro s0 h
  exact (HoldsAfter.pj (triple_run iter _ _ _ iter_p s0 ⟨h.pg, h.noStall⟩)
    ((triple_run iter _ _ _ iter_rspec s0 h.ap).imp (fun _ _ h => h.1) fun _ h => h)
    (triple_run iter _ _ _ iter_q s0 h.q) (triple_run iter _ _ _ iter_f s0 h.pf)).imp
    (fun _ _ h => ⟨h, fun _ => trivial⟩) fun _ h => h

theorem init_j : ⦃fun s => ⌜PJ s⌝⦄ init ⦃post⟨fun _ s => ⌜PJ s⌝, fun _ _ => ⌜True⌝⟩⦄ := by
  apply triple_of_run init PJ (fun _ s => PJ s) (fun _ => True)
  intro s0 h
  exact .pj (triple_run init _ _ _ init_p s0 h.pg)
    (triple_run init _ _ _ init_rspec s0 h.ap)
    (triple_run init _ _ _ init_q s0 h.q) (triple_run init _ _ _ init_f s0 h.pf)

def wfP (s : SimS) : Bool := wf0 s && decide (s.now = 0) && s.pools.all (fun p => p.placed.isEmpty)

theorem pj_initial (s : SimS) (h : wfP s = true) : PJ s := by
  simp only [wfP, Bool.and_eq_true, decide_eq_true_eq] at h
  obtain ⟨⟨hwf, hnow⟩, hpl⟩ := h
  have hap := ap_initial s hwf
  simp only [wf0, Bool.and_eq_true, Bool.not_eq_true', Array.isEmpty_iff, List.isEmpty_iff,
    Option.isNone_iff_eq_none] at hwf
  obtain ⟨⟨⟨⟨⟨⟨⟨⟨⟨hg, hm⟩, hlr⟩, hq⟩, hf⟩, hns⟩, hl⟩, hp⟩, haq⟩, hjq⟩ := hwf
  have hT : ∀ t, taskAt s.graphs t = none := by intro t; simp [taskAt, hg]
  refine ⟨⟨?_, ?_, hap.eids, hap.allQ, hap.tmplQ, ?_⟩, hap, qinv_initial s hq hl hnow, ?_⟩
  · intro t x ht; rw [hT] at ht; cases ht
  · intro t x ht; rw [hT] at ht; cases ht
  · rw [hl]; exact ⟨SF.nil, by intro a ha; simp [pg_skel] at ha⟩
  · intro p hpm
    rw [Array.all_eq_true] at hpl
    obtain ⟨i, hi, rfl⟩ := Array.getElem_of_mem (Array.mem_toList_iff.mp hpm)
    have := hpl i hi
    have he : s.pools[i].placed = [] := List.isEmpty_iff.mp this
    unfold Pool.FwdOK
    rw [he]
    exact ⟨List.nodup_nil, by intro q hq; cases hq⟩

theorem loop_head_pj (s0 : SimS) (k : Nat) (h : wfP s0 = true) :
    HoldsAfter (fun _ s => PJ s) (fun _ => True) ((ExceptT.run (do init; runK k : SimM Bool)).run s0) :=
  loop_head_loop init_j iter_j s0 k (pj_initial s0 h)

theorem simulate_pj (s0 : SimS) (fuel : Nat) (h : wfP s0 = true) (hok : (simulate s0 fuel).1 = none) :
    PJ (simulate s0 fuel).2 :=
  ((simulate_loop (fun _ _ => trivial) init_j iter_j s0 fuel (pj_initial s0 h)).1 hok).1

end ErdosVerif.Model.Sim
