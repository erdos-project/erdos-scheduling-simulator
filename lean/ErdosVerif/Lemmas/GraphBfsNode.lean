/-
Specification of `breadth_first(node)` (BFS started from a given node) of the
graph model M3 on simple DAGs, for the code as repaired by /repo commit a5de234:
it raises nothing (in particular the fuel suffices), yields exactly the nodes
reachable from the start node, each once, and yields every node after all of
its parents that are reachable from the start node.

This is `bfsLoop_spec` of `Lemmas/GraphBfs.lean` for the set of nodes reachable
from the start node; the filter `parent in reachable_nodes` decides that set
because `depth_first(node)` yields exactly it (`Lemmas/GraphDfs.lean`).
-/
import ErdosVerif.Lemmas.GraphBasic
import ErdosVerif.Lemmas.GraphDfs
import ErdosVerif.Lemmas.GraphBfs

namespace ErdosVerif.Model.Graph

theorem Reach.eq_or_last_edge {g : Graph} {u w : Nat} (h : g.Reach u w) :
    w = u ∨ ∃ p, g.Reach u p ∧ g.Edge p w := by
  induction h with
  | refl => exact .inl rfl
  | @head a b c e _ ih =>
    rcases ih with rfl | ⟨p, hp, hpe⟩
    · exact .inr ⟨a, .refl a, e⟩
    · exact .inr ⟨p, .head e hp, hpe⟩

/-- Loop invariant of `breadth_first(n)` (`visited` is `acc.reverse`), everything
relative to the nodes reachable from `n`. -/
structure BfsNodeInv (g : Graph) (n : Nat) (frontier acc : List Nat) : Prop where
  nodup : (acc ++ frontier).Nodup
  front : ∀ x, x ∈ frontier ↔
    x ∉ acc ∧ g.Reach n x ∧ ∀ p ∈ g.parentsOf x, g.Reach n p → p ∈ acc
  done : ∀ x ∈ acc, g.Reach n x ∧ ∀ p ∈ g.parentsOf x, g.Reach n p → Before acc p x

theorem bfsNodeInv_iff {g : Graph} {n : Nat} {frontier acc : List Nat} :
    BfsNodeInv g n frontier acc ↔ BfsOn g (g.Reach n) frontier acc :=
  ⟨fun h => ⟨h.nodup, h.front, h.done⟩, fun h => ⟨h.nodup, h.front, h.done⟩⟩

/-- Initially only the start node waits: in a DAG none of its parents is reachable from it. -/
theorem BfsNodeInv.init {g : Graph} (wf : g.WF) (hac : g.Acyclic) (n : Nat) :
    BfsNodeInv g n [n] [] where
  nodup := by simp
  front := by
    intro x
    constructor
    · intro hx
      obtain rfl : x = n := by simpa using hx
      exact ⟨by simp, .refl _, fun p hp hr => absurd ⟨p, x, wf.mem_parentsOf.mp hp, hr⟩ hac⟩
    · rintro ⟨-, hr, hpar⟩
      rcases hr.eq_or_last_edge with rfl | ⟨p, hp, hpe⟩
      · simp
      · exact absurd (hpar p (wf.mem_parentsOf.mpr hpe) hp) (by simp)
  done := by simp

theorem BfsNodeInv.complete {g : Graph} (wf : g.WF) (hac : g.Acyclic) {n : Nat}
    (hn : g.hasNode n = true) {out : List Nat}
    (inv : BfsNodeInv g n [] out) (x : Nat) (hx : g.Reach n x) : x ∈ out :=
  (bfsNodeInv_iff.mp inv).complete wf hac x hx

theorem breadthFirst_some_of_dfs_ok {g : Graph} {n : Nat}
    (h : (g.depthFirst (some n)).2 = none) :
    g.breadthFirst (some n)
      = bfsLoop g (fun p => .ok ((g.depthFirst (some n)).1.contains p)) true (bfsFuel g) [n] [] [] := by
  simp only [breadthFirst, breadthFirstWithFuel, if_true]
  generalize g.depthFirst (some n) = r at h
  obtain ⟨rl, e⟩ := r
  simp only at h
  subst h
  rfl

/-- `breadth_first(n)` on a well-formed simple DAG: no exception (the fuel
suffices), exactly the nodes reachable from `n`, each once, every yielded node
after all of its parents reachable from `n`. -/
theorem bfs_from_node_spec {g : Graph} (wf : g.WF) (hac : g.Acyclic) (hs : g.Simple)
    {n : Nat} (hn : g.hasNode n = true) :
    (g.breadthFirst (some n)).2 = none ∧
    (g.breadthFirst (some n)).1.Nodup ∧
    (∀ m, m ∈ (g.breadthFirst (some n)).1 ↔ g.Reach n m) ∧
    ∀ u v, g.Edge u v → g.Reach n u → Before (g.breadthFirst (some n)).1 u v := by
  have hrl : ∀ m, m ∈ (g.depthFirst (some n)).1 ↔ g.Reach n m :=
    dfs_mem_iff_reach dfsSkipVisitedOnPop wf.closed hn
  obtain ⟨out, hout, hspec⟩ :=
    bfsLoop_spec (f := (g.depthFirst (some n)).1.contains) wf hac hs
      (fun _ h => wf.reach_hasNode h hn) (fun _ _ hu he => hu.tail he)
      (fun p _ _ => by simp [hrl]) true (bfsNodeInv_iff.mp (BfsNodeInv.init wf hac n))
  rw [breadthFirst_some_of_dfs_ok (dfs_no_error dfsSkipVisitedOnPop wf.closed hn), hout]
  exact ⟨rfl, hspec⟩

end ErdosVerif.Model.Graph
