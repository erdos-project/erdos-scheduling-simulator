/-
The executable checker `validB` decides the specification `ValidPlan` (so the driver's
`addable` list — computed with `validB` — is exactly the set of cells whose addition keeps the
plan valid).
-/
import ErdosVerif.Lemmas.TetriMaximal
namespace ErdosVerif.Tetri
open ErdosVerif.TetriSpec

variable {I : Inst} {plan : Plan}

theorem localB_iff (t : Nat) : localB I plan t = true ↔
    (I.active t = false → plan.get t = none) ∧
    (I.active t = true → I.running t = true → plan.get t = some (runningCell I t)) ∧
    (∀ c, I.running t = false → plan.get t = some c →
      c.1 < I.nW ∧ c.2.1 < I.nSlots ∧ c.2.2 < (I.task t).nS ∧ I.cellOk t c.1 c.2.1 c.2.2 = true) ∧
    (I.active t = true → I.must t = true → (plan.get t).isSome) := by
  unfold localB
  cases I.active t <;> cases I.running t <;> cases plan.get t <;> simp [and_assoc]

theorem precB_iff (c : Nat) : precB I plan c = true ↔
    (I.cplex = false → ∀ cc, I.running c = false → plan.get c = some cc →
      ((I.parentVars c) ≠ [] → (I.parentVars c).length = I.nParents c) ∧
      ∀ p ∈ I.parentVars c, ∃ cp, plan.get p = some cp ∧
        startOf I cp + (I.parentDur p : Nat) + 1 ≤ startOf I cc) := by
  unfold precB
  cases I.cplex <;> cases I.running c <;> cases plan.get c <;> simp [-Prod.exists]
  refine and_congr Decidable.or_iff_not_imp_left (forall_congr' fun p => imp_congr_right fun _ => ?_)
  cases plan.get p <;> simp [-Prod.exists]

theorem local_compatible (hwf : I.wf = true) {t : Nat} (ht : t ∈ I.act) (hl : localB I plan t = true)
    {c : Cell} (hp : plan.get t = some c) :
    compatible (I.worker c.1) ((I.task t).strat c.2.2) = true := by
  obtain ⟨_, hrun, hloc, _⟩ := (localB_iff t).mp hl
  cases hr : I.running t with
  | true => exact Option.some.inj ((hrun (mem_act.mp ht).2 hr).symm.trans hp) ▸ (wf_running hwf ht hr).2.2
  | false =>
    have := (hloc c hr hp).2.2.2
    simp only [Inst.cellOk, Bool.and_eq_true] at this
    exact this.1.1

theorem validB_iff (hwf : I.wf = true) : validB I plan = true ↔ ValidPlan I plan := by
  simp only [validB, Bool.and_eq_true, beq_iff_eq, List.all_eq_true, List.mem_range]
  constructor
  · rintro ⟨⟨hlen, hall⟩, hcap⟩
    have hloc := fun t ht => (localB_iff t).mp (hall t ht).1
    refine ⟨hlen, fun t ht => (hloc t ht).1, fun t ht => (hloc t ht).2.1,
      fun t c ht => (hloc t ht).2.2.1 c, fun t ht => (hloc t ht).2.2.2,
      fun hG c cc hc => (precB_iff c).mp (hall c hc).2 hG cc, fun w hw k hk r => ?_⟩
    -- `capacityB` only sweeps the resource types of the worker; the others carry no load
    by_cases hty : r ∈ (I.worker w).types
    · simp only [capacityB, List.all_eq_true, List.mem_range, decide_eq_true_eq] at hcap
      exact hcap w hw k hk r hty
    · rw [load_zero_of_qty_zero (fun t ht c hp => local_compatible hwf ht (hall t (mem_act.mp ht).1).1 hp) k
        (qty_zero_of_not_types hty)]
      exact Nat.zero_le _
  · intro hv
    refine ⟨⟨hv.len, fun t ht => ⟨(localB_iff t).mpr ⟨hv.inactive t ht, hv.running t ht,
      fun c => hv.wf t c ht, hv.required t ht⟩, (precB_iff t).mpr (fun hG cc => hv.prec hG t cc ht)⟩⟩, ?_⟩
    simp only [capacityB, List.all_eq_true, List.mem_range, decide_eq_true_eq]
    exact fun w hw k hk r _ => hv.capacity w hw k hk r

theorem mem_addable (hwf : I.wf = true) {t w k s : Nat} :
    (t, w, k, s) ∈ addable I plan ↔
      t ∈ I.nonRunning ∧ plan.get t = none ∧ (w, k, s) ∈ I.keys t ∧ ValidPlan I (plan.set t (some (w, k, s))) := by
  simp only [addable, List.mem_flatMap, List.mem_filter, List.mem_map, beq_iff_eq, Prod.mk.injEq]
  constructor
  · rintro ⟨t', ⟨ht, hn⟩, q, ⟨hq, hvb⟩, rfl, rfl, rfl, rfl⟩
    exact ⟨ht, hn, hq, (validB_iff hwf).mp hvb⟩
  · rintro ⟨ht, hn, hq, hv⟩
    exact ⟨t, ⟨ht, hn⟩, (w, k, s), ⟨hq, (validB_iff hwf).mpr hv⟩, rfl, rfl, rfl, rfl⟩

end ErdosVerif.Tetri
