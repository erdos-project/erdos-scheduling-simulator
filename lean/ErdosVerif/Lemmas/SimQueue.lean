import ErdosVerif.Lemmas.SimCensusBase
import ErdosVerif.Lemmas.Event
/-!
Event order at simulator level: the invariant and the pure lemmas.

`QInv s`, proved for every reachable state of every run in `SimQueueRun.lean`:
* every queued event is well formed (it carries a task exactly when its type is one of
  the six TASK_* types) and the queue array is a heap w.r.t. `SEvent.lt` (`Event.__lt__`)
  — so that C16's heap theorems apply to the simulator's queue: the event `popEvent`
  returns is a minimum of the queue;
* the clock is the last value of the clock history;
* every `.pop t _` entry of the history was appended when the clock was `t`
  (`PopsAtClock`): an event takes effect at its own time.

Between `editEvent` (in-place re-timing of a queued event) and the `reheapify` that
follows it the heap order is broken; `QW` is what holds there.
-/

namespace ErdosVerif.Model

/-- The event types that carry a task (`Event.__init__`, simulator.py:81-90). -/
def taskType (ty : Nat) : Bool :=
  ty == ET.taskCancel || ty == ET.taskFinished || ty == ET.taskRelease || ty == ET.taskPreempt ||
  ty == ET.taskMigration || ty == ET.taskPlacement

def SEvent.WF (e : SEvent) : Prop := Event.WF taskType e.ev

theorem sevent_swo : Heap.SWO SEvent.lt SEvent.WF where
  asymm := fun hx hy h => (Event.lt_swo taskType).asymm hx hy h
  le_trans := fun hx hy hz h1 h2 => (Event.lt_swo taskType).le_trans hx hy hz h1 h2

theorem SEvent.time_le_of_not_lt {a b : SEvent} (h : SEvent.lt b a = false) : a.ev.time ≤ b.ev.time := by
  apply Int.not_lt.mp
  intro hlt
  have : SEvent.lt b a = true := by
    unfold SEvent.lt
    rw [Event.lt_iff]
    exact .inl hlt
  rw [h] at this
  cases this

namespace Heap

variable {α : Type}

theorem foldl_insert_perm (f : List α → α → Nat) (rest acc : List α) :
    (rest.foldl (fun acc x => acc.take (f acc x) ++ x :: acc.drop (f acc x)) acc).Perm (acc ++ rest) := by
  induction rest generalizing acc with
  | nil => simp
  | cons x rest ih =>
    simp only [List.foldl_cons]
    refine (ih _).trans ?_
    have h1 : (acc.take (f acc x) ++ x :: acc.drop (f acc x)).Perm (x :: acc) := by
      refine List.perm_middle.trans ?_
      rw [List.take_append_drop]
    exact (List.Perm.append_right rest h1).trans List.perm_middle.symm

theorem pySorted_perm (lt : α → α → Bool) (l : List α) : (pySorted lt l).Perm l := by
  unfold pySorted
  simp only
  refine (foldl_insert_perm (fun acc x => bisectRight lt acc.toArray x 0 acc.length) _ _).trans ?_
  have : ((if (countRun lt l).2 = true then (l.take (countRun lt l).1).reverse else l.take (countRun lt l).1)).Perm
      (l.take (countRun lt l).1) := by
    split
    · exact List.reverse_perm _
    · exact List.Perm.refl _
  refine (List.Perm.append_right _ this).trans ?_
  rw [List.take_append_drop]

theorem pySorted_mem (lt : α → α → Bool) (l : List α) (y : α) (h : y ∈ pySorted lt l) : y ∈ l :=
  (pySorted_perm lt l).mem_iff.mp h

end Heap

namespace Sim
open Heap

/-- The same function as `clockOf` of `Lemmas/SimInv.lean`. -/
def clk : LogE → Option Int
  | .clock n => some n
  | _ => none

def isPop : LogE → Bool
  | .pop _ _ => true
  | _ => false

def popTime : LogE → Option Int
  | .pop t _ => some t
  | _ => none

theorem popTime_of_not_pop (e : LogE) (h : isPop e = false) : popTime e = none := by
  cases e <;> first | rfl | cases h

def curClock (l : List LogE) : Int := ((l.filterMap clk).getLast?).getD 0

def PopsAtClock (l : List LogE) : Prop := ∀ pre t ty post, l = pre ++ LogE.pop t ty :: post → t = curClock pre

structure QW (s : SimS) : Prop where
  wf : AllP SEvent.WF s.queue
  now : s.now = curClock s.log.toList
  pops : PopsAtClock s.log.toList
  popsLe : ∀ t ∈ s.log.toList.filterMap popTime, t ≤ s.now
  popsMono : (s.log.toList.filterMap popTime).Pairwise (· ≤ ·)

structure QInv (s : SimS) : Prop where
  wf : AllP SEvent.WF s.queue
  heap : HeapFrom SEvent.lt s.queue 0
  now : s.now = curClock s.log.toList
  pops : PopsAtClock s.log.toList
  popsLe : ∀ t ∈ s.log.toList.filterMap popTime, t ≤ s.now
  popsMono : (s.log.toList.filterMap popTime).Pairwise (· ≤ ·)

theorem QInv.weak {s : SimS} (h : QInv s) : QW s := ⟨h.wf, h.now, h.pops, h.popsLe, h.popsMono⟩

theorem QW.congr (s s' : SimS) (h : QW s) (hq : s'.queue = s.queue) (hl : s'.log = s.log) (hn : s'.now = s.now) :
    QW s' := by
  obtain ⟨a, c, d, e, f⟩ := h
  exact ⟨by rw [hq]; exact a, by rw [hn, hl]; exact c, by rw [hl]; exact d, by rw [hl, hn]; exact e,
    by rw [hl]; exact f⟩

theorem QInv.of_weak {s : SimS} (h : QW s) (hh : HeapFrom SEvent.lt s.queue 0) : QInv s :=
  ⟨h.wf, hh, h.now, h.pops, h.popsLe, h.popsMono⟩

/-- For an update that leaves the queue, the history and the clock alone: `‹QInv _›.congr`. -/
theorem QInv.congr {s s' : SimS} (h : QInv s) (hq : s'.queue = s.queue := by rfl) (hl : s'.log = s.log := by rfl)
    (hn : s'.now = s.now := by rfl) : QInv s' :=
  .of_weak (QW.congr s s' h.weak hq hl hn) (hq ▸ h.heap)

theorem curClock_push_other (l : List LogE) (e : LogE) (he : clk e = none) : curClock (l ++ [e]) = curClock l := by
  simp [curClock, List.filterMap_append, he]

theorem curClock_push_clock (l : List LogE) (n : Int) : curClock (l ++ [.clock n]) = n := by
  simp [curClock, List.filterMap_append, clk]

theorem popsAtClock_nil : PopsAtClock [] := by
  intro pre t ty post h
  cases pre <;> simp at h

theorem popsAtClock_push (l : List LogE) (e : LogE) (h : PopsAtClock l)
    (he : ∀ t ty, e = .pop t ty → t = curClock l) : PopsAtClock (l ++ [e]) :=
  fun pre t ty post hx =>
    forall_split_push (P := fun pre x => ∀ t ty, x = .pop t ty → t = curClock pre)
      (fun pre _ post hl t ty hx => h pre t ty post (hx ▸ hl)) he pre _ post hx t ty rfl

theorem QW.log (s : SimS) (e : LogE) (h : QW s) (h1 : clk e = none) (h2 : isPop e = false) :
    QW { s with log := s.log.push e } := by
  obtain ⟨a, c, d, e', f⟩ := h
  have hp := popTime_of_not_pop e h2
  refine ⟨a, ?_, ?_, ?_, ?_⟩
  · simp only [Array.toList_push]; rw [curClock_push_other _ _ h1]; exact c
  · simp only [Array.toList_push]
    exact popsAtClock_push _ _ d (fun t ty he => by subst he; cases h2)
  · simpa [List.filterMap_append, hp] using e'
  · simpa [List.filterMap_append, hp] using f

theorem QInv.log (s : SimS) (e : LogE) (h : QInv s) (h1 : clk e = none) (h2 : isPop e = false) :
    QInv { s with log := s.log.push e } :=
  .of_weak (QW.log s e h.weak h1 h2) h.heap

theorem QInv.logPop (s : SimS) (t : Int) (ty : Nat) (h : QInv s) (ht : s.now = t) :
    QInv { s with log := s.log.push (.pop t ty) } := by
  obtain ⟨a, b, c, d, e, f⟩ := h
  refine ⟨a, b, ?_, ?_, ?_, ?_⟩
  · simp only [Array.toList_push]; rw [curClock_push_other _ _ rfl]; exact c
  · simp only [Array.toList_push]
    refine popsAtClock_push _ _ d (fun t' ty' he => ?_)
    cases he
    rw [← ht]; exact c
  · intro x hx
    simp only [Array.toList_push, List.filterMap_append, List.filterMap_cons, popTime, List.filterMap_nil,
      List.mem_append, List.mem_singleton] at hx
    rcases hx with hx | rfl
    · exact e x hx
    · exact Int.le_of_eq ht.symm
  · simp only [Array.toList_push, List.filterMap_append, List.filterMap_cons, popTime, List.filterMap_nil]
    rw [List.pairwise_append]
    refine ⟨f, by simp, ?_⟩
    intro x hx y hy
    rw [List.mem_singleton.mp hy, ← ht]
    exact e x hx

theorem QInv.clock (s : SimS) (dt : Int) (h : QInv s) (hdt : 0 ≤ dt) :
    QInv { s with now := s.now + dt, log := s.log.push (.clock (s.now + dt)) } := by
  obtain ⟨a, b, c, d, e, f⟩ := h
  refine ⟨a, b, ?_, ?_, ?_, ?_⟩
  · simp only [Array.toList_push]; rw [curClock_push_clock]
  · simp only [Array.toList_push]
    exact popsAtClock_push _ _ d (fun t ty he => by cases he)
  · intro x hx
    simp only [Array.toList_push, List.filterMap_append, List.filterMap_cons, popTime, List.filterMap_nil,
      List.append_nil] at hx
    have := e x hx
    show x ≤ s.now + dt
    omega
  · simp only [Array.toList_push, List.filterMap_append, List.filterMap_cons, popTime, List.filterMap_nil,
      List.append_nil]
    exact f

theorem QInv.good {s : SimS} (h : QInv s) : Heap.Good SEvent.lt SEvent.WF s.queue := ⟨h.wf, h.heap⟩

theorem QInv.add (s : SimS) (e : SEvent) (h : QInv s) (he : e.WF) :
    QInv { s with queue := heappush SEvent.lt s.queue e } :=
  have g := Heap.Good.push sevent_swo h.good he
  ⟨g.1, g.2, h.now, h.pops, h.popsLe, h.popsMono⟩

theorem QW.heapify (s : SimS) (h : QW s) : QInv { s with queue := heapify SEvent.lt s.queue } :=
  have g := Heap.Good.heapify sevent_swo h.wf
  ⟨g.1, g.2, h.now, h.pops, h.popsLe, h.popsMono⟩

theorem allP_erase {P : SEvent → Prop} {q : Array SEvent} (h : AllP P q) (i : Nat) : AllP P (q.eraseIdxIfInBounds i) := by
  rw [allP_iff_mem] at *
  intro y hy
  rw [Array.eraseIdxIfInBounds_eq] at hy
  split at hy
  · exact h y (Array.mem_of_mem_eraseIdx hy)
  · exact h y hy

theorem QInv.remove (s : SimS) (i : Nat) (h : QInv s) :
    QInv { s with queue := heapify SEvent.lt (s.queue.eraseIdxIfInBounds i) } :=
  QW.heapify { s with queue := s.queue.eraseIdxIfInBounds i } ⟨allP_erase h.wf i, h.now, h.pops, h.popsLe, h.popsMono⟩

theorem QInv.edit (s : SimS) (eid : Nat) (f : SEvent → SEvent) (h : QInv s) (hf : ∀ e, e.WF → (f e).WF) :
    QW { s with queue := s.queue.map (fun e => if e.ev.eid == eid then f e else e) } := by
  refine ⟨?_, h.now, h.pops, h.popsLe, h.popsMono⟩
  have hw := allP_iff_mem.mp h.wf
  rw [allP_iff_mem]
  intro y hy
  obtain ⟨x, hx, rfl⟩ := Array.mem_map.mp hy
  split
  · exact hf x (hw x hx)
  · exact hw x hx

theorem QInv.pop (s : SimS) (e : SEvent) (q : Array SEvent) (h : QInv s) (hp : heappop SEvent.lt s.queue = some (e, q)) :
    QInv { s with queue := q } :=
  have g := (Heap.Good.pop sevent_swo h.good hp).1
  ⟨g.1, g.2, h.now, h.pops, h.popsLe, h.popsMono⟩

theorem pop_is_min (s : SimS) (e : SEvent) (q : Array SEvent) (h : QInv s) (hp : heappop SEvent.lt s.queue = some (e, q)) :
    (∃ h0 : 0 < s.queue.size, e = s.queue[0]) ∧ e.WF ∧ (∀ y ∈ q, SEvent.lt y e = false) ∧
    (∀ y ∈ s.queue, SEvent.lt y e = false) :=
  (Heap.Good.pop sevent_swo h.good hp).2

end Sim
end ErdosVerif.Model
