/-
C15 (Clockwork model), part 1: the CPython sort is a permutation; the per-model queue
invariant `MInv`, which every operation except `add_task` keeps because it only shrinks the
queues and the task table (`Shrunk`); the scheduler invariant `SInv`.
-/
import ErdosVerif.Model.Clockwork
import ErdosVerif.Lemmas.Nodup

namespace ErdosVerif.Clockwork

theorem binInsert_perm {α} (lt : α → α → Bool) (l : List α) (x : α) :
    (binInsert lt l x).Perm (x :: l) :=
  List.perm_middle.trans (.cons x (.of_eq (List.take_append_drop _ l)))

theorem foldl_binInsert_perm {α} (lt : α → α → Bool) (xs acc : List α) :
    (xs.foldl (binInsert lt) acc).Perm (acc ++ xs) := by
  induction xs generalizing acc with
  | nil => simp
  | cons x xs ih =>
    exact (ih _).trans (((binInsert_perm lt acc x).append_right xs).trans List.perm_middle.symm)

theorem pySort_perm {α} (lt : α → α → Bool) (l : List α) : (pySort lt l).Perm l := by
  match l with
  | [] => simp [pySort]
  | [x] => simp [pySort]
  | x :: y :: rest =>
    simp only [pySort]
    split
    · refine (foldl_binInsert_perm lt _ _).trans (((List.reverse_perm _).append_right _).trans ?_)
      simp [List.take_append_drop]
    · refine (foldl_binInsert_perm lt _ _).trans ?_
      simp [List.take_append_drop]

def SortedQ (q : List Req) : Prop := q.Pairwise (fun a b => a.deadline ≤ b.deadline)
def NodupQ (q : List Req) : Prop := q.Pairwise (fun a b => a.tid ≠ b.tid)
def taskIds (s : MState) : List Nat := s.tasks.map (·.tid)

structure MInv (c : Cfg) (s : MState) : Prop where
  qsorted : ∀ q ∈ s.queues, SortedQ q
  qnodup : ∀ q ∈ s.queues, NodupQ q
  qsub : ∀ q ∈ s.queues, ∀ r ∈ q, r.tid ∈ taskIds s
  tnodup : (taskIds s).Nodup
  qcfg : ∀ q ∈ s.queues, ∀ r ∈ q, ∃ t, c.tasks[r.tid]? = some t ∧ t.model = s.mid ∧ t.deadline = r.deadline
  tcfg : ∀ tid ∈ taskIds s, ∃ t, c.tasks[tid]? = some t ∧ t.model = s.mid
  qlen : s.queues.length = (c.strategiesOf s.mid).length

theorem any_tid_iff {s : MState} {tid : Nat} :
    s.tasks.any (fun e => e.tid == tid) = true ↔ tid ∈ taskIds s := by
  simp [taskIds]

/-- Post-condition shared by all shrinking operations. -/
structure Shrunk (c : Cfg) (s s' : MState) : Prop where
  minv : MInv c s'
  mid : s'.mid = s.mid
  sub : (taskIds s').Sublist (taskIds s)

theorem Shrunk.refl {c : Cfg} {s : MState} (h : MInv c s) : Shrunk c s s :=
  ⟨h, rfl, List.Sublist.refl _⟩

theorem Shrunk.trans {c : Cfg} {s s' s'' : MState} (h1 : Shrunk c s s') (h2 : Shrunk c s' s'') :
    Shrunk c s s'' :=
  ⟨h2.minv, h2.mid.trans h1.mid, h2.sub.trans h1.sub⟩

/-- Every operation except `add_task` only shrinks the queues and the task table: sortedness,
distinctness and the links to the configuration pass to sublists. -/
theorem MInv.shrink {c : Cfg} {s s' : MState} (h : MInv c s) (hmid : s'.mid = s.mid)
    (hlen : s'.queues.length = s.queues.length)
    (hq : ∀ q' ∈ s'.queues, ∃ q ∈ s.queues, q'.Sublist q)
    (ht : (taskIds s').Sublist (taskIds s))
    (hsub : ∀ q ∈ s'.queues, ∀ r ∈ q, r.tid ∈ taskIds s') : Shrunk c s s' := by
  refine ⟨⟨?_, ?_, hsub, h.tnodup.sublist ht, ?_, ?_, ?_⟩, hmid, ht⟩
  · intro q' hq'
    obtain ⟨q, hqm, hs⟩ := hq q' hq'
    exact (h.qsorted q hqm).sublist hs
  · intro q' hq'
    obtain ⟨q, hqm, hs⟩ := hq q' hq'
    exact (h.qnodup q hqm).sublist hs
  · intro q' hq' r hr
    obtain ⟨q, hqm, hs⟩ := hq q' hq'
    exact hmid ▸ h.qcfg q hqm r (hs.subset hr)
  · exact fun tid htid => hmid ▸ h.tcfg tid (ht.subset htid)
  · rw [hlen, hmid]; exact h.qlen

theorem key_ne_of_mem_eraseP {α} {f : α → Nat} {k : Nat} {l : List α}
    (hn : l.Pairwise (fun a b => f a ≠ f b)) {x : α} (hx : x ∈ l.eraseP (fun a => f a == k)) :
    f x ≠ k := by
  induction l with
  | nil => simp at hx
  | cons y ys ih =>
    have hy := List.pairwise_cons.mp hn
    by_cases hyk : f y = k
    · rw [List.eraseP_cons_of_pos (by simpa using hyk)] at hx
      exact hyk ▸ (hy.1 x hx).symm
    · rw [List.eraseP_cons_of_neg (by simpa using hyk)] at hx
      rcases List.mem_cons.mp hx with rfl | hx
      · exact hyk
      · exact ih hy.2 hx

theorem removeTask_shrunk {c : Cfg} {s : MState} (h : MInv c s) (tid : Nat) :
    Shrunk c s (s.removeTask tid) := by
  unfold MState.removeTask
  split
  · refine h.shrink rfl (by simp) ?_ (List.eraseP_sublist.map _) ?_
    · intro q' hq'
      obtain ⟨q, hq, rfl⟩ := List.mem_map.mp hq'
      exact ⟨q, hq, List.eraseP_sublist⟩
    · -- a request that survives in a queue is not `tid`, so its table entry survives as well
      intro q' hq' r hr
      obtain ⟨q, hq, rfl⟩ := List.mem_map.mp hq'
      have hne : r.tid ≠ tid := key_ne_of_mem_eraseP (h.qnodup q hq) hr
      obtain ⟨e, he, hte⟩ := List.mem_map.mp (h.qsub q hq r (List.eraseP_sublist.subset hr))
      exact List.mem_map.mpr ⟨e, (List.mem_eraseP_of_neg (by simpa [hte] using hne)).mpr he, hte⟩
  · exact Shrunk.refl h

theorem removeTask_not_mem {s : MState} (hn : (taskIds s).Nodup) (tid : Nat) :
    tid ∉ taskIds (s.removeTask tid) := by
  unfold MState.removeTask
  split
  · intro hm
    obtain ⟨e, he, hte⟩ := List.mem_map.mp hm
    have hn' : s.tasks.Pairwise (fun a b => a.tid ≠ b.tid) := List.pairwise_map.mp hn
    exact key_ne_of_mem_eraseP hn' he hte
  · rename_i hnone
    exact fun hm => hnone (any_tid_iff.mpr hm)

theorem decrCnt_tids (tid : Nat) (l : List TEntry) : (decrCnt tid l).map (·.tid) = l.map (·.tid) := by
  unfold decrCnt
  rw [List.map_map]
  apply List.map_congr_left
  intro e _
  simp only [Function.comp]
  split <;> rfl

theorem popExpired_shrunk {c : Cfg} {s : MState} (h : MInv c s) {i : Nat} {r : Req} {rest : List Req}
    (hi : s.queues[i]? = some (r :: rest)) : Shrunk c s (s.popExpired i r rest) := by
  have hmem : (r :: rest) ∈ s.queues := List.mem_of_getElem? hi
  have ht1 : taskIds { s with queues := s.queues.set i rest, tasks := decrCnt r.tid s.tasks } =
      taskIds s := decrCnt_tids r.tid s.tasks
  have hq : ∀ q' ∈ s.queues.set i rest, ∃ q ∈ s.queues, q'.Sublist q := by
    intro q' hq'
    rcases List.mem_or_eq_of_mem_set hq' with hq | hq
    · exact ⟨q', hq, List.Sublist.refl _⟩
    · exact ⟨r :: rest, hmem, hq ▸ List.sublist_cons_self r rest⟩
  have h1 : Shrunk c s { s with queues := s.queues.set i rest, tasks := decrCnt r.tid s.tasks } := by
    refine h.shrink rfl (by simp) hq (ht1 ▸ List.Sublist.refl _) (fun q' hq' r' hr' => ?_)
    obtain ⟨q, hqm, hs⟩ := hq q' hq'
    exact ht1 ▸ h.qsub q hqm r' (hs.subset hr')
  unfold MState.popExpired
  simp only []
  split
  · exact h1.trans (removeTask_shrunk h1.minv r.tid)
  · exact h1

theorem expireLoop_shrunk {c : Cfg} (now rt : Int) (i : Nat) (fuel : Nat) {s : MState} (h : MInv c s) :
    Shrunk c s (expireLoop now rt i fuel s) := by
  induction fuel generalizing s with
  | zero => exact Shrunk.refl h
  | succ n ih =>
    unfold expireLoop
    split
    · rename_i r rest hi
      split
      · have hp := popExpired_shrunk h hi
        exact hp.trans (ih hp.minv)
      · exact Shrunk.refl h
    · exact Shrunk.refl h

theorem expireFrom_shrunk {c : Cfg} (now : Int) (i : Nat) (strats : List Strategy) {s : MState}
    (h : MInv c s) : Shrunk c s (expireFrom now i strats s) := by
  induction strats generalizing s i with
  | nil => exact Shrunk.refl h
  | cons st sts ih =>
    unfold expireFrom
    have h1 := expireLoop_shrunk (c := c) now st.runtime i ((s.queues.getD i []).length) h
    exact h1.trans (ih (i + 1) h1.minv)

theorem expire_shrunk {c : Cfg} (now : Int) (strats : List Strategy) {s : MState} (h : MInv c s) :
    Shrunk c s (s.expire now strats) := expireFrom_shrunk now 0 strats h

theorem candsFrom_sound {now : Int} {k : Nat} {strats : List Strategy} {queues : List (List Req)}
    {cd : Cand} (h : cd ∈ candsFrom now k strats queues) :
    ∃ j r rest, cd.idx = k + j ∧ strats[j]? = some cd.strat ∧ queues[j]? = some (r :: rest) ∧
      cd.strat.batch ≤ (r :: rest).length ∧ now + cd.strat.runtime ≤ r.deadline := by
  induction strats generalizing k queues with
  | nil => simp [candsFrom] at h
  | cons st sts ih =>
    cases queues with
    | nil => simp [candsFrom] at h
    | cons q qs =>
      have shift : cd ∈ candsFrom now (k + 1) sts qs →
          ∃ j r rest, cd.idx = k + j ∧ (st :: sts)[j]? = some cd.strat ∧
            (q :: qs)[j]? = some (r :: rest) ∧ cd.strat.batch ≤ (r :: rest).length ∧
            now + cd.strat.runtime ≤ r.deadline := by
        intro h'
        obtain ⟨j, r, rest, h1, h2, h3, h4, h5⟩ := ih h'
        exact ⟨j + 1, r, rest, by omega, by simpa using h2, by simpa using h3, h4, h5⟩
      cases q with
      | nil => exact shift (by simpa only [candsFrom] using h)
      | cons r rest =>
        simp only [candsFrom] at h
        split at h
        · rename_i hc
          rcases List.mem_cons.mp h with rfl | h'
          · simp only [Bool.and_eq_true, decide_eq_true_eq] at hc
            exact ⟨0, r, rest, by simp, by simp, by simp, hc.1, hc.2⟩
          · exact shift h'
        · exact shift h

theorem availableStrats_sound {now : Int} {strats : List Strategy} {s : MState} {i : Nat}
    (h : i ∈ availableStrats now strats s) :
    ∃ st r rest, strats[i]? = some st ∧ s.queues[i]? = some (r :: rest) ∧
      st.batch ≤ (r :: rest).length ∧ now + st.runtime ≤ r.deadline := by
  unfold availableStrats at h
  split at h
  · simp at h
  · obtain ⟨cd, hcd, rfl⟩ := List.mem_map.mp h
    obtain ⟨j, r, rest, h1, h2, h3, h4, h5⟩ := candsFrom_sound ((pySort_perm _ _).mem_iff.mp hcd)
    have : cd.idx = j := by omega
    exact ⟨cd.strat, r, rest, this ▸ h2, this ▸ h3, h4, h5⟩

theorem foldl_removeTask_shrunk {c : Cfg} (tids : List Nat) {s : MState} (h : MInv c s) :
    Shrunk c s (tids.foldl (fun acc t => acc.removeTask t) s) := by
  induction tids generalizing s with
  | nil => exact Shrunk.refl h
  | cons t ts ih =>
    have h1 := removeTask_shrunk h t
    exact h1.trans (ih h1.minv)

theorem foldl_removeTask_not_mem {c : Cfg} (tids : List Nat) {s : MState} (h : MInv c s) :
    ∀ t ∈ tids, t ∉ taskIds (tids.foldl (fun acc t => acc.removeTask t) s) := by
  induction tids generalizing s with
  | nil => simp
  | cons t ts ih =>
    intro t' ht'
    have h1 := removeTask_shrunk h t
    rcases List.mem_cons.mp ht' with rfl | hts
    · exact fun hm => removeTask_not_mem h.tnodup _ ((foldl_removeTask_shrunk ts h1.minv).sub.subset hm)
    · exact ih h1.minv t' hts

/-- A strategy that `availableStrats` lists yields a full batch of distinct requests of the
model, none due before the head of the queue, which is sorted. -/
theorem takeBatch_spec {c : Cfg} {s : MState} (h : MInv c s) {i batch : Nat}
    {r : Req} {rest : List Req} (hi : s.queues[i]? = some (r :: rest)) (hb : batch ≤ (r :: rest).length) :
    ∃ tids s', s.takeBatch i batch = some (tids, s') ∧ tids.length = batch ∧ tids.Nodup ∧
      (∀ tid ∈ tids, tid ∈ taskIds s ∧
        ∃ t, c.tasks[tid]? = some t ∧ t.model = s.mid ∧ r.deadline ≤ t.deadline) ∧
      Shrunk c s s' ∧ ∀ tid ∈ tids, tid ∉ taskIds s' := by
  have hmem : (r :: rest) ∈ s.queues := List.mem_of_getElem? hi
  have hget : s.queues.getD i [] = r :: rest := by
    rw [List.getD_eq_getElem?_getD, hi]; rfl
  unfold MState.takeBatch
  simp only [hget]
  rw [if_neg (by omega)]
  refine ⟨_, _, rfl, ?_, ?_, ?_, foldl_removeTask_shrunk _ h, foldl_removeTask_not_mem _ h⟩
  · simp only [List.length_map, List.length_take]; omega
  · exact (List.pairwise_map.mpr (h.qnodup _ hmem)).sublist ((List.take_sublist _ _).map _)
  · intro tid htid
    obtain ⟨x, hx, rfl⟩ := List.mem_map.mp htid
    have hx' : x ∈ r :: rest := List.mem_of_mem_take hx
    obtain ⟨t, ht1, ht2, ht3⟩ := h.qcfg _ hmem x hx'
    refine ⟨h.qsub _ hmem x hx', t, ht1, ht2, ?_⟩
    rcases List.mem_cons.mp hx' with rfl | hx''
    · omega
    · have := (List.pairwise_cons.mp (h.qsorted _ hmem)).1 x hx''
      omega

def SInv (c : Cfg) (st : SState) : Prop := (∀ s ∈ st, MInv c s) ∧ (st.map (·.mid)).Nodup

def allTids (st : SState) : List Nat := st.flatMap taskIds

theorem mem_allTids {st : SState} {tid : Nat} : tid ∈ allTids st ↔ ∃ s ∈ st, tid ∈ taskIds s :=
  List.mem_flatMap

/-- Task ids of different models never coincide (each id names one task of the table). -/
theorem tid_model_unique {c : Cfg} {s1 s2 : MState} (h1 : MInv c s1) (h2 : MInv c s2) {tid : Nat}
    (ht1 : tid ∈ taskIds s1) (ht2 : tid ∈ taskIds s2) : s1.mid = s2.mid := by
  obtain ⟨t1, e1, m1⟩ := h1.tcfg tid ht1
  obtain ⟨t2, e2, m2⟩ := h2.tcfg tid ht2
  rw [e1] at e2
  cases e2
  omega

theorem getModel_mem {st : SState} {m : Nat} {ms : MState} (h : getModel st m = some ms) :
    ms ∈ st ∧ ms.mid = m :=
  ⟨List.mem_of_find?_eq_some h, by simpa using List.find?_some h⟩

theorem getModel_of_mem {st : SState} (hn : (st.map (·.mid)).Nodup) {s : MState} (hs : s ∈ st) :
    getModel st s.mid = some s := by
  induction st with
  | nil => cases hs
  | cons x xs ih =>
    simp only [List.map_cons, List.nodup_cons] at hn
    unfold getModel
    rcases List.mem_cons.mp hs with rfl | hxs
    · simp
    · have hne : x.mid ≠ s.mid := fun he => hn.1 (he ▸ List.mem_map_of_mem hxs)
      rw [List.find?_cons_of_neg (by simpa using hne)]
      exact ih hn.2 hxs

theorem SInv.map {c : Cfg} {st : SState} (h : SInv c st) {f : MState → MState}
    (hf : ∀ s ∈ st, MInv c (f s) ∧ (f s).mid = s.mid) : SInv c (st.map f) := by
  refine ⟨?_, ?_⟩
  · intro s' hs'
    obtain ⟨s, hs, rfl⟩ := List.mem_map.mp hs'
    exact (hf s hs).1
  · have : (st.map f).map (·.mid) = st.map (·.mid) := by
      rw [List.map_map]
      exact List.map_congr_left (fun s hs => (hf s hs).2)
    exact this ▸ h.2

/-- A phase of `schedule` from `st` to `st'`: the invariant holds again, and a task id known afterwards was known
before or is one of `new`. -/
structure SStep (c : Cfg) (st st' : SState) (new : List Nat) : Prop where
  sinv : SInv c st'
  sub : ∀ x ∈ allTids st', x ∈ allTids st ∨ x ∈ new

theorem SStep.refl {c : Cfg} {st : SState} (h : SInv c st) (new : List Nat) : SStep c st st new :=
  ⟨h, fun _ hx => .inl hx⟩

theorem SStep.trans {c : Cfg} {st st1 st2 : SState} {n1 n2 : List Nat} (h1 : SStep c st st1 n1)
    (h2 : SStep c st1 st2 n2) : SStep c st st2 (n1 ++ n2) :=
  ⟨h2.sinv, fun x hx => (h2.sub x hx).elim
    (fun h => (h1.sub x h).imp_right (List.mem_append_left _)) fun h => .inr (List.mem_append_right _ h)⟩

/-- A phase that admits nothing. -/
theorem SStep.sub_nil {c : Cfg} {st st' : SState} (h : SStep c st st' []) : ∀ x ∈ allTids st', x ∈ allTids st :=
  fun x hx => (h.sub x hx).resolve_right List.not_mem_nil

theorem SStep.shrink {c : Cfg} {st st1 st2 : SState} {new : List Nat} (h1 : SStep c st st1 new)
    (h2 : SStep c st1 st2 []) : SStep c st st2 new :=
  ⟨h2.sinv, fun x hx => h1.sub x (h2.sub_nil x hx)⟩

/-- Every model is replaced by one of the same id that satisfies `MInv` and knows no further task but `new`. -/
theorem SStep.map {c : Cfg} {st : SState} (h : SInv c st) {f : MState → MState} {new : List Nat}
    (hf : ∀ s ∈ st, MInv c (f s) ∧ (f s).mid = s.mid ∧ ∀ x ∈ taskIds (f s), x ∈ taskIds s ∨ x ∈ new) :
    SStep c st (st.map f) new := by
  refine ⟨h.map fun s hs => ⟨(hf s hs).1, (hf s hs).2.1⟩, fun x hx => ?_⟩
  obtain ⟨s', hs', ht⟩ := mem_allTids.mp hx
  obtain ⟨s, hs, rfl⟩ := List.mem_map.mp hs'
  exact ((hf s hs).2.2 x ht).imp_left fun h => mem_allTids.mpr ⟨s, hs, h⟩

theorem map_shrunk {c : Cfg} {st : SState} (h : SInv c st) {f : MState → MState}
    (hf : ∀ s ∈ st, Shrunk c s (f s)) : SStep c st (st.map f) [] :=
  .map h fun s hs => ⟨(hf s hs).minv, (hf s hs).mid, fun _ hx => .inl ((hf s hs).sub.subset hx)⟩

theorem mem_updModel {st : SState} {m : Nat} {f : MState → MState} {s' : MState}
    (h : s' ∈ updModel st m f) : ∃ s ∈ st, (s.mid = m ∧ s' = f s) ∨ (s.mid ≠ m ∧ s' = s) := by
  unfold updModel at h
  obtain ⟨s, hs, rfl⟩ := List.mem_map.mp h
  refine ⟨s, hs, ?_⟩
  by_cases hm : s.mid = m
  · left; exact ⟨hm, by simp [hm]⟩
  · right; exact ⟨hm, by simp [hm]⟩

theorem updModel_shrunk {c : Cfg} {st : SState} (h : SInv c st) {m : Nat} {ms : MState} {f : MState → MState}
    (hg : getModel st m = some ms) (hs : Shrunk c ms (f ms)) : SStep c st (updModel st m f) [] := by
  refine map_shrunk h (fun s hsm => ?_)
  split
  · -- ids are distinct, so the model replaced is `ms`
    rename_i hm
    have := getModel_of_mem h.2 hsm
    rw [show s.mid = m by simpa using hm, hg] at this
    exact Option.some.inj this ▸ hs
  · exact Shrunk.refl (h.1 s hsm)

theorem getModel_updModel {st : SState} {m : Nat} {ms2 : MState} (hm : ms2.mid = m) (m' : Nat) :
    getModel (updModel st m (fun _ => ms2)) m' =
      (getModel st m').map (fun s => if s.mid == m then ms2 else s) := by
  unfold getModel updModel
  rw [List.find?_map]
  congr 2
  funext s
  simp only [Function.comp]
  split <;> simp_all

theorem getModel_updModel_other {st : SState} {m m' : Nat} {ms2 : MState} (hm : ms2.mid = m)
    (hne : m' ≠ m) : getModel (updModel st m (fun _ => ms2)) m' = getModel st m' := by
  rw [getModel_updModel hm]
  cases h : getModel st m' with
  | none => rfl
  | some s => simp [(getModel_mem h).2, hne]

theorem getModel_updModel_self {st : SState} {m : Nat} {ms ms2 : MState} (hm : ms2.mid = m)
    (hg : getModel st m = some ms) : getModel (updModel st m (fun _ => ms2)) m = some ms2 := by
  simp [getModel_updModel hm, hg, (getModel_mem hg).2]

end ErdosVerif.Clockwork
