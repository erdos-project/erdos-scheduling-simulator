/-
Semantic content of the rows only the Gurobi formulation has: the time-slot helper
variables tie `start_time` to the slot of the picked cell, and the dependency rows order
children after parents.
-/
import ErdosVerif.Lemmas.TetriDecode
namespace ErdosVerif.Tetri
open ErdosVerif.Mip ErdosVerif.TetriSpec

variable {I : Inst} {σ : Var → Int}

/-- The time-slot helper rows: `placed_at_time` counts the cells of the slot, `not_placed_at_time`
is its complement, `phase_shift` is their AND and fixes `start_time`, as does `placed_at_time[0]`. -/
theorem cSlotsG_holds (I : Inst) (σ : Var → Int) (t : Nat) : (∀ c ∈ I.cSlotsG t, c.holds σ) ↔
    (∀ k, k < I.nSlots → σ (.placedAt t k) = (I.sumCellsAt t k).eval σ ∧
      σ (.notPlacedAt t k) + σ (.placedAt t k) = 1) ∧
    (∀ k, k < I.nSlots → k ≠ 0 →
      σ (.phase t k) = (if σ (.notPlacedAt t (k - 1)) = 1 ∧ σ (.placedAt t k) = 1 then 1 else 0) ∧
      (σ (.phase t k) = 1 → σ (.start t) = I.slot k)) ∧
    (σ (.placedAt t 0) = 1 → σ (.start t) = I.slot 0) := by
  simp only [Inst.cSlotsG, List.forall_mem_append, List.forall_mem_flatMap, List.forall_mem_filter,
    List.forall_mem_cons, List.mem_range, List.not_mem_nil, false_imp_iff, implies_true, and_true,
    Constr.holds, Sense.holds, LinExpr.eval_sub, LinExpr.eval_add, LinExpr.eval_ofVar, Int.sub_eq_zero,
    bne_iff_ne, ne_eq, and_assoc]

/-- The dependency rows of a task with a parent that has variables: one precedence row per such
parent and the three indicator rows of `all_parents_placed`. -/
theorem cDeps_holds (I : Inst) (σ : Var → Int) (c : Nat) : (∀ x ∈ I.cDeps c, x.holds σ) ↔
    (I.parentVars c ≠ [] →
      (∀ p ∈ I.parentVars c, (I.startE c).eval σ - (I.startE p).eval σ ≥ (I.parentDur p : Nat) + 1) ∧
      (σ (.allParents c) = 0 → (I.parentExpr c).eval σ ≤ (I.nParents c : Int) - 1) ∧
      (σ (.allParents c) = 1 → (I.parentExpr c).eval σ = I.nParents c) ∧
      (σ (.allParents c) = 0 → (I.isPlacedE c).eval σ = 0)) := by
  by_cases h : I.parentVars c = []
  · simp [Inst.cDeps, h]
  · have he : (I.parentVars c).isEmpty = false := by simpa using h
    simp only [Inst.cDeps, he, Bool.false_eq_true, if_false, List.forall_mem_append, List.forall_mem_map,
      List.forall_mem_cons, List.not_mem_nil, false_imp_iff, implies_true, and_true, Inst.cStartAfter,
      Constr.holds, Sense.holds, LinExpr.eval_sub, ne_eq, h, not_false_eq_true, true_imp_iff]

theorem placedAt_pick (h : sat σ (gen I)) (hwf : I.wf = true)
    (hm : I.noModel = false) (hG : I.cplex = false) {t : Nat} (ht : t ∈ I.nonRunning)
    {k : Nat} (hk : k < I.nSlots) :
    σ (.placedAt t k) = match pick I σ t with
      | some q => if q.2.1 = k then 1 else 0
      | none => 0 := by
  rw [(((cSlotsG_holds I σ t).mp ((rows h).slots hG t ht)).1 k hk).1, sumCellsAt_ind (ind_of_sat h hwf hm) (act_of_nonRunning ht),
    planOf_get_act σ (act_of_nonRunning ht)]
  rfl

theorem start_eq_slot (h : sat σ (gen I)) (hwf : I.wf = true)
    (hm : I.noModel = false) (hG : I.cplex = false) {t : Nat} (ht : t ∈ I.nonRunning)
    {q : Cell} (hp : pick I σ t = some q) : σ (.start t) = I.slot q.2.1 := by
  obtain ⟨hcompl, hphase, hfirst⟩ := (cSlotsG_holds I σ t).mp ((rows h).slots hG t ht)
  have hk := (mem_keys.mp (pick_mem_keys hwf hm (act_of_nonRunning ht) hp)).2.1
  have h1 : σ (.placedAt t q.2.1) = 1 := by rw [placedAt_pick h hwf hm hG ht hk, hp]; simp
  by_cases hk0 : q.2.1 = 0
  · rw [hk0] at h1 ⊢
    exact hfirst h1
  · -- the slot before is not the picked one, so the phase shifts exactly here
    have hk' : q.2.1 - 1 < I.nSlots := by omega
    have h0 : σ (.placedAt t (q.2.1 - 1)) = 0 := by
      rw [placedAt_pick h hwf hm hG ht hk', hp]
      simp; omega
    have hn := (hcompl _ hk').2
    obtain ⟨hph, hst⟩ := hphase _ hk hk0
    exact hst (by rw [hph, if_pos ⟨by omega, h1⟩])

theorem startE_eval_nonRunning (σ : Var → Int) {t : Nat} (hr : I.running t = false) :
    (I.startE t).eval σ = σ (.start t) := by simp [Inst.startE, hr]

theorem startE_eval_running (σ : Var → Int) {t : Nat} (hr : I.running t = true) :
    (I.startE t).eval σ = I.now := by simp [Inst.startE, hr]

theorem startE_eval_pick (h : sat σ (gen I)) (hwf : I.wf = true) (hm : I.noModel = false)
    (hG : I.cplex = false) {t : Nat} (ht : t ∈ I.act) {q : Cell} (hp : pick I σ t = some q) :
    (I.startE t).eval σ = I.slot q.2.1 := by
  cases hr : I.running t with
  | true =>
    have : q = runningCell I t := by simpa [pick, hr] using hp.symm
    simp [startE_eval_running σ hr, this, runningCell, Inst.slot]
  | false => rw [startE_eval_nonRunning σ hr, start_eq_slot h hwf hm hG (nonRunning_of_act ht hr) hp]

/-- The precedence row of child `c` and parent `p` (present for placed and unplaced tasks alike). -/
theorem start_after_row (h : sat σ (gen I)) (hG : I.cplex = false)
    {c : Nat} (hc : c ∈ I.nonRunning) {p : Nat} (hp : p ∈ I.parentVars c) :
    (I.startE p).eval σ + (I.parentDur p : Nat) + 1 ≤ (I.startE c).eval σ := by
  have := ((cDeps_holds I σ c).mp ((rows h).deps hG c hc) (List.ne_nil_of_mem hp)).1 p hp
  omega

/-- **A placed child has all its parents with variables placed**, and they are as many as the
graph has parents of the child (the as-coded count). -/
theorem parents_placed (h : sat σ (gen I)) (hwf : I.wf = true)
    (hm : I.noModel = false) (hG : I.cplex = false) {c : Nat} (hc : c ∈ I.nonRunning)
    (hpc : (pick I σ c).isSome = true) (hne : I.parentVars c ≠ []) :
    (I.parentVars c).length = I.nParents c ∧ ∀ p ∈ I.parentVars c, (pick I σ p).isSome = true := by
  have hca := act_of_nonRunning hc
  obtain ⟨_, _, hT, hF⟩ := (cDeps_holds I σ c).mp ((rows h).deps hG c hc) hne
  have hbin : σ (.allParents c) = 0 ∨ σ (.allParents c) = 1 :=
    bin_of_decl h (mem_vars.mpr (Or.inr ⟨hG, c, hc, by simpa using hne, rfl⟩))
  -- a placed child forces the indicator to 1, hence `Σ parent.is_placed = nParents`
  have hpl : (I.isPlacedE c).eval σ = 1 := by rw [isPlacedE_eval h hwf hm hca]; simp [hpc]
  have hsum := hT (hbin.resolve_left (fun h0 => by have := hF h0; omega))
  simp only [Inst.parentExpr, LinExpr.eval_sumL, List.map_map, Function.comp_def] at hsum
  have hpa : ∀ p ∈ I.parentVars c, p ∈ I.act := fun p hp => (List.mem_filter.mp hp).1
  -- every summand is 0 or 1 and there are at most `nParents` of them: all are 1
  have hle : ∀ p ∈ I.parentVars c, (I.isPlacedE p).eval σ ≤ 1 := fun p hp => by
    rw [isPlacedE_eval h hwf hm (hpa p hp)]; split <;> simp
  have hlen := isum_le_length hle
  have hwp := wf_parents hwf hca
  refine ⟨by omega, fun p hp => ?_⟩
  have h1 := all_one_of_isum_eq_length hle (by omega) p hp
  rw [isPlacedE_eval h hwf hm (hpa p hp)] at h1
  cases hs : (pick I σ p).isSome <;> simp [hs] at h1 ⊢

end ErdosVerif.Tetri
