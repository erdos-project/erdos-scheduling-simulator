/-
Helper lemmas for C19: half-even rounding, prefix sums, arange length,
closed-loop invariant, fuzz bounds.
-/
import ErdosVerif.Model.Release
import Mathlib.Tactic.Linarith
import Mathlib.Tactic.Ring

namespace ErdosVerif.Release

theorem rhe_bounds (a : Int) (d : Nat) :
    a / (d : Int) ≤ roundHalfEven a d ∧ roundHalfEven a d ≤ a / (d : Int) + 1 := by
  unfold roundHalfEven
  simp only []
  split
  · omega
  · split
    · omega
    · split <;> omega

theorem rhe_exact (k : Int) (d : Nat) (hd : 0 < d) : roundHalfEven (k * (d : Int)) d = k := by
  have hd' : (d : Int) ≠ 0 := by omega
  unfold roundHalfEven
  simp only [Int.mul_ediv_cancel _ hd', Int.mul_emod_left, Int.mul_zero]
  rw [if_pos (by omega)]

theorem rhe_mono (a b : Int) (d : Nat) (hd : 0 < d) (h : a ≤ b) :
    roundHalfEven a d ≤ roundHalfEven b d := by
  have hd' : (0 : Int) < d := by omega
  have hq : a / (d : Int) ≤ b / (d : Int) := Int.ediv_le_ediv hd' h
  rcases Int.lt_or_eq_of_le hq with hlt | heq
  · have := (rhe_bounds a d).2
    have := (rhe_bounds b d).1
    omega
  · -- same quotient: the remainders are ordered like `a` and `b`
    have ha := Int.mul_ediv_add_emod a d
    have hb := Int.mul_ediv_add_emod b d
    have hr : a % (d : Int) ≤ b % (d : Int) := by
      rw [heq] at ha
      omega
    unfold roundHalfEven
    simp only []
    rw [heq]
    clear ha hb hq
    generalize a % (d : Int) = ra at hr ⊢
    generalize b % (d : Int) = rb at hr ⊢
    generalize b / (d : Int) = q
    repeat' split
    all_goals omega

theorem rhe_ge_of_mul_le (k a : Int) (d : Nat) (hd : 0 < d) (h : k * (d : Int) ≤ a) :
    k ≤ roundHalfEven a d :=
  rhe_exact k d hd ▸ rhe_mono _ _ d hd h

theorem rhe_le_of_le_mul (k a : Int) (d : Nat) (hd : 0 < d) (h : a ≤ k * (d : Int)) :
    roundHalfEven a d ≤ k :=
  rhe_exact k d hd ▸ rhe_mono _ _ d hd h

theorem fixed_length (n : Nat) (p s : Int) : (fixedReleases n p s).length = n := by
  simp [fixedReleases]

theorem fixed_getElem (n : Nat) (p s : Int) (i : Nat) (h : i < n) :
    (fixedReleases n p s)[i]? = some (s + (i : Int) * p) := by
  simp [fixedReleases, h]

theorem mem_fixed (n : Nat) (p s x : Int) :
    x ∈ fixedReleases n p s ↔ ∃ i : Nat, i < n ∧ x = s + (i : Int) * p := by
  simp only [fixedReleases, List.mem_map, List.mem_range, Int.ofNat_eq_natCast]
  constructor
  · rintro ⟨i, hi, rfl⟩
    exact ⟨i, hi, rfl⟩
  · rintro ⟨i, hi, rfl⟩
    exact ⟨i, hi, rfl⟩

theorem lt_arangeLen (s h p : Int) (hp : 0 < p) (i : Nat) :
    i < arangeLen s h p ↔ s + (i : Int) * p < h := by
  unfold arangeLen
  rw [Int.fdiv_eq_ediv_of_nonneg _ (Int.le_of_lt hp), Int.lt_toNat]
  constructor
  · intro hi
    have h1 : (s - h) / p < -(i : Int) := by omega
    have := (Int.ediv_lt_iff_lt_mul hp).1 h1
    have e : -(i : Int) * p = -((i : Int) * p) := Int.neg_mul _ _
    omega
  · intro hi
    have e : -(i : Int) * p = -((i : Int) * p) := Int.neg_mul _ _
    have h1 : (s - h) / p < -(i : Int) := (Int.ediv_lt_iff_lt_mul hp).2 (by omega)
    omega

theorem prefixSums_length (s : Int) (ds : List Int) : (prefixSums s ds).length = ds.length + 1 := by
  induction ds generalizing s with
  | nil => rfl
  | cons d ds ih => simp [prefixSums, ih]

theorem prefixSums_head (s : Int) (ds : List Int) : (prefixSums s ds).head? = some s := by
  cases ds <;> rfl

theorem prefixSums_ge (s : Int) (ds : List Int) (hd : ∀ d ∈ ds, 0 ≤ d) :
    ∀ x ∈ prefixSums s ds, s ≤ x := by
  induction ds generalizing s with
  | nil => intro x hx; simp [prefixSums] at hx; omega
  | cons d ds ih =>
    intro x hx
    simp only [prefixSums, List.mem_cons] at hx
    rcases hx with rfl | hx
    · exact Int.le_refl _
    · have h0 : 0 ≤ d := hd d (by simp)
      have := ih (s + d) (fun e he => hd e (by simp [he])) x hx
      omega

theorem prefixSums_sorted (s : Int) (ds : List Int) (hd : ∀ d ∈ ds, 0 ≤ d) :
    (prefixSums s ds).Pairwise (· ≤ ·) := by
  induction ds generalizing s with
  | nil => simp [prefixSums]
  | cons d ds ih =>
    simp only [prefixSums, List.pairwise_cons]
    refine ⟨?_, ih (s + d) (fun e he => hd e (by simp [he]))⟩
    intro x hx
    have h0 : 0 ≤ d := hd d (by simp)
    have := prefixSums_ge (s + d) ds (fun e he => hd e (by simp [he])) x hx
    omega

/-- Invariant of the closed-loop counters for concurrency `c`, total `n`. -/
structure LoopInv (c n : Int) (s : LoopState) : Prop where
  inflight_le : (s.inflight.length : Int) ≤ c
  total : (s.released.length : Int) + s.remaining = n
  rem_nonneg : 0 ≤ s.remaining
  full : 0 < s.remaining → (s.inflight.length : Int) = c

theorem loopInit_inv (c n st : Int) (hc : 0 < c) (hn : 0 < n) : LoopInv c n (loopInit c n st) := by
  unfold loopInit closedLoopInitial
  by_cases h : n ≥ c
  · simp only [h, if_true]
    have : ((c.toNat : Nat) : Int) = c := Int.toNat_of_nonneg (by omega)
    constructor <;> simp <;> omega
  · simp only [h, if_false]
    have : ((n.toNat : Nat) : Int) = n := Int.toNat_of_nonneg (by omega)
    constructor <;> simp <;> omega

theorem loopComplete_inv (c n : Int) (s : LoopState) (g f : Int) (hc : 0 < c) (h : LoopInv c n s) :
    LoopInv c n (loopComplete s g f).1 := by
  unfold loopComplete loopNext
  by_cases hm : g ∈ s.inflight
  · -- the completed graph leaves the window; the next one, if any is left, takes its place
    have hlen : (s.inflight.erase g).length = s.inflight.length - 1 := List.length_erase_of_mem hm
    have hpos : 0 < s.inflight.length := List.length_pos_of_mem hm
    obtain ⟨hi, ht, hr, hf⟩ := h
    simp only [hm, if_true]
    by_cases hr0 : s.remaining > 0
    · have := hf hr0
      simp only [hr0, if_true]
      constructor <;> simp [hlen] <;> omega
    · simp only [hr0, if_false]
      exact ⟨by simp only [hlen]; omega, ht, hr, fun h' => absurd h' hr0⟩
  · simp only [hm, if_false]
    exact h

theorem loopRun_inv (c n : Int) (hc : 0 < c) (hist : List (Int × Int)) :
    ∀ s, LoopInv c n s → LoopInv c n (loopRun s hist) := by
  induction hist with
  | nil => intro s h; exact h
  | cons e hist ih =>
    intro s h
    obtain ⟨g, f⟩ := e
    exact ih _ (loopComplete_inv c n s g f hc h)

theorem fuzzDen_pos : 0 < fuzzDen := by decide

theorem clampNum_mul (minB maxB k : Int) :
    fuzzClampNum minB maxB (k * (fuzzDen : Int)) = max minB (min maxB k) * (fuzzDen : Int) := by
  unfold fuzzClampNum
  -- with the denominator as a literal the claim is linear
  have hD : (fuzzDen : Int) = 900719925474099200 := by decide
  rw [hD]
  omega

theorem clampNum_mono (minB maxB u v : Int) (h : u ≤ v) :
    fuzzClampNum minB maxB u ≤ fuzzClampNum minB maxB v := by
  unfold fuzzClampNum
  omega

theorem convex_bounds {m M A B s r : Int} (hs : 0 ≤ s) (hr : 0 ≤ r) (hmA : m ≤ A) (hmB : m ≤ B)
    (hAM : A ≤ M) (hBM : B ≤ M) : m * (s + r) ≤ A * s + B * r ∧ A * s + B * r ≤ M * (s + r) := by
  have := Int.mul_le_mul_of_nonneg_right hmA hs
  have := Int.mul_le_mul_of_nonneg_right hmB hr
  have := Int.mul_le_mul_of_nonneg_right hAM hs
  have := Int.mul_le_mul_of_nonneg_right hBM hr
  rw [Int.mul_add, Int.mul_add]
  omega

/-- The uniform draw lies between `T*lo/100` and `T*hi/100` (as numerators). -/
theorem uniformNum_bounds (T a b rn : Int) (hT : 0 ≤ T) (h0 : 0 ≤ rn) (h1 : rn ≤ (twoP53 : Int)) :
    T * (min a.natAbs b.natAbs : Nat) * (twoP53 : Int) ≤ fuzzUniformNum T a b rn ∧
    fuzzUniformNum T a b rn ≤ T * (max a.natAbs b.natAbs : Nat) * (twoP53 : Int) := by
  unfold fuzzUniformNum
  generalize (twoP53 : Int) = P at *
  -- the draw is `T` times the combination of `|a|` and `|b|` with weights `P - rn` and `rn`
  have key : T * (a.natAbs : Int) * P + (T * (b.natAbs : Int) - T * (a.natAbs : Int)) * rn =
      T * ((a.natAbs : Int) * (P - rn) + (b.natAbs : Int) * rn) := by
    simp only [Int.mul_sub, Int.sub_mul, Int.mul_add, Int.mul_assoc]
    omega
  obtain ⟨hlo, hhi⟩ := convex_bounds (m := (min a.natAbs b.natAbs : Nat)) (M := (max a.natAbs b.natAbs : Nat))
    (A := a.natAbs) (B := b.natAbs) (s := P - rn) (r := rn)
    (by omega) h0 (by omega) (by omega) (by omega) (by omega)
  rw [show P - rn + rn = P by omega] at hlo hhi
  rw [key, Int.mul_assoc, Int.mul_assoc]
  exact ⟨Int.mul_le_mul_of_nonneg_left hlo hT, Int.mul_le_mul_of_nonneg_left hhi hT⟩

end ErdosVerif.Release
