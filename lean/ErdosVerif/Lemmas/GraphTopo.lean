/-
`topological_sort` (`visit`, `passStep`, `topoWhile`, `topologicalSort` of `Model/Graph.lean`)
on well-formed graphs: an `.ok l` result is a permutation of the nodes in which every edge goes
forward; an `.error e` result is `"RuntimeError"` and the graph has a cycle, so `"OutOfFuel"`,
`"KeyError"` and `"ValueError"` do not occur (`topologicalSort_spec`).

The temporary marks are the open calls of `visit`: each of these nodes reaches the node being
visited, so meeting one exhibits a cycle.  Every call marks an unmarked node before it recurses,
so the number of unmarked nodes bounds the recursion depth.
-/
import ErdosVerif.Lemmas.GraphBasic

namespace ErdosVerif.Model.Graph

theorem idxOf_reverse_of_nodup {l : List Nat} (hn : l.Nodup) {a : Nat} (ha : a ∈ l) :
    l.reverse.idxOf a + l.idxOf a + 1 = l.length := by
  induction l with
  | nil => simp at ha
  | cons x xs ih =>
    simp only [List.nodup_cons] at hn
    rw [List.reverse_cons, List.idxOf_append]
    by_cases hax : a = x
    · subst hax
      have h1 : a ∉ xs.reverse := by simpa using hn.1
      simp [h1, List.idxOf_cons_self]
    · have hm : a ∈ xs := by simpa [hax] using ha
      have h1 : a ∈ xs.reverse := by simpa using hm
      have hxa : (x == a) = false := by simp; exact fun e => hax e.symm
      have := ih hn.2 hm
      simp only [h1, if_true, List.idxOf_cons, hxa, cond_false, List.length_cons]
      omega

theorem before_reverse_of_nodup {l : List Nat} (hn : l.Nodup) {u v : Nat} (hu : u ∈ l) (hv : v ∈ l)
    (h : l.idxOf v < l.idxOf u) : Before l.reverse u v := by
  have h1 := idxOf_reverse_of_nodup hn hu
  have h2 := idxOf_reverse_of_nodup hn hv
  unfold Before
  omega

theorem acyclic_of_before {g : Graph} {l : List Nat} (hl : ∀ u v, g.Edge u v → Before l u v) :
    g.Acyclic := by
  rintro ⟨u, v, e, r⟩
  have h1 := hl u v e
  rcases r.eq_or_lt (f := l.idxOf) hl with rfl | h2
  · exact Before.irrefl h1
  · exact Before.irrefl (h1.trans h2)

theorem countP_lt_of_imp {l : List Nat} {p q : Nat → Bool} (h : ∀ x ∈ l, p x = true → q x = true)
    {a : Nat} (ha : a ∈ l) (hq : q a = true) (hp : p a = false) : l.countP p < l.countP q := by
  induction l with
  | nil => simp at ha
  | cons x xs ih =>
    rw [List.countP_cons, List.countP_cons]
    rcases List.mem_cons.mp ha with rfl | ha'
    · have := List.countP_mono_left (l := xs) (fun y hy => h y (List.mem_cons_of_mem _ hy))
      simp only [hq, hp, if_true]
      simp
      omega
    · have := ih (fun y hy => h y (List.mem_cons_of_mem _ hy)) ha'
      have hx := h x (List.mem_cons_self ..)
      cases hpx : p x with
      | true => simp only [hx hpx, if_true]; omega
      | false => cases hqx : q x <;> simp <;> omega

def ReachPlus (g : Graph) (t n : Nat) : Prop := ∃ m, g.Edge t m ∧ g.Reach m n

theorem ReachPlus.hasCycle {g : Graph} {n : Nat} (h : g.ReachPlus n n) : g.HasCycle := by
  obtain ⟨m, e, r⟩ := h
  exact ⟨n, m, e, r⟩

theorem ReachPlus.tail {g : Graph} {t n c : Nat} (h : g.ReachPlus t n) (e : g.Edge n c) :
    g.ReachPlus t c := by
  obtain ⟨m, e', r⟩ := h
  exact ⟨m, e', r.tail e⟩

structure TopoInv (g : Graph) (st : TopoState) : Prop where
  keys : st.marks.map Prod.fst = g.getNodes
  nodup : st.out.Nodup
  perm : ∀ n, n ∈ st.out ↔ List.lookup n st.marks = some .permanent
  order : ∀ u v, u ∈ st.out → g.Edge u v → v ∈ st.out ∧ st.out.idxOf v < st.out.idxOf u

def TopoMono (st st' : TopoState) : Prop :=
  ∀ m, List.lookup m st'.marks = List.lookup m st.marks ∨
    (List.lookup m st.marks = some .unmarked ∧ List.lookup m st'.marks = some .permanent)

theorem TopoMono.refl (st : TopoState) : TopoMono st st := fun _ => .inl rfl

theorem TopoMono.trans {a b c : TopoState} (h₁ : TopoMono a b) (h₂ : TopoMono b c) :
    TopoMono a c := by
  intro m
  rcases h₁ m with e1 | ⟨u1, p1⟩ <;> rcases h₂ m with e2 | ⟨u2, p2⟩
  · exact .inl (e2.trans e1)
  · exact .inr ⟨e1 ▸ u2, p2⟩
  · exact .inr ⟨u1, e2.trans p1⟩
  · rw [p1] at u2; cases u2

theorem TopoMono.permanent {a b : TopoState} (h : TopoMono a b) {m : Nat}
    (hm : List.lookup m a.marks = some .permanent) : List.lookup m b.marks = some .permanent := by
  rcases h m with e | ⟨u, _⟩ <;> simp_all

theorem TopoMono.temporary {a b : TopoState} (h : TopoMono a b) {m : Nat}
    (hm : List.lookup m a.marks = some .temporary) : List.lookup m b.marks = some .temporary := by
  rcases h m with e | ⟨u, _⟩ <;> simp_all

theorem TopoMono.temporary_of {a b : TopoState} (h : TopoMono a b) {m : Nat}
    (hm : List.lookup m b.marks = some .temporary) : List.lookup m a.marks = some .temporary := by
  rcases h m with e | ⟨_, p⟩ <;> simp_all

theorem TopoMono.unmarked_of {a b : TopoState} (h : TopoMono a b) {m : Nat}
    (hm : List.lookup m b.marks = some .unmarked) : List.lookup m a.marks = some .unmarked := by
  rcases h m with e | ⟨_, p⟩ <;> simp_all

/-- The recursion measure of `visit`. -/
def unmarkedCount (g : Graph) (st : TopoState) : Nat :=
  g.getNodes.countP (fun m => decide (List.lookup m st.marks = some .unmarked))

theorem unmarkedCount_le_size (g : Graph) (st : TopoState) : unmarkedCount g st ≤ g.size := by
  have := List.countP_le_length (l := g.getNodes)
    (p := fun m => decide (List.lookup m st.marks = some .unmarked))
  simpa [unmarkedCount, Graph.size, Graph.getNodes] using this

theorem TopoMono.unmarkedCount_le {g : Graph} {a b : TopoState} (h : TopoMono a b) :
    unmarkedCount g b ≤ unmarkedCount g a :=
  List.countP_mono_left fun x _ hx => by
    simp only [decide_eq_true_eq] at hx ⊢
    exact h.unmarked_of hx

theorem unmarkedCount_setTemp {g : Graph} {st : TopoState} {n : Nat} (hn : n ∈ g.getNodes)
    (hm : List.lookup n st.marks = some .unmarked) :
    unmarkedCount g { marks := Dict.set st.marks n .temporary, out := st.out } <
      unmarkedCount g st := by
  apply countP_lt_of_imp (a := n) _ hn
  · simpa using hm
  · simp [Dict.lookup_set_self]
  · intro x _ hx
    by_cases hxn : x = n <;> simp_all [Dict.lookup_set]

theorem TopoInv.setTemp {g : Graph} {st : TopoState} (hI : TopoInv g st) {n : Nat}
    (hm : List.lookup n st.marks = some .unmarked) :
    TopoInv g { marks := Dict.set st.marks n .temporary, out := st.out } where
  keys := by
    show (Dict.set st.marks n .temporary).map Prod.fst = g.getNodes
    rw [Dict.keys_set, hm]; exact hI.keys
  nodup := hI.nodup
  perm := by
    intro m
    show m ∈ st.out ↔ List.lookup m (Dict.set st.marks n .temporary) = some .permanent
    rw [Dict.lookup_set, hI.perm]
    by_cases hmn : m = n <;> simp [hmn, hm]
  order := hI.order

/-- `node_marks[n] = "Permanent"; topological_sort.append(n)` keeps the invariant
once every child of `n` is permanent. -/
theorem TopoInv.finish {g : Graph} {st : TopoState} (hI : TopoInv g st) {n : Nat}
    (hm : List.lookup n st.marks = some .temporary)
    (hc : ∀ c, g.Edge n c → List.lookup c st.marks = some .permanent) :
    TopoInv g { marks := Dict.set st.marks n .permanent, out := st.out ++ [n] } := by
  have hn : n ∉ st.out := by rw [hI.perm, hm]; simp
  refine ⟨?_, nodup_concat hI.nodup hn, ?_, ?_⟩
  · show (Dict.set st.marks n .permanent).map Prod.fst = g.getNodes
    rw [Dict.keys_set, hm]; exact hI.keys
  · intro m
    show m ∈ st.out ++ [n] ↔ List.lookup m (Dict.set st.marks n .permanent) = some .permanent
    rw [Dict.lookup_set, List.mem_append, hI.perm]
    by_cases hmn : m = n <;> simp [hmn]
  · intro u v hu e
    rcases List.mem_append.mp hu with hu | hu
    · -- an earlier output node: its children were output even earlier
      obtain ⟨hv, hlt⟩ := hI.order u v hu e
      exact ⟨List.mem_append_left _ hv, Before.append_right hlt hu _⟩
    · -- `n` itself: its children are permanent, hence output before
      obtain rfl : u = n := by simpa using hu
      have hv : v ∈ st.out := (hI.perm v).mpr (hc v e)
      exact ⟨List.mem_append_left _ hv, Before.of_mem_of_not_mem hv hn _⟩

/-- `foldE f cs` where every step keeps a state property `P`, only moves marks
forward and makes its node permanent; errors satisfy `R`.  `Q n st` is the
precondition of the step on `n`, stable under `TopoMono`. -/
theorem foldE_topo_spec (f : Nat → TopoState → Except String TopoState)
    (P : TopoState → Prop) (Q : Nat → TopoState → Prop) (R : String → Prop)
    (hQ : ∀ n st st', Q n st → TopoMono st st' → Q n st')
    (hstep : ∀ n st, P st → Q n st → Yields (f n st)
      (fun st' => P st' ∧ TopoMono st st' ∧ List.lookup n st'.marks = some .permanent) R) :
    ∀ cs st, P st → (∀ c ∈ cs, Q c st) →
      Yields (foldE f cs st) (fun st' => P st' ∧ TopoMono st st' ∧
        ∀ c ∈ cs, List.lookup c st'.marks = some .permanent) R := by
  intro cs
  induction cs with
  | nil => intro st hP _; exact ⟨hP, .refl _, by simp⟩
  | cons c cs ih =>
    intro st hP hQs
    have hc := hstep c st hP (hQs c (List.mem_cons_self ..))
    rw [foldE_cons]
    cases hf : f c st with
    | error e => rw [hf] at hc; exact hc
    | ok st1 =>
      rw [hf] at hc
      obtain ⟨hP1, hM1, hc1⟩ := hc
      refine (ih st1 hP1 fun c' hc' => hQ c' st st1 (hQs c' (List.mem_cons_of_mem _ hc')) hM1).imp ?_
      rintro st' ⟨hP', hM', hall⟩
      refine ⟨hP', hM1.trans hM', fun c' hc' => ?_⟩
      rcases List.mem_cons.mp hc' with rfl | hc'
      · exact hM'.permanent hc1
      · exact hall c' hc'

theorem visit_spec {g : Graph} (wf : g.WF) : ∀ fuel n st, TopoInv g st → g.hasNode n = true →
    (∀ t, List.lookup t st.marks = some .temporary → g.ReachPlus t n) →
    unmarkedCount g st < fuel →
    Yields (visit g fuel n st)
      (fun st' => TopoInv g st' ∧ TopoMono st st' ∧ List.lookup n st'.marks = some .permanent)
      (fun e => e = "RuntimeError" ∧ g.HasCycle) := by
  intro fuel
  induction fuel with
  | zero => intro n st _ _ _ h; omega
  | succ fuel ih =>
    intro n st hI hn hT hU
    have hnn : n ∈ g.getNodes := (hasNode_iff_mem_getNodes g n).mp hn
    obtain ⟨mk, hm⟩ := (lookup_iff_hasNode hI.keys).mpr hn
    cases mk with
    | permanent => simp only [visit, hm]; exact ⟨hI, .refl _, hm⟩
    | temporary => simp only [visit, hm]; exact ⟨rfl, (hT n hm).hasCycle⟩
    | unmarked =>
      obtain ⟨cs, hc⟩ := hasNode_iff_lookup.mp hn
      have hedge : ∀ c, c ∈ cs → g.Edge n c := fun c h => edge_iff_lookup.mpr ⟨cs, hc, h⟩
      simp only [visit, hm, hc]
      -- the children are visited with `n` temporary: one unmarked node less, and `n` reaches them
      have key := foldE_topo_spec (visit g fuel) (TopoInv g)
        (fun c s => g.hasNode c = true ∧
          (∀ t, List.lookup t s.marks = some .temporary → g.ReachPlus t c) ∧
          unmarkedCount g s < fuel)
        (fun e => e = "RuntimeError" ∧ g.HasCycle)
        (fun c s s' ⟨h1, h2, h3⟩ hM => ⟨h1, fun t ht => h2 t (hM.temporary_of ht),
          Nat.lt_of_le_of_lt hM.unmarkedCount_le h3⟩)
        (fun c s hP ⟨h1, h2, h3⟩ => ih c s hP h1 h2 h3)
        cs { marks := Dict.set st.marks n .temporary, out := st.out } (hI.setTemp hm)
        (by
          intro c hcs
          have := unmarkedCount_setTemp (g := g) hnn hm
          refine ⟨wf.closed n c (hedge c hcs), fun t ht => ?_, by omega⟩
          by_cases htn : t = n
          · subst htn; exact ⟨c, hedge c hcs, .refl c⟩
          · have ht' : List.lookup t (Dict.set st.marks n .temporary) = some .temporary := ht
            rw [Dict.lookup_set_ne _ _ htn] at ht'
            exact (hT t ht').tail (hedge c hcs))
      cases hfold : foldE (visit g fuel) cs
          { marks := Dict.set st.marks n .temporary, out := st.out } with
      | error e0 => rw [hfold] at key; exact key
      | ok st2 =>
        rw [hfold] at key
        obtain ⟨hI2, hM2, hall⟩ := key
        have hn2 : List.lookup n st2.marks = some .temporary :=
          hM2.temporary (Dict.lookup_set_self _ _ _)
        refine ⟨hI2.finish hn2 (fun c e => hall c (by rwa [Edge, childrenOf_of_lookup hc] at e)), ?_,
          Dict.lookup_set_self _ _ _⟩
        intro m
        show List.lookup m (Dict.set st2.marks n .permanent) = _ ∨
          (_ ∧ List.lookup m (Dict.set st2.marks n .permanent) = _)
        by_cases hmn : m = n
        · subst hmn
          exact .inr ⟨hm, Dict.lookup_set_self _ _ _⟩
        · have h1 : List.lookup m (Dict.set st.marks n Mark.temporary) = List.lookup m st.marks :=
            Dict.lookup_set_ne _ _ hmn
          rw [Dict.lookup_set_ne _ _ hmn, ← h1]
          exact hM2 m

/-- Holds between the top-level `visit` calls. -/
def NoTemp (st : TopoState) : Prop := ∀ m, List.lookup m st.marks ≠ some .temporary

theorem passStep_spec {g : Graph} (wf : g.WF) (n : Nat) (st : TopoState)
    (hI : TopoInv g st) (hT : NoTemp st) (hn : n ∈ g.getNodes) :
    Yields (passStep g (g.size + 1) n st)
      (fun st' => (TopoInv g st' ∧ NoTemp st') ∧ TopoMono st st' ∧
        List.lookup n st'.marks = some .permanent)
      (fun e => e = "RuntimeError" ∧ g.HasCycle) := by
  have hnode := (hasNode_iff_mem_getNodes g n).mpr hn
  obtain ⟨mk, hm⟩ := (lookup_iff_hasNode hI.keys).mpr hnode
  cases mk with
  | temporary => exact absurd hm (hT n)
  | permanent => simp only [passStep, hm]; exact ⟨⟨hI, hT⟩, .refl _, hm⟩
  | unmarked =>
    simp only [passStep, hm]
    refine (visit_spec wf (g.size + 1) n st hI hnode
      (fun t ht => absurd ht (hT t)) (Nat.lt_succ_of_le (unmarkedCount_le_size g st))).imp ?_
    rintro st' ⟨h1, h2, h3⟩
    exact ⟨⟨h1, fun m hm' => hT m (h2.temporary_of hm')⟩, h2, h3⟩

theorem pass_spec {g : Graph} (wf : g.WF) (ns : List Nat) (st : TopoState)
    (hI : TopoInv g st) (hT : NoTemp st) (hns : ∀ n ∈ ns, n ∈ g.getNodes) :
    Yields (foldE (passStep g (g.size + 1)) ns st)
      (fun st' => (TopoInv g st' ∧ NoTemp st') ∧ TopoMono st st' ∧
        ∀ n ∈ ns, List.lookup n st'.marks = some .permanent)
      (fun e => e = "RuntimeError" ∧ g.HasCycle) :=
  foldE_topo_spec (passStep g (g.size + 1)) (fun s => TopoInv g s ∧ NoTemp s)
    (fun n _ => n ∈ g.getNodes) (fun e => e = "RuntimeError" ∧ g.HasCycle)
    (fun _ _ _ h _ => h) (fun n s hP hn => passStep_spec wf n s hP.1 hP.2 hn) ns st ⟨hI, hT⟩ hns

theorem topoInit_inv (g : Graph) : TopoInv g (topoInit g) where
  keys := by simp [topoInit, List.map_map, Function.comp_def]
  nodup := by simp [topoInit]
  perm := fun n => ⟨fun h => by simp [topoInit] at h, fun h => by cases Dict.lookup_map_mk (f := fun _ => Mark.unmarked) h⟩
  order := by intro u v h; simp [topoInit] at h

theorem topoInit_noTemp (g : Graph) : NoTemp (topoInit g) := by
  intro m h; cases Dict.lookup_map_mk (f := fun _ => Mark.unmarked) h

theorem all_permanent_iff {d : Dict Mark} (hd : (d.map Prod.fst).Nodup) :
    d.all (fun p => p.2 == Mark.permanent) = true ↔
      ∀ n ∈ d.map Prod.fst, List.lookup n d = some .permanent := by
  simp only [List.all_eq_true, beq_iff_eq, List.mem_map]
  constructor
  · rintro h n ⟨⟨k, v⟩, hp, rfl⟩
    rw [Dict.lookup_eq_some_of_mem hd hp, ← h _ hp]
  · intro h p hp
    have := h p.1 ⟨p, hp, rfl⟩
    rw [Dict.lookup_eq_some_of_mem hd hp] at this
    exact Option.some.inj this

/-- The `while` loop with fuel 2: one pass suffices. -/
theorem topoWhile_spec {g : Graph} (wf : g.WF) :
    Yields (topoWhile g (g.size + 1) 2 (topoInit g))
      (fun st => TopoInv g st ∧ ∀ n ∈ g.getNodes, List.lookup n st.marks = some .permanent)
      (fun e => e = "RuntimeError" ∧ g.HasCycle) := by
  have hI0 := topoInit_inv g
  have hall : ∀ {st}, TopoInv g st → (st.marks.all (fun p => p.2 == Mark.permanent) = true ↔
      ∀ n ∈ g.getNodes, List.lookup n st.marks = some .permanent) := fun hI => by
    rw [all_permanent_iff (hI.keys ▸ wf.nodupKeys), hI.keys]
  rw [topoWhile]
  split
  · rename_i h
    exact ⟨hI0, (hall hI0).mp h⟩
  · have hp := pass_spec wf ((topoInit g).marks.map Prod.fst) (topoInit g) hI0 (topoInit_noTemp g)
      (by rw [hI0.keys]; exact fun _ h => h)
    cases hf : foldE (passStep g (g.size + 1)) ((topoInit g).marks.map Prod.fst) (topoInit g) with
    | error e0 => rw [hf] at hp; exact hp
    | ok st1 =>
      rw [hf] at hp
      obtain ⟨⟨hI1, _⟩, _, hperm⟩ := hp
      rw [hI0.keys] at hperm
      simp only [topoWhile, (hall hI1).mpr hperm, if_true]
      exact ⟨hI1, hperm⟩

theorem TopoInv.final {g : Graph} (wf : g.WF) {st : TopoState} (hI : TopoInv g st)
    (hall : ∀ n ∈ g.getNodes, List.lookup n st.marks = some .permanent) :
    st.out.reverse.Perm g.getNodes ∧ ∀ u v, g.Edge u v → Before st.out.reverse u v := by
  have hmem : ∀ a, a ∈ st.out ↔ a ∈ g.getNodes := by
    intro a
    rw [hI.perm]
    exact ⟨fun h => (hasNode_iff_mem_getNodes g a).mp ((lookup_iff_hasNode hI.keys).mp ⟨_, h⟩),
      hall a⟩
  refine ⟨(List.reverse_perm _).trans
    ((List.perm_ext_iff_of_nodup hI.nodup wf.nodupKeys).mpr hmem), ?_⟩
  intro u v e
  have hu : u ∈ st.out := (hmem u).mpr ((hasNode_iff_mem_getNodes g u).mp e.left_hasNode)
  obtain ⟨hv, hlt⟩ := hI.order u v hu e
  exact before_reverse_of_nodup hI.nodup hu hv hlt

theorem topologicalSort_spec {g : Graph} (wf : g.WF) :
    Yields g.topologicalSort
      (fun l => l.Perm g.getNodes ∧ ∀ u v, g.Edge u v → Before l u v)
      (fun e => e = "RuntimeError" ∧ g.HasCycle) := by
  have := topoWhile_spec wf
  unfold topologicalSort
  cases hw : topoWhile g (g.size + 1) 2 (topoInit g) with
  | error e => rw [hw] at this; exact this
  | ok st => rw [hw] at this; exact this.1.final wf this.2

theorem topo_ok {g : Graph} (wf : g.WF) {l : List Nat} (h : g.topologicalSort = .ok l) :
    l.Perm g.getNodes ∧ ∀ u v, g.Edge u v → Before l u v :=
  (topologicalSort_spec wf).of_ok h

theorem topo_error {g : Graph} (wf : g.WF) {e : String} (h : g.topologicalSort = .error e) :
    e = "RuntimeError" ∧ g.HasCycle :=
  (topologicalSort_spec wf).of_error h

theorem topo_ok_acyclic {g : Graph} (wf : g.WF) {l : List Nat} (h : g.topologicalSort = .ok l) :
    g.Acyclic :=
  acyclic_of_before (topo_ok wf h).2

theorem topo_total {g : Graph} (wf : g.WF) (hac : g.Acyclic) : ∃ l, g.topologicalSort = .ok l := by
  cases h : g.topologicalSort with
  | ok l => exact ⟨l, rfl⟩
  | error e => exact absurd (topo_error wf h).2 hac

theorem topo_of_acyclic {g : Graph} (wf : g.WF) (hac : g.Acyclic) :
    ∃ l, g.topologicalSort = .ok l ∧ l.Perm g.getNodes ∧ ∀ u v, g.Edge u v → Before l u v := by
  obtain ⟨l, h⟩ := topo_total wf hac
  exact ⟨l, h, topo_ok wf h⟩

end ErdosVerif.Model.Graph
