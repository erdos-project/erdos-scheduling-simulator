/-
Facts about `decode` (the mirror of `get_placements`): what a reported placement says
about the assignment it is read from.
-/
import ErdosVerif.Lemmas.IlpSat
namespace ErdosVerif.Ilp
open ErdosVerif.Mip

theorem foldl_isSome {α β : Type} (f : Option β → α → Option β) {l : List α} {a : α} (ha : a ∈ l)
    (hhit : ∀ acc, (f acc a).isSome = true) (hkeep : ∀ acc x, acc.isSome = true → (f acc x).isSome = true) :
    (l.foldl f none).isSome = true := by
  have key : ∀ (l : List α) (acc : Option β), (acc.isSome = true ∨ a ∈ l) → (l.foldl f acc).isSome = true := by
    intro l
    induction l with
    | nil => intro acc h; simpa using h
    | cons x xs ih =>
      intro acc h
      refine ih _ (h.elim (fun h => Or.inl (hkeep acc x h)) fun h => ?_)
      rcases List.mem_cons.mp h with rfl | h
      · exact Or.inl (hhit acc)
      · exact Or.inr h
  exact key l none (Or.inr ha)

/-- What the scan of `get_placements` guarantees about the pair it returns. -/
theorem chosen_spec {I : Inst} {σ : Var → Int} {t w s : Nat} (h : I.chosen σ t = some (w, s)) :
    w < I.nW ∧ s < (I.task t).nS ∧ I.hasVar t w s = true ∧ σ (.x t w s) = 1 := by
  refine List.foldlRecOn (motive := fun acc => ∀ ws : Nat × Nat, acc = some ws →
      ws.1 < I.nW ∧ ws.2 < (I.task t).nS ∧ I.hasVar t ws.1 ws.2 = true ∧ σ (.x t ws.1 ws.2) = 1)
    (List.range I.nW) (I.scanStep σ t) (b := none) (fun _ h => nomatch h) ?_ (w, s) h
  intro acc hacc w hw ws hws
  unfold Inst.scanStep at hws
  split at hws
  · rename_i s hs
    cases hws
    have h1 := List.find?_some hs
    simp at h1
    exact ⟨List.mem_range.mp hw, List.mem_range.mp (List.mem_of_find?_eq_some hs), h1.1, h1.2⟩
  · exact hacc ws hws

theorem chosen_isSome {I : Inst} {σ : Var → Int} {t w s : Nat} (hw : w < I.nW)
    (hs : s < (I.task t).nS) (hv : I.hasVar t w s = true) (hx : σ (.x t w s) = 1) :
    (I.chosen σ t).isSome = true := by
  refine foldl_isSome _ (List.mem_range.mpr hw) (fun acc => ?_) (fun acc x hacc => ?_)
  · have : ((List.range (I.task t).nS).find? (fun s => I.hasVar t w s && σ (.x t w s) == 1)).isSome :=
      List.find?_isSome.mpr ⟨s, List.mem_range.mpr hs, by simp [hv, hx]⟩
    unfold Inst.scanStep
    split
    · rfl
    · rename_i hn; simp [hn] at this
  · unfold Inst.scanStep
    split
    · rfl
    · exact hacc

theorem chosen_xval {I : Inst} {σ : Var → Int} {t w s : Nat} (h : I.chosen σ t = some (w, s)) :
    xval I σ t w s = 1 := by
  have := chosen_spec h
  rw [xval_var this.2.2.1]; exact this.2.2.2

theorem chosen_isSome_of_xval {I : Inst} {σ : Var → Int} {t w s : Nat} (hr : I.running t = false)
    (hw : w < I.nW) (hs : s < (I.task t).nS) (hx : xval I σ t w s = 1) : (I.chosen σ t).isSome = true := by
  cases hv : I.hasVar t w s with
  | false => rw [xval_novar hr hv] at hx; omega
  | true => rw [xval_var hv] at hx; exact chosen_isSome hw hs hv hx

/-- **Placed by `σ`**: the scan of `get_placements` finds a pair iff `Σ x ≥ 1` (then `= 1`). -/
theorem chosen_isSome_iff {I : Inst} {σ : Var → Int} (h : sat σ (gen I)) {t : Nat} (ht : t < I.nT)
    (hr : I.running t = false) : (I.chosen σ t).isSome = true ↔ 1 ≤ psum I σ t := by
  constructor
  · intro hs
    obtain ⟨⟨w, s⟩, hc⟩ := Option.isSome_iff_exists.mp hs
    have := xval_le_psum h ht (chosen_spec hc).1 (chosen_spec hc).2.1
    rwa [chosen_xval hc] at this
  · intro hp
    obtain ⟨w, s, hw, hs, hx⟩ := exists_pair_of_placed h ht hp
    exact chosen_isSome_of_xval hr hw hs hx

theorem mem_decode {I : Inst} {σ : Var → Int} {d : Decision} :
    d ∈ decode I σ ↔ ∃ t, t < I.nT ∧ I.running t = false ∧ d = I.decodeTask σ t := by
  simp only [decode, List.mem_map, mem_nonRunning, and_assoc, eq_comm]

theorem decodeTask_placed {I : Inst} {σ : Var → Int} {t w s : Nat} {time : Int}
    (h : (I.decodeTask σ t).placed = some (w, s, time)) :
    I.chosen σ t = some (w, s) ∧ time = σ (.start t) := by
  simp only [Inst.decodeTask, Option.map_eq_some_iff] at h
  obtain ⟨ws, hws, heq⟩ := h
  cases heq
  exact ⟨by simpa using hws, rfl⟩

end ErdosVerif.Ilp
