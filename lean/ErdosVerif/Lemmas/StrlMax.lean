/-
C20, `Max` over Choose leaves: the three rows of `MaxExpression::parse` in terms of the
children's indicators, at most one placement, and the span of the chosen child.
-/
import ErdosVerif.Lemmas.StrlExact
namespace ErdosVerif.Strl

/-- What a child contributes to the "exactly one" row of its `Max`. -/
def indTerm (σ : Assign) (r : PR) : Int := if r.util then resolveTV σ r.ind else 0

theorem tvTerm_eval (σ : Assign) (k : Int) (tv : TV) :
    evalTerms σ (tvTerm k tv).1 - (tvTerm k tv).2 = k * resolveTV σ tv := by
  cases tv <;> simp [tvTerm, evalTerms, resolveTV]

/-- The three accumulated rows of the per-child loop: the children's indicators, and the
indicators weighted by the (constant) start and end of the child. -/
theorem maxFold (σ : Assign) (children : List PR) : ∀ acc : MaxAcc,
    evalTerms σ (children.foldl maxStep acc).sub - (children.foldl maxStep acc).subRhs
      = evalTerms σ acc.sub - acc.subRhs + sumBy (indTerm σ) children ∧
    evalTerms σ (children.foldl maxStep acc).st - (children.foldl maxStep acc).stRhs
      = evalTerms σ acc.st - acc.stRhs + sumBy (fun r => tvConst r.start * indTerm σ r) children ∧
    evalTerms σ (children.foldl maxStep acc).en - (children.foldl maxStep acc).enRhs
      = evalTerms σ acc.en - acc.enRhs + sumBy (fun r => tvConst r.stop * indTerm σ r) children := by
  induction children with
  | nil => intro acc; simp
  | cons r rs ih =>
    intro acc
    simp only [List.foldl_cons, sumBy_cons]
    obtain ⟨h1, h2, h3⟩ := ih (maxStep acc r)
    rw [h1, h2, h3]
    unfold maxStep indTerm
    by_cases hu : r.util = true
    · simp only [hu, Bool.not_true, Bool.false_eq_true, if_false, if_true, evalTerms_append]
      have e0 := tvTerm_eval σ 1 r.ind
      have e1 := tvTerm_eval σ (tvConst r.start) r.ind
      have e2 := tvTerm_eval σ (tvConst r.stop) r.ind
      omega
    · simp [hu]

theorem max_pr (ctx : Ctx) (path : Path) (name : String) (cs : List Expr) :
    (compileNode ctx path (.max name cs)).pr.util = true ∧
    (compileNode ctx path (.max name cs)).pr.start = .var ⟨path, .maxStart⟩ ∧
    (compileNode ctx path (.max name cs)).pr.stop = .var ⟨path, .maxEnd⟩ ∧
    (compileNode ctx path (.max name cs)).pr.ind = .var ⟨path, .maxInd⟩ := by
  simp [compileNode, finishMax]

/-- What the rows of a `Max` say: the indicator is binary and equals the sum of the children's
indicators; when it is 1, start and end enclose the weighted start and end of the children. -/
theorem max_rows {ctx : Ctx} {σ : Assign} {path : Path} {name : String} {cs : List Expr}
    (hv : VarsHold ctx σ path (.max name cs)) (hc : ConsHold ctx σ path (.max name cs)) :
    0 ≤ σ ⟨path, .maxInd⟩ ∧ σ ⟨path, .maxInd⟩ ≤ 1 ∧
    sumBy (indTerm σ) ((compileList ctx path 0 cs).map (·.2.pr)) = σ ⟨path, .maxInd⟩ ∧
    (σ ⟨path, .maxInd⟩ = 1 →
      σ ⟨path, .maxStart⟩ ≤ sumBy (fun r => tvConst r.start * indTerm σ r) ((compileList ctx path 0 cs).map (·.2.pr)) ∧
      sumBy (fun r => tvConst r.stop * indTerm σ r) ((compileList ctx path 0 cs).map (·.2.pr)) ≤ σ ⟨path, .maxEnd⟩) := by
  simp only [VarsHold, ConsHold, compileNode, finishMax, List.mem_append, List.mem_cons, List.not_mem_nil,
    or_false] at hv hc
  have hind := hv _ (Or.inl (Or.inr (Or.inr rfl)))
  have rS := hc _ (Or.inr (Or.inl rfl))
  have rE := hc _ (Or.inr (Or.inr (Or.inl rfl)))
  have rC := hc _ (Or.inr (Or.inr (Or.inr rfl)))
  simp [Var.holds] at hind
  simp only [Constr.holds, decide_eq_true_eq, evalTerms_append] at rC rS rE
  simp only [evalTerms, List.map_cons, List.map_nil, List.sum_cons, List.sum_nil] at rC rS rE
  obtain ⟨f1, f2, f3⟩ := maxFold σ ((compileList ctx path 0 cs).map (·.2.pr)) {}
  simp only [evalTerms, List.map_nil, List.sum_nil] at f1 f2 f3
  refine ⟨hind.1, hind.2, by omega, fun h1 => ?_⟩
  rw [h1] at rS
  constructor <;> omega

/-- A child of a `Max`: its times are constants, it reports at most as many placements as its
indicator says, and only with indicator 1 and its own times. -/
def LeafInfo (ctx : Ctx) (σ : Assign) (path : Path) (e : Expr) : Prop :=
  0 ≤ indTerm σ (compileNode ctx path e).pr ∧
  ((compileNode ctx path e).pr.util = true →
    tvConst (compileNode ctx path e).pr.start ≤ tvConst (compileNode ctx path e).pr.stop) ∧
  ((populateNode ctx σ path e).placements.length : Int) ≤ indTerm σ (compileNode ctx path e).pr ∧
  ∀ pl ∈ (populateNode ctx σ path e).placements, indTerm σ (compileNode ctx path e).pr = 1 ∧
    pl.start = tvConst (compileNode ctx path e).pr.start ∧ pl.stop = tvConst (compileNode ctx path e).pr.stop

theorem leaf_info {ctx : Ctx} {σ : Assign} {path : Path} {e : Expr} (he : isLeafChoose e = true)
    (hv : VarsHold ctx σ path e) : LeafInfo ctx σ path e := by
  unfold LeafInfo
  cases e with
  | choose name strategy parts n start dur u =>
    simp only [VarsHold, compileNode, choose_placements] at hv ⊢
    rcases compileChoose_cases ctx path name strategy parts n start dur u with h | ⟨_, h⟩
    · simp [h, PR.none, indTerm]
    · obtain ⟨h0, h1, _, _⟩ := choose_rows (by rw [h]) hv
      simp only [h, indTerm, resolveTV, tvConst, if_true, true_and]
      -- a placement is reported only when `u · indicator ≠ 0`, and the indicator is binary
      have hone : u * σ ⟨path, .placed⟩ ≠ 0 → σ ⟨path, .placed⟩ = 1 := fun hne => by
        have : σ ⟨path, .placed⟩ ≠ 0 := fun h0 => hne (by simp [h0])
        omega
      refine ⟨h0, fun _ => by omega, ?_, fun pl hpl => ?_⟩
      · split
        · rename_i hne; simp [hone hne]
        · simpa using h0
      · split at hpl
        · rename_i hne
          obtain rfl := List.mem_singleton.mp hpl
          exact ⟨hone hne, rfl, rfl⟩
        · cases hpl
  | _ => cases he

theorem max_leaves {ctx : Ctx} {σ : Assign} {path : Path} {name : String} {cs : List Expr}
    (hcs : cs.all isLeafChoose = true) (hv : VarsHold ctx σ path (.max name cs)) :
    Children (LeafInfo ctx σ) path 0 cs :=
  (varsHold_hereditary ctx σ path _ hv).imp fun p c hc hv' =>
    leaf_info (List.all_eq_true.mp hcs c hc) hv'

theorem max_node_at_most_one {ctx : Ctx} {σ : Assign} {path : Path} {name : String} {cs : List Expr}
    (hcs : cs.all isLeafChoose = true)
    (hv : ∀ v ∈ (compileNode ctx path (.max name cs)).vars, Var.holds σ v = true)
    (hc : ∀ c ∈ (compileNode ctx path (.max name cs)).cons, Constr.holds σ c = true) :
    (populateNode ctx σ path (.max name cs)).placements.length ≤ 1 := by
  obtain ⟨_, h1, hsum, _⟩ := max_rows hv hc
  -- placements ≤ Σ placements of the children ≤ Σ indicators of the children = indicator ≤ 1
  have h2 := children_sum_le ctx σ path (f := fun s => (s.placements.length : Int))
    (g := fun o => indTerm σ o.pr) cs 0 ((max_leaves hcs hv).imp fun _ _ _ h => h.2.2.1)
  have h3 := sumBy_sublist_le (fun _ => (1 : Int)) (placements_sublist ctx σ path (.max name cs) rfl)
    fun _ _ => by omega
  rw [sumBy_flatMap] at h3
  simp only [sumBy_one, Expr.children] at h3
  rw [sumBy_map] at hsum
  omega

/-- A satisfied `Max` (indicator 1): its start / end variables enclose the chosen child. -/
theorem max_span {ctx : Ctx} {σ : Assign} {path : Path} {name : String} {cs : List Expr}
    (hcs : cs.all isLeafChoose = true)
    (hv : VarsHold ctx σ path (.max name cs)) (hc : ConsHold ctx σ path (.max name cs))
    (h1 : σ ⟨path, .maxInd⟩ = 1) :
    σ ⟨path, .maxStart⟩ ≤ σ ⟨path, .maxEnd⟩ ∧
    ∀ pl ∈ (populateNode ctx σ path (.max name cs)).placements,
      σ ⟨path, .maxStart⟩ ≤ pl.start ∧ pl.stop ≤ σ ⟨path, .maxEnd⟩ := by
  obtain ⟨_, _, hsum, hrows⟩ := max_rows hv hc
  obtain ⟨hS, hE⟩ := hrows h1
  rw [h1] at hsum
  have hl := max_leaves hcs hv
  have hinfo : ∀ r ∈ (compileList ctx path 0 cs).map (·.2.pr),
      0 ≤ indTerm σ r ∧ (r.util = true → tvConst r.start ≤ tvConst r.stop) :=
    List.forall_mem_map.mpr ((children_compileList ctx path
      (R := fun o => 0 ≤ indTerm σ o.pr ∧ (o.pr.util = true → tvConst o.pr.start ≤ tvConst o.pr.stop)) cs 0).mp
      (hl.imp fun _ _ _ h => ⟨h.1, h.2.1⟩))
  -- exactly one child has indicator 1: the weighted sums are its start and its end
  have pickS := sumBy_mul_pick (indTerm σ) (fun r => tvConst r.start) _ (fun r hr => (hinfo r hr).1) hsum
  have pickE := sumBy_mul_pick (indTerm σ) (fun r => tvConst r.stop) _ (fun r hr => (hinfo r hr).1) hsum
  constructor
  · obtain ⟨r, hr, hr1⟩ := exists_one_of_sum_one _ _ (fun r hr => (hinfo r hr).1) hsum
    have hru : r.util = true := by
      cases h : r.util
      · simp [indTerm, h] at hr1
      · rfl
    have := (hinfo r hr).2 hru
    have := pickS r hr hr1
    have := pickE r hr hr1
    omega
  · intro pl hpl
    obtain ⟨s, hs, hps⟩ := List.mem_flatMap.mp ((placements_sublist ctx σ path _ rfl).subset hpl)
    obtain ⟨x, hx, hxs⟩ := children_both ctx σ path (R := fun o s => ∀ pl ∈ s.placements,
      indTerm σ o.pr = 1 ∧ pl.start = tvConst o.pr.start ∧ pl.stop = tvConst o.pr.stop) cs 0
      (hl.imp fun _ _ _ h => h.2.2.2) s hs
    obtain ⟨hr1, hst, hen⟩ := hxs pl hps
    have := pickS _ (List.mem_map.mpr ⟨x, hx, rfl⟩) hr1
    have := pickE _ (List.mem_map.mpr ⟨x, hx, rfl⟩) hr1
    omega

theorem node_max_one (ctx : Ctx) (σ : Assign) :
    ∀ (e : Expr) (path : Path), buildErr e = none →
      (∀ v ∈ (compileNode ctx path e).vars, Var.holds σ v = true) →
      (∀ c ∈ (compileNode ctx path e).cons, Constr.holds σ c = true) →
      forallMax (fun p n cs => (populateNode ctx σ p (.max n cs)).placements.length ≤ 1) path e :=
  fun e path hb hv hc =>
    forallMax_of_hereditary
      (buildErr_hereditary.and ((varsHold_hereditary ctx σ).and (consHold_hereditary ctx σ)))
      (fun p name cs h => max_node_at_most_one (buildErr_max h.1).2 h.2.1 h.2.2)
      e path ⟨hb, hv, hc⟩

end ErdosVerif.Strl
