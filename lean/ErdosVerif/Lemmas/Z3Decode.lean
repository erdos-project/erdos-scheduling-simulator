/-
Reading a satisfying assignment back: a placed task has exactly the bit of one existing
worker set (`workers[model[placed_on_worker].as_long()]` cannot raise `KeyError`), its start
respects `now` and the release time, the worker can accommodate it, and its resource
bit-vectors have one of the allowed patterns of that worker.
-/
import ErdosVerif.Lemmas.Z3Sat
namespace ErdosVerif.Z3m

variable {I : Inst} {σ : Assign Var}

theorem toBits_zero (w : Nat) : toBits w 0 = zeros w := by
  induction w with
  | zero => rfl
  | succ w ih => simp [toBits, ih, zeros, List.replicate_succ]

/-- The values `(2 ** (n - 1)) >> i`, `i ≤ n`, are the worker keys and 0. -/
theorem pwVals_cases {v : Bits} (hv : v ∈ I.pwVals) :
    v = zeros I.nW ∨ ∃ k, k < I.nW ∧ v = toBits I.nW (2 ^ k) := by
  simp only [Inst.pwVals, List.mem_map, List.mem_range] at hv
  obtain ⟨i, hi, rfl⟩ := hv
  by_cases h0 : I.nW = 0
  · left
    simp [h0, toBits, zeros]
  · by_cases hin : i = I.nW
    · left
      have : 2 ^ (I.nW - 1) >>> i = 0 := by
        rw [Nat.shiftRight_eq_div_pow, hin]
        exact Nat.div_eq_of_lt (Nat.pow_lt_pow_right (by omega) (by omega))
      rw [this, toBits_zero]
    · right
      refine ⟨I.nW - 1 - i, by omega, ?_⟩
      rw [Nat.shiftRight_eq_div_pow, Nat.pow_div (by omega) (by omega)]

theorem workerOf_spec {t k : Nat} (h : I.workerOf σ t = some k) :
    k < I.nW ∧ fit I.nW (σ.v (.worker t)) = toBits I.nW (2 ^ k) :=
  ⟨List.mem_range.mp (List.mem_of_find?_eq_some h), by simpa using List.find?_some h⟩

theorem cResW_holds (I : Inst) (σ : Assign Var) (t w : Nat) : (∀ a ∈ I.cResW t w, a.eval σ = true) ↔
    if I.canBePlaced t w then
      ∀ r ∈ I.types t, fit I.nW (σ.v (.worker t)) = toBits I.nW (2 ^ w) →
        fit (I.size r) (σ.v (.res t r)) ∈ allowedLits (I.size r) ((I.worker w).avail r) (I.req t w r)
    else σ.b (.placed t) = true → fit I.nW (σ.v (.worker t)) ≠ toBits I.nW (2 ^ w) := by
  unfold Inst.cResW
  split <;> simp [-eval_imp, imp_holds, Inst.pwT, Inst.idxLit, Inst.resT, Inst.placedT]

/-- `TaskOptimizerVariables.__init__`: start bounds, the worker bit-vector is a key or 0 and
`is_placed` says which, and per worker either the allowed resource patterns or exclusion. -/
theorem cTask_holds (I : Inst) (σ : Assign Var) (t : Nat) : (∀ a ∈ I.cTask t, a.eval σ = true) ↔
    if I.hasRes t then
      (σ.i (.start t) ≥ (I.task t).release ∧ σ.i (.start t) ≥ I.now) ∧
      (fit I.nW (σ.v (.worker t)) ∈ I.pwVals ∧
        (σ.b (.placed t) = true ↔ fit I.nW (σ.v (.worker t)) ≠ zeros I.nW)) ∧
      ∀ w, w < I.nW → if I.canBePlaced t w then
          ∀ r ∈ I.types t, fit I.nW (σ.v (.worker t)) = toBits I.nW (2 ^ w) →
            fit (I.size r) (σ.v (.res t r)) ∈ allowedLits (I.size r) ((I.worker w).avail r) (I.req t w r)
        else σ.b (.placed t) = true → fit I.nW (σ.v (.worker t)) ≠ toBits I.nW (2 ^ w)
    else σ.b (.placed t) = false := by
  unfold Inst.cTask
  split
  · simp only [List.forall_mem_append, List.forall_mem_flatMap, List.mem_range, cResW_holds, Inst.cTiming,
      Inst.cPlacement, List.forall_mem_cons, List.not_mem_nil, false_imp_iff, implies_true, and_true]
    simp [-eval_iff, iff_holds, Inst.pwT, Inst.placedT, Inst.startT, and_assoc]
  · simp [Inst.placedT]

/-- What the assertions of `TaskOptimizerVariables.__init__` say of a task that a satisfying
assignment places. -/
structure PlacedOK (I : Inst) (σ : Assign Var) (t : Nat) : Prop where
  hasRes : I.hasRes t = true
  now_le : σ.i (.start t) ≥ I.now
  release_le : σ.i (.start t) ≥ (I.task t).release
  /-- `model[is_placed]` true ⇒ the value of `placed_on_worker` is the key of an existing worker. -/
  worker : ∃ k, k < I.nW ∧ I.workerOf σ t = some k
  canBePlaced : ∀ {k}, I.workerOf σ t = some k → I.canBePlaced t k = true
  allowed : ∀ {k}, I.workerOf σ t = some k → ∀ {r}, r ∈ I.types t →
    fit (I.size r) (σ.v (.res t r)) ∈ allowedLits (I.size r) ((I.worker k).avail r) (I.req t k r)

theorem placed_ok (h : sat σ (gen I)) {t : Nat} (ht : t < I.nT) (hpl : σ.b (.placed t) = true) :
    PlacedOK I σ t := by
  have hT := (cTask_holds I σ t).mp ((sat_iff.mp h).task t ht)
  cases hr : I.hasRes t with
  | false => simp [hr, hpl] at hT
  | true =>
    rw [if_pos hr] at hT
    obtain ⟨⟨h1, h2⟩, ⟨hv, hz⟩, hW⟩ := hT
    -- per worker `k` that `workerOf` can return: exclusion is ruled out, so the patterns are allowed
    have hk : ∀ {k}, I.workerOf σ t = some k → I.canBePlaced t k = true ∧ ∀ {r}, r ∈ I.types t →
        fit (I.size r) (σ.v (.res t r)) ∈ allowedLits (I.size r) ((I.worker k).avail r) (I.req t k r) := by
      intro k hk
      obtain ⟨hlt, hfit⟩ := workerOf_spec hk
      have hWk := hW k hlt
      cases hc : I.canBePlaced t k with
      | false => rw [hc] at hWk; exact absurd hfit (hWk hpl)
      | true => rw [hc] at hWk; exact ⟨rfl, fun hr => hWk _ hr hfit⟩
    refine ⟨hr, h2, h1, ?_, fun hw => (hk hw).1, fun hw => (hk hw).2⟩
    -- the worker bit-vector is not 0, so it is a key, and `workerOf` finds it
    rcases pwVals_cases hv with hzero | ⟨k, hk, hkv⟩
    · exact absurd hzero (hz.mp hpl)
    · obtain ⟨k', hk'⟩ := Option.isSome_iff_exists.mp
        (show (I.workerOf σ t).isSome by
          rw [Inst.workerOf, List.find?_isSome]; exact ⟨k, List.mem_range.mpr hk, by simp [hkv]⟩)
      exact ⟨k', (workerOf_spec hk').1, hk'⟩

theorem mem_decode {d : Decision} : d ∈ decode I σ ↔ ∃ t, t < I.nT ∧ d = I.decodeTask σ t := by
  simp only [decode, List.mem_map, List.mem_range, eq_comm]

theorem decodeTask_task (I : Inst) (σ : Assign Var) (t : Nat) : (I.decodeTask σ t).task = t := by
  unfold Inst.decodeTask; split <;> rfl

theorem decision_spec {t w : Nat} {time : Int} (hd : (⟨t, some (w, time)⟩ : Decision) ∈ decode I σ) :
    t < I.nT ∧ σ.b (.placed t) = true ∧ I.workerOf σ t = some w ∧ time = σ.i (.start t) := by
  obtain ⟨t', ht, hdt⟩ := mem_decode.mp hd
  obtain rfl : t = t' := by simpa [decodeTask_task] using congrArg Decision.task hdt
  cases hpl : σ.b (.placed t) with
  | false => simp [Inst.decodeTask, hpl] at hdt
  | true =>
    cases hw : I.workerOf σ t with
    | none => simp [Inst.decodeTask, hpl, hw] at hdt
    | some k =>
      simp [Inst.decodeTask, hpl, hw] at hdt
      exact ⟨ht, rfl, by rw [hdt.1], hdt.2⟩

theorem placed_mem_decode {t w : Nat} (ht : t < I.nT) (hpl : σ.b (.placed t) = true)
    (hw : I.workerOf σ t = some w) : (⟨t, some (w, σ.i (.start t))⟩ : Decision) ∈ decode I σ :=
  mem_decode.mpr ⟨t, ht, by simp [Inst.decodeTask, hpl, hw]⟩

end ErdosVerif.Z3m
