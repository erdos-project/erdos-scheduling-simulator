/-
Sum and key-enumeration facts for the TetriSched models: the row shapes the plain and the
batching model share, what `compatible` says of `qty`, and sums over
`Inst.keys t = {(w, k, s) | w < nW, k < nSlots, s < nS}` of terms that vanish everywhere except at
one key (`Ind`: the cell values are the indicator of a plan).  Sums over lists in general are in
`Lemmas/Isum.lean`.
-/
import ErdosVerif.Model.TetriSpec
import ErdosVerif.Lemmas.Isum
namespace ErdosVerif.Tetri
open ErdosVerif.Mip

/-- The placement rows of `TaskOptimizerVariables.__init__`: exactly one cell for a task that must
be placed, otherwise at most one, and `is_placed` counts it. -/
theorem placeRows_holds {V : Type} (σ : V → Int) (must : Bool) (n₁ n₂ n₃ : String) (S : LinExpr V) (p : V) :
    (∀ c ∈ (if must then [Constr.lin n₁ S .eq 1]
        else [.lin n₂ S .le 1, .lin n₃ (LinExpr.sub (LinExpr.ofVar p) S) .eq 0]), c.holds σ) ↔
      if must then S.eval σ = 1 else S.eval σ ≤ 1 ∧ σ p = S.eval σ := by
  cases must <;> simp [Constr.holds, Sense.holds]
  omega

/-- The rows of `_add_resource_constraints`: one per slot, worker and resource type that passes
the emission test `row`. -/
theorem resRows_holds {V : Type} (σ : V → Int) (nS nW : Nat) (types : Nat → List String)
    (row : Nat → Nat → String → Bool) (name : Nat → Nat → String → String)
    (E : Nat → Nat → String → LinExpr V) (cap : Nat → String → Int) :
    (∀ c ∈ (List.range nS).flatMap (fun k => (List.range nW).flatMap (fun w =>
        ((types w).filter (fun r => row w k r)).map (fun r => Constr.lin (name w k r) (E w k r) .le (cap w r)))),
      c.holds σ) ↔
    ∀ k, k < nS → ∀ w, w < nW → ∀ r ∈ types w, row w k r = true → (E w k r).eval σ ≤ cap w r := by
  simp only [List.forall_mem_flatMap, List.forall_mem_map, List.forall_mem_filter, List.mem_range,
    Constr.holds, Sense.holds]

/-- The test `cellOk` of both models (is the cell left to the optimiser?), read. -/
theorem cellOk_iff (c enf : Bool) (rel slot dl : Int) (rt : Nat) :
    (c && decide (rel ≤ slot) && !(enf && decide (slot + (rt : Nat) > dl))) = true ↔
      c = true ∧ rel ≤ slot ∧ (enf = true → slot + (rt : Nat) ≤ dl) := by
  cases c <;> cases enf <;> simp [Int.not_lt]

theorem isum_map_mul {α : Type} (l : List α) (c : Int) (f : α → Int) :
    isum (l.map (fun a => c * f a)) = c * isum (l.map f) := isum_map_mul_left l c f

theorem nsum_cast (l : List Nat) : ((nsum l : Nat) : Int) = isum (l.map (fun (n : Nat) => (n : Int))) := by
  induction l with
  | nil => rfl
  | cons x xs ih => simp [nsum, ih]

theorem nsum_map_le {α : Type} (l : List α) (f g : α → Nat) (h : ∀ a ∈ l, f a ≤ g a) :
    nsum (l.map f) ≤ nsum (l.map g) := by
  induction l with
  | nil => simp [nsum]
  | cons x xs ih =>
    have h1 := h x (by simp)
    have h2 := ih (fun a ha => h a (by simp [ha]))
    simp [nsum]; omega

theorem nsum_map_filter {α : Type} (l : List α) (P : α → Bool) (f : α → Nat) :
    nsum ((l.filter P).map f) = nsum (l.map (fun a => if P a then f a else 0)) := by
  induction l with
  | nil => rfl
  | cons x xs ih => by_cases hp : P x = true <;> simp [hp, ih, nsum]

theorem nsum_eq_zero {l : List Nat} (h : ∀ a ∈ l, a = 0) : nsum l = 0 := by
  induction l with
  | nil => rfl
  | cons x xs ih => simp [nsum, h x (by simp), ih (fun a ha => h a (by simp [ha]))]

theorem req_zero_of_compatible {w : WorkerI} {s : Strat} (hc : compatible w s = true) {r : String}
    (hq : qty w.res r = 0) : qty s.req r = 0 := by
  unfold qty
  apply nsum_eq_zero
  intro a ha
  obtain ⟨p, hp, rfl⟩ := List.mem_map.mp ha
  obtain ⟨hp1, hp2⟩ := List.mem_filter.mp hp
  have hr : p.1 = r := by simpa using hp2
  have := List.all_eq_true.mp hc p hp1
  simp only [decide_eq_true_eq] at this
  rw [hr, hq] at this
  omega

theorem qty_zero_of_not_types {w : WorkerI} {r : String} (h : r ∉ w.types) : qty w.res r = 0 := by
  unfold qty
  apply nsum_eq_zero
  intro a ha
  obtain ⟨p, hp, rfl⟩ := List.mem_map.mp ha
  obtain ⟨hp1, hp2⟩ := List.mem_filter.mp hp
  exact absurd (List.mem_eraseDups.mpr (List.mem_map.mpr ⟨p, hp1, by simpa using hp2⟩)) h

theorem mem_keys {I : Inst} {t : Nat} {q : Nat × Nat × Nat} :
    q ∈ I.keys t ↔ q.1 < I.nW ∧ q.2.1 < I.nSlots ∧ q.2.2 < (I.task t).nS := by
  obtain ⟨w, k, s⟩ := q
  simp only [Inst.keys, List.mem_flatMap, List.mem_map, List.mem_range, Prod.mk.injEq]
  constructor
  · rintro ⟨w', hw, k', hk, s', hs, rfl, rfl, rfl⟩
    exact ⟨hw, hk, hs⟩
  · rintro ⟨hw, hk, hs⟩
    exact ⟨w, hw, k, hk, s, hs, rfl, rfl, rfl⟩

def ksum (I : Inst) (t : Nat) (F : Nat × Nat × Nat → Int) : Int := isum ((I.keys t).map F)

theorem ksum_single (I : Inst) (t : Nat) (F : Nat × Nat × Nat → Int) (q0 : Nat × Nat × Nat)
    (hq : q0 ∈ I.keys t) (h : ∀ q ∈ I.keys t, q ≠ q0 → F q = 0) : ksum I t F = F q0 := by
  obtain ⟨w0, k0, s0⟩ := q0
  obtain ⟨hw, hk, hs⟩ := mem_keys.mp hq
  simp only at hw hk hs
  simp only [ksum, Inst.keys, isum_flatMap, List.map_map, Function.comp_def]
  -- one `isum_range_single` per coordinate
  rw [isum_range_single I.nW w0 _ hw]
  · rw [isum_range_single I.nSlots k0 _ hk]
    · rw [isum_range_single _ s0 _ hs]
      intro s hs' hne
      exact h (w0, k0, s) (mem_keys.mpr ⟨hw, hk, hs'⟩) (by simp [hne])
    · intro k hk' hne
      apply isum_range_zero
      intro s hs'
      exact h (w0, k, s) (mem_keys.mpr ⟨hw, hk', hs'⟩) (by simp [hne])
  · intro w hw' hne
    apply isum_range_zero
    intro k hk'
    apply isum_range_zero
    intro s hs'
    exact h (w, k, s) (mem_keys.mpr ⟨hw', hk', hs'⟩) (by simp [hne])

theorem ksum_zero (I : Inst) (t : Nat) (F : Nat × Nat × Nat → Int) (h : ∀ q ∈ I.keys t, F q = 0) :
    ksum I t F = 0 := isum_map_zero h

theorem ksum_congr (I : Inst) (t : Nat) (F G : Nat × Nat × Nat → Int) (h : ∀ q ∈ I.keys t, F q = G q) :
    ksum I t F = ksum I t G := isum_map_eq h

def cellVal (I : Inst) (σ : Var → Int) (t : Nat) (q : Nat × Nat × Nat) : Int :=
  (I.cellE t q.1 q.2.1 q.2.2).eval σ

theorem eval_sumCells (I : Inst) (σ : Var → Int) (t : Nat) :
    (I.sumCells t).eval σ = ksum I t (cellVal I σ t) := by
  simp only [Inst.sumCells, LinExpr.eval_sumL, List.map_map, Function.comp_def, ksum]
  rfl

theorem eval_sumCellsAt (I : Inst) (σ : Var → Int) (t k : Nat) :
    (I.sumCellsAt t k).eval σ = ksum I t (fun q => if q.2.1 == k then cellVal I σ t q else 0) := by
  simp only [Inst.sumCellsAt, LinExpr.eval_sumL, List.map_map, Function.comp_def]
  exact isum_filter _ (fun q => q.2.1 == k) (cellVal I σ t)

theorem eval_rewardSum (I : Inst) (σ : Var → Int) (t : Nat) :
    (I.rewardSum t).eval σ = ksum I t (fun q => I.rew q.2.1 * cellVal I σ t q) := by
  simp only [Inst.rewardSum, LinExpr.eval_sumL, List.map_map, Function.comp_def, ksum, LinExpr.eval_smul]
  rfl

theorem eval_demandE (I : Inst) (σ : Var → Int) (t w k : Nat) (r : String) :
    (I.demandE t w k r).eval σ =
      ksum I t (fun q => if (q.1 == w && I.covers t q.2.1 q.2.2 k) then (I.req t q.2.2 r : Nat) * cellVal I σ t q else 0) := by
  simp only [Inst.demandE, LinExpr.eval_sumL, List.map_map, Function.comp_def, LinExpr.eval_smul]
  exact isum_filter _ (fun q => q.1 == w && I.covers t q.2.1 q.2.2 k)
    (fun q => ((I.req t q.2.2 r : Nat) : Int) * cellVal I σ t q)

open ErdosVerif.TetriSpec

/-- The matrix entries of every task with variables are 1 at the plan's cell and 0 elsewhere. -/
def Ind (I : Inst) (σ : Var → Int) (plan : Plan) : Prop :=
  ∀ t ∈ I.act, (∀ q ∈ I.keys t, cellVal I σ t q = if plan.get t = some q then 1 else 0) ∧
    (∀ c, plan.get t = some c → c ∈ I.keys t)

variable {I : Inst} {σ : Var → Int} {plan : Plan}

/-- Any key sum of terms that vanish with the cell value collapses to the plan's cell. -/
theorem ksum_ind (hI : Ind I σ plan) {t : Nat} (ht : t ∈ I.act)
    (F : Nat × Nat × Nat → Int → Int) (hF : ∀ q, F q 0 = 0) :
    ksum I t (fun q => F q (cellVal I σ t q)) =
      match plan.get t with
      | some q0 => F q0 1
      | none => 0 := by
  obtain ⟨hv, hk⟩ := hI t ht
  cases hp : plan.get t with
  | none =>
    apply ksum_zero
    intro q hq
    simp [hv q hq, hp, hF]
  | some q0 =>
    have hk0 := hk q0 hp
    rw [ksum_single I t _ q0 hk0]
    · simp [hv q0 hk0, hp]
    · intro q hq hne
      simp [hv q hq, hp, Ne.symm hne, hF]

theorem sumCells_ind (hI : Ind I σ plan) {t : Nat} (ht : t ∈ I.act) :
    (I.sumCells t).eval σ = if (plan.get t).isSome then 1 else 0 := by
  rw [eval_sumCells, ksum_ind hI ht (fun _ v => v) (fun _ => rfl)]
  cases plan.get t <;> simp

theorem sumCellsAt_ind (hI : Ind I σ plan) {t : Nat} (ht : t ∈ I.act) (k : Nat) :
    (I.sumCellsAt t k).eval σ = match plan.get t with
      | some c => if c.2.1 = k then 1 else 0
      | none => 0 := by
  rw [eval_sumCellsAt, ksum_ind hI ht (fun q v => if q.2.1 == k then v else 0) (by intro q; simp)]
  cases plan.get t with
  | none => rfl
  | some q => by_cases hq : q.2.1 = k <;> simp [hq]

theorem rewardSum_ind (hI : Ind I σ plan) {t : Nat} (ht : t ∈ I.act) :
    (I.rewardSum t).eval σ = match plan.get t with
      | some c => I.rew c.2.1
      | none => 0 := by
  rw [eval_rewardSum, ksum_ind hI ht (fun q v => I.rew q.2.1 * v) (by intro q; simp)]
  cases plan.get t <;> simp

theorem demandE_ind (hI : Ind I σ plan) {t : Nat} (ht : t ∈ I.act) (w k : Nat) (r : String) :
    (I.demandE t w k r).eval σ = (demandAt I plan w k r t : Nat) := by
  rw [eval_demandE, ksum_ind hI ht
    (fun q v => if (q.1 == w && I.covers t q.2.1 q.2.2 k) then ((I.req t q.2.2 r : Nat) : Int) * v else 0)
    (by intro q; simp)]
  unfold demandAt
  cases plan.get t with
  | none => rfl
  | some c => simp only [Bool.and_eq_true, beq_iff_eq, Int.mul_one]; split <;> rfl

theorem resE_ind (hI : Ind I σ plan) (w k : Nat) (r : String) :
    (I.resE w k r).eval σ = (load I plan w k r : Nat) := by
  rw [Inst.resE, LinExpr.eval_sumL, load, nsum_cast, List.map_map, List.map_map]
  exact isum_map_eq (fun t ht => demandE_ind hI ht w k r)

end ErdosVerif.Tetri
