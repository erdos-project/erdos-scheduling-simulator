import Lean
import ErdosVerif.Model.Sim
import ErdosVerif.Lemmas.LedgerPool
import ErdosVerif.Lemmas.GraphInv
import ErdosVerif.Lemmas.Event
/-!
`mvcgen`, `split` and `simp` generate, on demand, congruence equations for the `match`
expressions of the program they work on (`f.match_N.congr_eq_K`, together with nested
helper declarations) and equations for sparse `casesOn` combinators (`….else_eq`), and add
them to the module in which the tactic happens to run first. Two modules that verify the
simulator model independently of each other (e.g. `Lemmas/SimInv.lean` and
`Lemmas/SimCensus.lean`) would then both define the same helper names and could not be
imported together (the registry audit imports all modules of a property at once).

This module generates these declarations once, for every matcher and sparse `casesOn` of
`Model/Sim.lean` and of the models it is built on (`Task`, `TaskGraph`, `Ledger`, `Heap`,
`Event`); it imports the lemma libraries over those models so that whatever they already
generated is reused. Every development over the simulator model imports it, directly or
through `Lemmas/SimHoare.lean`.
-/
open Lean Meta in
run_meta do
  let env ← getEnv
  let mods := [`ErdosVerif.Model.Sim, `ErdosVerif.Model.Task, `ErdosVerif.Model.TaskGraph, `ErdosVerif.Model.Ledger,
    `ErdosVerif.Model.Heap, `ErdosVerif.Model.Event]
  let idxs := mods.filterMap env.getModuleIdx?
  if idxs.length != mods.length then throwError "a model module is not imported"
  let names := env.constants.map₁.toList.filterMap fun (n, _) =>
    match env.getModuleIdxFor? n with
    | some i => if idxs.contains i then some n else none
    | none => none
  let names := names.toArray.qsort (fun a b => a.toString < b.toString)
  for n in names do
    if (← getMatcherInfo? n).isSome then
      discard <| Match.genMatchCongrEqns n
  for n in names do
    if (← getSparseCasesOnInfo n).isSome then
      discard <| getSparseCasesOnEq n
