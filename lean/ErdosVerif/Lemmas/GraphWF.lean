/-
The reachable-state invariant `Graph.WF` holds for every graph built through the
public constructors (`Graph()`, `add_node`, `add_child`, `Graph(nodes=…)`), and
the elementary getters (`get_sources`, sinks, `get_edges`, `is_source`) meet
their definitions.  `remove` (repaired, /repo ce9bde1) is treated in
`GraphRemove.lean`.
-/
import ErdosVerif.Lemmas.GraphBasic

namespace ErdosVerif.Model.Graph

theorem lookup_touch (d : Dict (List Nat)) (x u : Nat) :
    List.lookup u (touch d x) =
      match List.lookup u d with
      | some r => some r
      | none => if u = x then some [] else none := by
  unfold touch
  split
  · cases hu : List.lookup u d <;> grind
  · cases hu : List.lookup u d <;> simp [List.lookup_append, hu, Dict.lookup_cons]

theorem getD_lookup_touch (d : Dict (List Nat)) (x u : Nat) :
    (List.lookup u (touch d x)).getD [] = (List.lookup u d).getD [] := by
  rw [lookup_touch]
  cases List.lookup u d <;> simp <;> split <;> rfl

theorem isSome_lookup_touch (d : Dict (List Nat)) (x u : Nat) :
    (List.lookup u (touch d x)).isSome = ((List.lookup u d).isSome || decide (u = x)) := by
  rw [lookup_touch]
  cases List.lookup u d <;> simp <;> split <;> simp_all

theorem keys_touch (d : Dict (List Nat)) (x : Nat) :
    (touch d x).map Prod.fst =
      if (List.lookup x d).isSome then d.map Prod.fst else d.map Prod.fst ++ [x] := by
  unfold touch
  split <;> simp

theorem nodup_keys_touch {d : Dict (List Nat)} (h : (d.map Prod.fst).Nodup) (x : Nat) :
    ((touch d x).map Prod.fst).Nodup := by
  rw [keys_touch, ← Dict.keys_set d x []]
  exact Dict.nodup_keys_set h x []

theorem childrenOf_linkChild (g : Graph) (n c u : Nat) :
    (g.linkChild n c).childrenOf u = if u = n then g.childrenOf n ++ [c] else g.childrenOf u := by
  unfold childrenOf linkChild
  simp only [getD_lookup_touch, Dict.lookup_set]
  split <;> simp [childrenOf]

theorem parentsOf_linkChild (g : Graph) (n c v : Nat) :
    (g.linkChild n c).parentsOf v = if v = c then g.parentsOf c ++ [n] else g.parentsOf v := by
  unfold parentsOf linkChild
  simp only [Dict.lookup_set]
  split <;> simp_all [parentsOf]

theorem hasNode_linkChild (g : Graph) (n c u : Nat) (hn : g.hasNode n = true) :
    (g.linkChild n c).hasNode u = (g.hasNode u || decide (u = c)) := by
  unfold hasNode at hn ⊢
  unfold linkChild
  simp only [isSome_lookup_touch, Dict.lookup_set]
  split <;> simp_all

theorem wf_empty : Graph.empty.WF where
  nodupKeys := by simp [Graph.empty]
  closed := by intro u v h; simp [Edge, childrenOf, Graph.empty] at h
  parentsCount := by intro u v; simp [parentsOf, childrenOf, Graph.empty]

theorem wf_touch {g : Graph} (wf : g.WF) (n : Nat) : ({ g with children := touch g.children n } : Graph).WF := by
  have hch : ∀ u, ({ g with children := touch g.children n } : Graph).childrenOf u = g.childrenOf u :=
    fun u => getD_lookup_touch g.children n u
  refine ⟨nodup_keys_touch wf.nodupKeys n, fun u v h => ?_, fun u v => ?_⟩
  · have := wf.closed u v (by rwa [Edge, hch] at h)
    unfold hasNode at this ⊢
    simp [isSome_lookup_touch, this]
  · rw [hch]
    exact wf.parentsCount u v

theorem wf_linkChild {g : Graph} (wf : g.WF) {n : Nat} (hn : g.hasNode n = true) (c : Nat) :
    (g.linkChild n c).WF := by
  refine ⟨?_, ?_, ?_⟩
  · exact nodup_keys_touch (Dict.nodup_keys_set wf.nodupKeys _ _) c
  · intro u v h
    unfold Edge at h
    rw [childrenOf_linkChild g n c u] at h
    rw [hasNode_linkChild g n c v hn]
    by_cases hu : u = n
    · simp only [hu, if_true, List.mem_append, List.mem_singleton] at h
      rcases h with h | h
      · simp [wf.closed n v h]
      · simp [h]
    · simp only [hu, if_false] at h
      simp [wf.closed u v h]
  · intro u v
    rw [childrenOf_linkChild g n c u, parentsOf_linkChild]
    by_cases hv : v = c <;> by_cases hu : u = n <;>
      simp [hv, hu, Ne.symm, List.count_append, wf.parentsCount]

theorem wf_addChild {g g' : Graph} (wf : g.WF) {n c : Nat} (h : g.addChild n c = .ok g') : g'.WF := by
  unfold addChild at h
  split at h
  · rename_i hn
    cases h
    exact wf_linkChild wf hn c
  · cases h

theorem wf_addNode {g : Graph} (wf : g.WF) (n : Nat) (cs : List Nat) : (g.addNode n cs).WF := by
  -- every `linkChild n c` keeps the graph well formed and `n` a node
  refine (List.foldlRecOn (motive := fun g : Graph => g.WF ∧ g.hasNode n = true) cs _
    ⟨wf_touch wf n, ?_⟩ fun g ⟨wf, hn⟩ c _ =>
      ⟨wf_linkChild wf hn c, by rw [hasNode_linkChild g n c n hn]; simp [hn]⟩).1
  simp [hasNode, isSome_lookup_touch]

theorem wf_ofMapping (m : List (Nat × List Nat)) : (ofMapping m).WF :=
  List.foldlRecOn (motive := WF) m _ wf_empty fun _ wf p _ => wf_addNode wf p.1 p.2

/-- `get_sources()`: exactly the nodes without incoming edge, in dict order. -/
theorem sources_spec {g : Graph} (wf : g.WF) :
    g.getSources.Sublist g.getNodes ∧
      ∀ n, n ∈ g.getSources ↔ g.hasNode n = true ∧ ∀ u, ¬ g.Edge u n := by
  refine ⟨List.filter_sublist, fun n => ?_⟩
  rw [mem_getSources, List.eq_nil_iff_forall_not_mem]
  exact and_congr_right fun _ => forall_congr' fun u => not_congr wf.mem_parentsOf

/-- Sinks (what `TaskGraph.get_sink_tasks` filters): exactly the nodes without
outgoing edge, in dict order. -/
theorem sinks_spec (g : Graph) :
    g.getSinks.Sublist g.getNodes ∧
      ∀ n, n ∈ g.getSinks ↔ g.hasNode n = true ∧ ∀ v, ¬ g.Edge n v := by
  refine ⟨List.filter_sublist, fun n => ?_⟩
  simp [getSinks, Edge, hasNode_iff_mem_getNodes, List.eq_nil_iff_forall_not_mem]

theorem isSource_spec {g : Graph} {n : Nat} (hn : g.hasNode n = true) :
    g.isSource n = .ok (decide (n ∈ g.getSources)) := by
  cases h : g.parentsOf n <;> simp [isSource, hn, mem_getSources, h]

/-- `get_edges()`: a pair is listed iff it is an edge (multiplicity and order are not stated). -/
theorem mem_getEdges {g : Graph} (wf : g.WF) (u v : Nat) : (u, v) ∈ g.getEdges ↔ g.Edge u v := by
  unfold getEdges
  rw [List.mem_flatMap]
  constructor
  · rintro ⟨p, hp, hm⟩
    obtain ⟨k, cs⟩ := p
    simp only [List.mem_map, Prod.mk.injEq] at hm
    obtain ⟨c, hc, rfl, rfl⟩ := hm
    have := Dict.lookup_eq_some_of_mem wf.nodupKeys hp
    exact edge_iff_lookup.mpr ⟨cs, this, hc⟩
  · intro h
    obtain ⟨cs, hl, hv⟩ := edge_iff_lookup.mp h
    exact ⟨(u, cs), Dict.mem_of_lookup_eq_some hl, List.mem_map.mpr ⟨v, hv, rfl⟩⟩

end ErdosVerif.Model.Graph
