import ErdosVerif.Lemmas.LedgerPool
import ErdosVerif.Lemmas.LedgerRefusal
/-!
Availability only decreases under placements, hence the fit test is antitone
(`fitsSomewhere_antitone`, for `C13.fit_antitone`): placing more never makes a (non-batch) strategy fit.
Built on the ledger invariant lemmas (`Lemmas/Ledger*.lean`); core Lean only.
-/
namespace ErdosVerif.Model

theorem scan_sumMatching_le (k x : Res) (v : Vec) (n : Nat) :
    sumMatching x (Resources.scan k v n).1 ≤ sumMatching x v := by
  induction v generalizing n with
  | nil => simp [Resources.scan]
  | cons p rest ih =>
    obtain ⟨r, q⟩ := p
    simp only [Resources.scan]
    split
    · split
      · simp only [sumMatching]; split <;> omega
      · split
        · have := ih (n - q); simp only [sumMatching]; split <;> omega
        · have := ih (n - q); simp only [sumMatching]; split <;> omega
    · split
      · exact Nat.le_refl _
      · have := ih n; simp only [sumMatching]; omega

namespace Resources

theorem allocate_availQ_le (r : Resources) (k : Res) (c : Comp) (q : Nat) (x : Res) :
    (r.allocate k c q).1.availQ x ≤ r.availQ x := by
  unfold allocate
  split
  · exact Nat.le_refl _
  · exact scan_sumMatching_le k x r.avail q

theorem allocateEach_availQ_le (r : Resources) (c : Comp) (req : Vec) (x : Res) :
    (r.allocateEach c req).1.availQ x ≤ r.availQ x := by
  induction req generalizing r with
  | nil => exact Nat.le_refl _
  | cons p rest ih =>
    obtain ⟨k, q⟩ := p
    simp only [allocateEach]
    have h1 := allocate_availQ_le r k c q x
    cases hres : r.allocate k c q with
    | mk r' o =>
      rw [hres] at h1
      cases o with
      | ok => exact Nat.le_trans (ih r') h1
      | raised e => exact h1

theorem allocateMultiple_availQ_le (r : Resources) (req : Vec) (c : Comp) (h : r.Inv) (x : Res) :
    (r.allocateMultiple req c).1.availQ x ≤ r.availQ x := by
  by_cases hok : (r.allocateMultiple req c).2 = .ok
  · unfold allocateMultiple at hok ⊢
    split
    · have h1 := allocateEach_availQ_le { r with allocs := record r.allocs c [] } c req x
      cases hres : allocateEach { r with allocs := record r.allocs c [] } c req with
      | mk r' o =>
        rw [hres] at h1
        cases o with
        | ok => exact h1
        | raised e =>
          rename_i hc
          simp only [hc, if_true, hres] at hok
          exact absurd hok (by simp)
    · exact Nat.le_refl _
  · rw [allocateMultiple_refused r req c h hok]
    exact Nat.le_refl _

theorem checkAll_antitone (r' r : Resources) (hle : ∀ x, r'.availQ x ≤ r.availQ x) (req : Vec)
    (h : r'.checkAll req = true) : r.checkAll req = true := by
  induction req with
  | nil => rfl
  | cons p rest ih =>
    obtain ⟨k, q⟩ := p
    simp only [checkAll, Bool.and_eq_true, decide_eq_true_eq] at h ⊢
    exact ⟨Nat.le_trans h.1 (hle k), ih h.2⟩

end Resources

/-- Same length, related position by position: the shape of `Pool.Le` (on the workers) and of
`Greedy.ClusterLe` (on the pools). -/
def Pointwise {α} (R : α → α → Prop) (l' l : List α) : Prop :=
  l'.length = l.length ∧ ∀ (i : Nat) a' a, l'[i]? = some a' → l[i]? = some a → R a' a

namespace Pointwise
variable {α : Type} {R : α → α → Prop}

theorem refl (hR : ∀ a, R a a) (l : List α) : Pointwise R l l :=
  ⟨rfl, fun _ a' _ h1 h2 => Option.some.inj (h1.symm.trans h2) ▸ hR a'⟩

theorem trans (hR : ∀ {a b c}, R a b → R b c → R a c) {l₁ l₂ l₃ : List α}
    (h1 : Pointwise R l₁ l₂) (h2 : Pointwise R l₂ l₃) : Pointwise R l₁ l₃ := by
  refine ⟨h1.1.trans h2.1, fun i a c ha hc => ?_⟩
  have hi : i < l₂.length := h1.1 ▸ (List.getElem?_eq_some_iff.mp ha).1
  exact hR (h1.2 i a _ ha (List.getElem?_eq_getElem hi)) (h2.2 i _ c (List.getElem?_eq_getElem hi) hc)

theorem set (hR : ∀ a, R a a) {l : List α} {i : Nat} {a a' : α} (ha : l[i]? = some a)
    (hle : R a' a) : Pointwise R (l.set i a') l := by
  refine ⟨by simp, fun j x y hx hy => ?_⟩
  rw [List.getElem?_set] at hx
  split at hx
  · rename_i hij
    subst hij
    split at hx
    · exact Option.some.inj hx ▸ Option.some.inj (ha.symm.trans hy) ▸ hle
    · cases hx
  · exact Option.some.inj (hx.symm.trans hy) ▸ hR x

theorem any_mono {f : α → Bool} (hf : ∀ a' a, R a' a → f a' = true → f a = true) {l' l : List α}
    (h : Pointwise R l' l) (hany : l'.any f = true) : l.any f = true := by
  obtain ⟨a', ha', hfa⟩ := List.any_eq_true.mp hany
  obtain ⟨i, hi, rfl⟩ := List.getElem_of_mem ha'
  have hi2 : i < l.length := h.1 ▸ hi
  exact List.any_eq_true.mpr ⟨l[i], List.getElem_mem hi2,
    hf _ _ (h.2 i _ _ (List.getElem?_eq_getElem hi) (List.getElem?_eq_getElem hi2)) hfa⟩

end Pointwise

def Worker.Le (w' w : Worker) : Prop := ∀ x, w'.res.availQ x ≤ w.res.availQ x

theorem Worker.le_refl (w : Worker) : Worker.Le w w := fun _ => Nat.le_refl _

theorem Worker.le_trans {a b c : Worker} (h1 : Worker.Le a b) (h2 : Worker.Le b c) : Worker.Le a c :=
  fun x => Nat.le_trans (h1 x) (h2 x)

theorem Worker.placeTask_le (w : Worker) (t : Nat) (s : Strategy) (h : w.res.Inv) :
    Worker.Le (w.placeTask t s).1 w := by
  intro x
  have hr := fun c => Resources.allocateMultiple_availQ_le w.res s.req c h x
  rcases Worker.placeTask_cases w t s with ⟨e, _⟩ | ⟨c, r, _, hres, e⟩ | ⟨_, r, hres, e⟩ | ⟨_, _, r, hres, e⟩ | ⟨_, _, _, e⟩ <;>
    rw [e]
  iterate 4 first | exact Nat.le_refl _ | exact (show (w.res.allocateMultiple s.req _).1 = r by rw [hres]) ▸ hr _
  exact Nat.le_refl _

/-- A non-batch strategy that fits after more has been placed fitted before. -/
theorem Worker.canAccommodate_antitone {w' w : Worker} (hle : Worker.Le w' w) (s : Strategy)
    (hb : s.isBatch = false) (h : w'.canAccommodate s = true) : w.canAccommodate s = true := by
  simp only [Worker.canAccommodate, hb, Bool.false_and, Bool.or_false, Resources.fits] at h ⊢
  exact Resources.checkAll_antitone w'.res w.res hle s.req h

def Pool.Le (p' p : Pool) : Prop :=
  p'.workers.length = p.workers.length ∧
  ∀ (i : Nat) w' w, p'.workers[i]? = some w' → p.workers[i]? = some w → Worker.Le w' w

theorem Pool.le_refl (p : Pool) : Pool.Le p p := Pointwise.refl Worker.le_refl _

theorem Pool.le_trans {a b c : Pool} (h1 : Pool.Le a b) (h2 : Pool.Le b c) : Pool.Le a c :=
  Pointwise.trans (R := Worker.Le) Worker.le_trans h1 h2

theorem Pool.setWorker_le (p : Pool) (i : Nat) (w w' : Worker) (pl : AList Nat Nat)
    (hw : p.workers[i]? = some w) (hle : Worker.Le w' w) :
    Pool.Le ({ (p.setWorker i w') with placed := pl }) p :=
  Pointwise.set Worker.le_refl hw hle

theorem Pool.placeTask_le (p : Pool) (t : Nat) (strats : List Strategy) (s? : Option Strategy)
    (wid? : Option Nat) (h : p.Inv) : Pool.Le (p.placeTask t strats s? wid?).1 p := by
  rcases Pool.placeTask_cases p t strats s? wid? with ⟨e, _⟩ | ⟨i, w, s, hw, _, _, ⟨_, e⟩ | ⟨_, _, e⟩⟩ <;> rw [e]
  · exact Pool.le_refl p
  all_goals exact Pool.setWorker_le p i w _ _ hw (Worker.placeTask_le w t s (Pool.inv_getElem p i w h hw))

theorem Pool.canAccommodate_antitone {p' p : Pool} (hle : Pool.Le p' p) (s : Strategy)
    (hb : s.isBatch = false) (h : p'.canAccommodate s = true) : p.canAccommodate s = true :=
  Pointwise.any_mono (R := Worker.Le) (fun _ _ hw => Worker.canAccommodate_antitone hw s hb) hle h

namespace Greedy

def ClusterLe (V' V : List Pool) : Prop :=
  V'.length = V.length ∧ ∀ (i : Nat) p' p, V'[i]? = some p' → V[i]? = some p → Pool.Le p' p

theorem ClusterLe.refl (V : List Pool) : ClusterLe V V := Pointwise.refl Pool.le_refl V

theorem ClusterLe.trans {A B C : List Pool} (h1 : ClusterLe A B) (h2 : ClusterLe B C) : ClusterLe A C :=
  Pointwise.trans (R := Pool.Le) Pool.le_trans h1 h2

theorem ClusterLe.set (V : List Pool) (i : Nat) (p p' : Pool) (hp : V[i]? = some p) (hle : Pool.Le p' p) :
    ClusterLe (V.set i p') V :=
  Pointwise.set Pool.le_refl hp hle

def fitsSomewhere (V : List Pool) (s : Strategy) : Bool := V.any (·.canAccommodate s)

theorem fitsSomewhere_antitone {V' V : List Pool} (hle : ClusterLe V' V) (s : Strategy)
    (hb : s.isBatch = false) (h : fitsSomewhere V' s = true) : fitsSomewhere V s = true :=
  Pointwise.any_mono (R := Pool.Le) (fun _ _ hp => Pool.canAccommodate_antitone hp s hb) hle h

def ClusterInv (V : List Pool) : Prop := ∀ p ∈ V, p.Inv

theorem ClusterInv.set (V : List Pool) (i : Nat) (p : Pool) (h : ClusterInv V) (hp : p.Inv) :
    ClusterInv (V.set i p) := by
  intro x hx
  rcases List.mem_or_eq_of_mem_set hx with hx | hx
  · exact h x hx
  · subst hx; exact hp

end Greedy
end ErdosVerif.Model
