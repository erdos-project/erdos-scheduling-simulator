/-
Specification of `breadth_first` of the graph model M3 on simple DAGs.

Both branches of the generator run the same loop (`bfsLoop`) with a parent filter
that never raises: a child is appended to the frontier once all of its parents
*that pass the filter* are visited.  The loop is analysed once, relative to a set
`S` of nodes that is closed under edges and is what the filter decides
(`BfsOn`, `bfsLoop_spec`): it raises nothing (in particular the fuel suffices and
the cycle guard never fires), yields exactly `S`, each node once, and every node
after all of its parents in `S`.

`breadth_first()` is the instance `S` = all nodes (this file);
`breadth_first(node)` is the instance `S` = the nodes reachable from `node`
(`GraphBfsNode.lean`).
-/
import ErdosVerif.Lemmas.GraphTopo

namespace ErdosVerif.Model.Graph

theorem bfsFuel_gt_size (g : Graph) : g.size + 1 < bfsFuel g := by
  unfold bfsFuel
  exact Nat.lt_pow_self (by omega)

/-- In a DAG no non-empty set of nodes is closed under taking some predecessor: follow the
predecessors down a topological order. -/
theorem no_backward_closed_set {g : Graph} (wf : g.WF) (hac : g.Acyclic) (S : Nat → Prop)
    (hpred : ∀ x, S x → ∃ p, g.Edge p x ∧ S p) (x₀ : Nat) (h₀ : S x₀) : False := by
  obtain ⟨l, -, -, hfwd⟩ := topo_of_acyclic wf hac
  have : ∀ n x, l.idxOf x = n → S x → False := by
    intro n
    induction n using Nat.strongRecOn with
    | _ n ih =>
      intro x hx hS
      obtain ⟨p, hep, hSp⟩ := hpred x hS
      exact ih _ (hx ▸ hfwd p x hep) p rfl hSp
  exact this _ x₀ rfl h₀

/-- `all(parent in visited for parent in parents if f parent)`. -/
def readyBy (g : Graph) (f : Nat → Bool) (visited : List Nat) (c : Nat) : Bool :=
  (g.parentsOf c).all (fun p => !f p || visited.contains p)

theorem readyBy_iff {g : Graph} {f : Nat → Bool} {visited : List Nat} {c : Nat} :
    readyBy g f visited c = true ↔ ∀ p ∈ g.parentsOf c, f p = true → p ∈ visited := by
  simp only [readyBy, List.all_eq_true, Bool.or_eq_true, Bool.not_eq_true', List.contains_iff_mem]
  exact forall₂_congr fun p _ => by cases f p <;> simp

theorem allParentsVisited_ok (f : Nat → Bool) (visited ps : List Nat) :
    allParentsVisited (fun p => .ok (f p)) visited ps
      = .ok (ps.all (fun p => !f p || visited.contains p)) := by
  induction ps with
  | nil => rfl
  | cons p ps ih =>
    simp only [allParentsVisited, List.all_cons, ih]
    cases f p <;> cases visited.contains p <;> simp

theorem bfsChildren_ok (g : Graph) (f : Nat → Bool) (guard : Bool) (visited cs frontier : List Nat)
    (hcs : ∀ c ∈ cs, g.hasNode c = true)
    (hg : ∀ c ∈ cs, readyBy g f visited c = true → visited.contains c = false) :
    bfsChildren g (fun p => .ok (f p)) guard visited cs frontier
      = .ok (frontier ++ cs.filter (readyBy g f visited)) := by
  induction cs generalizing frontier with
  | nil => simp [bfsChildren]
  | cons c cs ih =>
    have hap : allParentsVisited (fun p => .ok (f p)) visited (g.parentsOf c)
        = .ok (readyBy g f visited c) := allParentsVisited_ok f visited _
    have ih := fun fr => ih fr (fun c h => hcs c (by simp [h])) (fun c h => hg c (by simp [h]))
    have hgc := hg c (by simp)
    simp only [bfsChildren, hcs c (by simp), if_true, hap, List.filter_cons]
    cases hr : readyBy g f visited c with
    | true =>
      have hv : c ∉ visited := by simpa using hgc hr
      simp [hv, ih]
    | false => simp [ih]

/-- Loop invariant of `breadth_first` relative to `S` (`visited` is `acc.reverse`). -/
structure BfsOn (g : Graph) (S : Nat → Prop) (frontier acc : List Nat) : Prop where
  nodup : (acc ++ frontier).Nodup
  front : ∀ x, x ∈ frontier ↔ x ∉ acc ∧ S x ∧ ∀ p ∈ g.parentsOf x, S p → p ∈ acc
  done : ∀ x ∈ acc, S x ∧ ∀ p ∈ g.parentsOf x, S p → Before acc p x

section
variable {g : Graph} {S : Nat → Prop} {f : Nat → Bool}

theorem BfsOn.parent_mem_acc {frontier acc : List Nat} (inv : BfsOn g S frontier acc) {x p : Nat}
    (hx : x ∈ acc ++ frontier) (hp : p ∈ g.parentsOf x) (hS : S p) : p ∈ acc := by
  rcases List.mem_append.mp hx with hx | hx
  · exact ((inv.done x hx).2 p hp hS).mem_left
  · exact ((inv.front x).mp hx).2.2 p hp hS

theorem BfsOn.child_fresh (wf : g.WF) {cur c : Nat} {rest acc : List Nat}
    (inv : BfsOn g S (cur :: rest) acc) (he : g.Edge cur c) : c ∉ acc ++ cur :: rest := by
  have hcur := (inv.front cur).mp (by simp)
  exact fun hc => hcur.1 (inv.parent_mem_acc hc (wf.mem_parentsOf.mpr he) hcur.2.1)

theorem BfsOn.length_le (hSn : ∀ x, S x → g.hasNode x = true) {frontier acc : List Nat}
    (inv : BfsOn g S frontier acc) : acc.length ≤ g.size :=
  length_le_size_of_nodup_nodes (List.nodup_append.mp inv.nodup).1 (fun x hx => hSn x (inv.done x hx).1)

theorem BfsOn.step (wf : g.WF) (hs : g.Simple) (hSc : ∀ u v, S u → g.Edge u v → S v)
    (hf : ∀ p c, g.Edge p c → (f p = true ↔ S p)) {cur : Nat} {rest acc : List Nat}
    (inv : BfsOn g S (cur :: rest) acc) :
    BfsOn g S (rest ++ (g.childrenOf cur).filter (readyBy g f (cur :: acc.reverse)))
      (acc ++ [cur]) := by
  obtain ⟨hcur_acc, hcur_S, hcur_par⟩ := (inv.front cur).mp (by simp)
  have hcur_rest : cur ∉ rest :=
    (List.nodup_cons.mp (List.nodup_append.mp inv.nodup).2.1).1
  have hready : ∀ c, readyBy g f (cur :: acc.reverse) c = true ↔
      ∀ p ∈ g.parentsOf c, S p → p ∈ acc ∨ p = cur := by
    intro c
    rw [readyBy_iff]
    refine forall₂_congr fun p hp => ?_
    rw [hf p c (wf.mem_parentsOf.mp hp)]
    simp [or_comm]
  have hfresh := fun c (he : g.Edge cur c) => inv.child_fresh wf he
  refine ⟨?_, ?_, ?_⟩
  · -- the new frontier entries are distinct (no parallel edges) and fresh
    rw [List.append_assoc, List.singleton_append, ← List.cons_append, ← List.append_assoc,
      List.nodup_append]
    refine ⟨inv.nodup, (hs cur).sublist List.filter_sublist, ?_⟩
    rintro a ha _ hb rfl
    exact hfresh a (List.mem_filter.mp hb).1 ha
  · intro x
    constructor
    · intro hx
      rcases List.mem_append.mp hx with hx | hx
      · obtain ⟨h1, h2, h3⟩ := (inv.front x).mp (List.mem_cons_of_mem _ hx)
        have : x ≠ cur := fun e => hcur_rest (e ▸ hx)
        exact ⟨by simp [h1, this], h2, fun p hp hS => List.mem_append_left _ (h3 p hp hS)⟩
      · obtain ⟨he, hr⟩ := List.mem_filter.mp hx
        have := hfresh x he
        refine ⟨by simp_all, hSc _ _ hcur_S he, fun p hp hS => ?_⟩
        simpa using (hready x).mp hr p hp hS
    · rintro ⟨hx_acc, hx_S, hx_par⟩
      have hx_par' : ∀ p ∈ g.parentsOf x, S p → p ∈ acc ∨ p = cur :=
        fun p hp hS => by simpa using hx_par p hp hS
      by_cases hcp : cur ∈ g.parentsOf x
      · exact List.mem_append_right _
          (List.mem_filter.mpr ⟨wf.mem_parentsOf.mp hcp, (hready x).mpr hx_par'⟩)
      · have : x ∈ cur :: rest := (inv.front x).mpr ⟨by simp_all, hx_S, fun p hp hS =>
          (hx_par' p hp hS).resolve_right (fun e => hcp (e ▸ hp))⟩
        simp_all
  · intro x hx
    rcases List.mem_append.mp hx with hx | hx
    · obtain ⟨h1, h2⟩ := inv.done x hx
      exact ⟨h1, fun p hp hS => (h2 p hp hS).append_right hx _⟩
    · obtain rfl : x = cur := by simpa using hx
      exact ⟨hcur_S, fun p hp hS => Before.of_mem_of_not_mem (hcur_par p hp hS) hcur_acc _⟩

theorem bfsLoop_on (wf : g.WF) (hs : g.Simple) (hSn : ∀ x, S x → g.hasNode x = true)
    (hSc : ∀ u v, S u → g.Edge u v → S v) (hf : ∀ p c, g.Edge p c → (f p = true ↔ S p))
    (guard : Bool) :
    ∀ (fuel : Nat) (frontier acc : List Nat), BfsOn g S frontier acc →
      g.size < fuel + acc.length →
      ∃ out, bfsLoop g (fun p => .ok (f p)) guard fuel frontier acc.reverse acc = (out, none) ∧
        BfsOn g S [] out := by
  intro fuel
  induction fuel with
  | zero =>
    intro frontier acc inv hfuel
    have := inv.length_le hSn
    omega
  | succ fuel ih =>
    intro frontier acc inv hfuel
    cases frontier with
    | nil => exact ⟨acc, by simp [bfsLoop], inv⟩
    | cons cur rest =>
      obtain ⟨cs, hcs⟩ := hasNode_iff_lookup.mp (hSn cur ((inv.front cur).mp (by simp)).2.1)
      have hco : g.childrenOf cur = cs := childrenOf_of_lookup hcs
      have hedge : ∀ c ∈ cs, g.Edge cur c := fun c hc => by unfold Edge; rwa [hco]
      obtain ⟨out, hout, hinv⟩ := ih _ (acc ++ [cur]) (inv.step wf hs hSc hf)
        (by simp only [List.length_append, List.length_singleton]; omega)
      refine ⟨out, ?_, hinv⟩
      -- the cycle guard never fires: a child of `cur` is neither `cur` nor yielded yet
      have hguard : ∀ c ∈ cs, readyBy g f (cur :: acc.reverse) c = true →
          (cur :: acc.reverse).contains c = false := fun c hc _ => by
        have := inv.child_fresh wf (hedge c hc)
        simp at this ⊢
        exact ⟨this.2.1, this.1⟩
      simp only [bfsLoop, hcs,
        bfsChildren_ok g f guard _ cs rest (fun c hc => wf.closed cur c (hedge c hc)) hguard]
      simpa [hco] using hout

/-- With an empty frontier all of `S` has been yielded: otherwise the unyielded members of
`S` would each have an unyielded parent in `S`. -/
theorem BfsOn.complete (wf : g.WF) (hac : g.Acyclic)
    {out : List Nat} (inv : BfsOn g S [] out) (x : Nat) (hx : S x) : x ∈ out := by
  apply Classical.byContradiction
  intro hxo
  refine no_backward_closed_set wf hac (fun y => S y ∧ y ∉ out) ?_ x ⟨hx, hxo⟩
  rintro y ⟨hy, hyo⟩
  apply Classical.byContradiction
  intro hno
  refine List.not_mem_nil ((inv.front y).mpr ⟨hyo, hy, fun p hp hS => ?_⟩)
  exact Classical.byContradiction fun hpo => hno ⟨p, wf.mem_parentsOf.mp hp, hS, hpo⟩

theorem bfsLoop_spec (wf : g.WF) (hac : g.Acyclic) (hs : g.Simple)
    (hSn : ∀ x, S x → g.hasNode x = true) (hSc : ∀ u v, S u → g.Edge u v → S v)
    (hf : ∀ p c, g.Edge p c → (f p = true ↔ S p)) (guard : Bool) {frontier : List Nat}
    (h0 : BfsOn g S frontier []) :
    ∃ out, bfsLoop g (fun p => .ok (f p)) guard (bfsFuel g) frontier [] [] = (out, none) ∧
      out.Nodup ∧ (∀ m, m ∈ out ↔ S m) ∧ ∀ u v, g.Edge u v → S u → Before out u v := by
  obtain ⟨out, hout, inv⟩ := bfsLoop_on wf hs hSn hSc hf guard (bfsFuel g) frontier [] h0
    (by have := bfsFuel_gt_size g; simp; omega)
  have hall := inv.complete wf hac
  refine ⟨out, hout, by simpa using inv.nodup, fun m => ⟨fun h => (inv.done m h).1, hall m⟩, ?_⟩
  intro u v he hu
  exact (inv.done v (hall v (hSc u v hu he))).2 u (wf.mem_parentsOf.mpr he) hu

end

/-- Loop invariant of `breadth_first(None)` (`visited` is `acc.reverse`). -/
structure BfsInv (g : Graph) (frontier acc : List Nat) : Prop where
  nodup : (acc ++ frontier).Nodup
  front : ∀ x, x ∈ frontier ↔
    x ∉ acc ∧ g.hasNode x = true ∧ ∀ p ∈ g.parentsOf x, p ∈ acc
  done : ∀ x ∈ acc, g.hasNode x = true ∧ ∀ p ∈ g.parentsOf x, Before acc p x

/-- `BfsInv` is `BfsOn` for the set of all nodes: every parent is a node. -/
theorem bfsInv_iff {g : Graph} (wf : g.WF) {frontier acc : List Nat} :
    BfsInv g frontier acc ↔ BfsOn g (fun x => g.hasNode x = true) frontier acc := by
  have hp : ∀ {x p}, p ∈ g.parentsOf x → g.hasNode p = true :=
    fun hp => (wf.mem_parentsOf.mp hp).left_hasNode
  constructor
  · intro h
    exact ⟨h.nodup, fun x => by simp only [h.front]; grind, fun x hx => by have := h.done x hx; grind⟩
  · intro h
    exact ⟨h.nodup, fun x => by simp only [h.front]; grind, fun x hx => by have := h.done x hx; grind⟩

theorem BfsInv.init {g : Graph} (wf : g.WF) : BfsInv g g.getSources [] where
  nodup := by rw [List.nil_append]; exact wf.nodupKeys.sublist List.filter_sublist
  front := fun x => by simp [mem_getSources, List.eq_nil_iff_forall_not_mem]
  done := by simp

theorem BfsInv.complete {g : Graph} (wf : g.WF) (hac : g.Acyclic) {out : List Nat}
    (inv : BfsInv g [] out) (x : Nat) (hx : g.hasNode x = true) : x ∈ out :=
  ((bfsInv_iff wf).mp inv).complete wf hac x hx

/-- `breadth_first()` on a well-formed simple DAG: no exception (the fuel
suffices), every node exactly once, every node after all of its parents. -/
theorem bfs_spec {g : Graph} (wf : g.WF) (hac : g.Acyclic) (hs : g.Simple) :
    (g.breadthFirst none).2 = none ∧
    (g.breadthFirst none).1.Perm g.getNodes ∧
    ∀ u v, g.Edge u v → Before (g.breadthFirst none).1 u v := by
  obtain ⟨out, hout, hnd, hmem, hbefore⟩ :=
    bfsLoop_spec (f := fun _ => true) wf hac hs (fun _ h => h) (fun u v _ => wf.closed u v)
      (fun p c he => by simp [he.left_hasNode]) false ((bfsInv_iff wf).mp (BfsInv.init wf))
  have hbf : g.breadthFirst none = (out, none) := hout
  rw [hbf]
  exact ⟨rfl, (List.perm_ext_iff_of_nodup hnd wf.nodupKeys).mpr fun a =>
    (hmem a).trans (hasNode_iff_mem_getNodes g a), fun u v he => hbefore u v he he.left_hasNode⟩

end ErdosVerif.Model.Graph
