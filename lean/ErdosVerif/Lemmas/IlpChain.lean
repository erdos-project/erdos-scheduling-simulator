/-
Transitive precedence: along a chain of parent→child edges between tasks with variables,
every feasible point orders the chain's ends (used to show that ancestor/descendant pairs,
whose `Overlap` variable the code fixes to 0, indeed never occupy the same instant).
-/
import ErdosVerif.Props.C11_Ilp
namespace ErdosVerif.Ilp
open ErdosVerif.Mip

/-- `b` is reachable from `a` through parent→child edges between tasks with variables. -/
inductive Linked (I : Inst) : Nat → Nat → Prop
  | edge {p c : Nat} : c < I.nT → p ∈ I.parentVars c → Linked I p c
  | step {a b c : Nat} : Linked I a b → c < I.nT → b ∈ I.parentVars c → Linked I a c

theorem Linked.lt_right {I : Inst} {a b : Nat} (h : Linked I a b) : b < I.nT := by
  cases h <;> assumption

theorem Linked.lt_left {I : Inst} {a b : Nat} (h : Linked I a b) : a < I.nT := by
  induction h with
  | edge _ hp => exact (mem_parentVars.mp hp).1
  | step _ _ _ ih => exact ih

theorem Linked.has_parent {I : Inst} {a b : Nat} (h : Linked I a b) : I.parentVars b ≠ [] := by
  cases h with
  | edge _ hp => exact List.ne_nil_of_mem hp
  | step _ _ hp => exact List.ne_nil_of_mem hp

theorem Linked.trans {I : Inst} {a b c : Nat} (h1 : Linked I a b) (h2 : Linked I b c) : Linked I a c := by
  induction h2 with
  | edge hc hp => exact Linked.step h1 hc hp
  | step _ hc hp ih => exact Linked.step ih hc hp

/-- A linked descendant is not RUNNING (RUNNING tasks have no parent with variables). -/
theorem Linked.nonrunning {I : Inst} (hwr : I.wfRunning = true) {a b : Nat} (h : Linked I a b) :
    I.running b = false := by
  cases hr : I.running b with
  | false => rfl
  | true => exact absurd (wfRunning_compat hwr h.lt_right hr).2 h.has_parent

/-- **Transitive C11.** If the descendant end of a chain is placed, so is the ancestor end,
and the descendant starts after the ancestor's start + selected runtime + 1. -/
theorem linked_ordered {I : Inst} {σ : Var → Int} (h : sat σ (gen I)) (hwr : I.wfRunning = true)
    (hwp : I.wfParents = true) {a b : Nat} (hl : Linked I a b) (hpb : 1 ≤ psum I σ b) :
    psum I σ a = 1 ∧ ∀ w s, w < I.nW → s < (I.task a).nS → xval I σ a w s = 1 →
      sval I σ a + I.runtime a s + 1 ≤ σ (.start b) := by
  induction hl with
  | @edge c hc hp =>
    have hr : I.running c = false := (Linked.edge hc hp).nonrunning hwr
    exact ⟨C11_Ilp.child_placed_parents_placed h hwr hwp hc hr hp hpb,
      fun w s hw hs hx => C11_Ilp.start_after_parent h hc hr hp hw hs hx⟩
  | @step b c hab hc hp ih =>
    have hr : I.running c = false := (Linked.step hab hc hp).nonrunning hwr
    have hb1 := C11_Ilp.child_placed_parents_placed h hwr hwp hc hr hp hpb
    have hrb : I.running b = false := hab.nonrunning hwr
    obtain ⟨ha1, hord⟩ := ih (by omega)
    obtain ⟨wb, sb, hwb, hsb, hxb⟩ := exists_pair_of_placed h hab.lt_right (by omega)
    have hcb := C11_Ilp.start_after_parent h hc hr hp hwb hsb hxb
    rw [sval_var hrb] at hcb
    refine ⟨ha1, fun w s hw hs hx => ?_⟩
    have := hord w s hw hs hx
    have := runtime_nonneg I b sb
    omega

theorem descIn_sound {I : Inst} : ∀ (k a b : Nat), b ∈ I.descIn k a → Linked I a b := by
  intro k
  induction k with
  | zero => intro a b h; simp [Inst.descIn] at h
  | succ k ih =>
    intro a b h
    simp only [Inst.descIn, List.mem_append, List.mem_flatMap, List.mem_filter, List.mem_range] at h
    rcases h with ⟨hb, hc⟩ | ⟨c, ⟨hc, hac⟩, hcb⟩
    · exact Linked.edge hb (by simpa using hc)
    · have h1 : Linked I a c := Linked.edge hc (by simpa using hac)
      exact h1.trans (ih c b hcb)

theorem wfChains_spec {I : Inst} (h : I.wfChains = true) {a b : Nat} (ha : a < I.nT) (hb : b < I.nT)
    (hd : I.dependent a b = true) : Linked I a b ∨ Linked I b a := by
  simp only [Inst.wfChains, List.all_eq_true, List.mem_range] at h
  have := h a ha b hb
  simp [hd] at this
  rcases this with h1 | h2
  · exact Or.inl (descIn_sound _ _ _ (by simpa using h1))
  · exact Or.inr (descIn_sound _ _ _ (by simpa using h2))

end ErdosVerif.Ilp
