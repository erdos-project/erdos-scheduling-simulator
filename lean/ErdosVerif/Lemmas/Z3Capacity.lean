/-
C10, joint feasibility for the Z3 scheduler: in every satisfying assignment, at every instant
τ and for every resource entry of every worker, the demands (fastest compatible strategy) of
the placed offered tasks occupying the worker at τ (half-open `[start, start + remaining)`) sum
to at most the entry's *available* quantity.

Unrelated tasks that overlap on a worker must have complementary bit patterns (so there are at
most two of them and their demands add up to the available quantity); related tasks are
separated in time by the precedence rows.
-/
import ErdosVerif.Lemmas.Z3Bits
import ErdosVerif.Lemmas.Z3Chain
import ErdosVerif.Lemmas.Z3Decode
import ErdosVerif.Lemmas.Isum
import ErdosVerif.Lemmas.MinLoop
namespace ErdosVerif.Z3m

theorem mem_pairs {I : Inst} {i j : Nat} :
    (i, j) ∈ I.pairs ↔ i < j ∧ j < I.nT ∧ I.hasRes i = true ∧ I.hasRes j = true ∧ I.dependent i j = false := by
  simp only [Inst.pairs, List.mem_flatMap, List.mem_range, List.mem_map, List.mem_filter,
    Bool.and_eq_true, decide_eq_true_eq, Bool.not_eq_true', Prod.mk.injEq]
  constructor
  · rintro ⟨a, _, b, ⟨hb, ⟨⟨hab, h1⟩, h2⟩, h3⟩, rfl, rfl⟩
    exact ⟨hab, hb, h1, h2, h3⟩
  · rintro ⟨hij, hj, h1, h2, h3⟩
    exact ⟨i, by omega, j, ⟨hj, ⟨⟨hij, h1⟩, h2⟩, h3⟩, rfl, rfl⟩

theorem mem_active {I : Inst} {σ : Assign Var} {w t : Nat} {τ : Int} :
    t ∈ I.active σ w τ ↔ t < I.nT ∧ σ.b (.placed t) = true ∧ I.workerOf σ t = some w ∧
      σ.i (.start t) ≤ τ ∧ τ < σ.i (.start t) + (I.rem t : Int) := by
  simp only [Inst.active, List.mem_filter, List.mem_range, Bool.and_eq_true, decide_eq_true_eq,
    beq_iff_eq]
  constructor
  · rintro ⟨h, ⟨⟨⟨a, b⟩, c⟩, d⟩⟩; exact ⟨h, a, b, c, d⟩
  · rintro ⟨h, a, b, c, d⟩; exact ⟨h, ⟨⟨⟨a, b⟩, c⟩, d⟩⟩

/-- `_add_resource_constraints` for one worker and one pair: the definitions of
`ends_before` / `overlap` / `…_independent_…` and the exclusivity implication. -/
theorem cPair_holds (I : Inst) (σ : Assign Var) (w i j : Nat) : (∀ a ∈ I.cPair w (i, j), a.eval σ = true) ↔
    (σ.b (.endsBefore i j) = true ↔ σ.i (.start i) + (I.rem i : Int) < σ.i (.start j)) ∧
    (σ.b (.endsBefore j i) = true ↔ σ.i (.start j) + (I.rem j : Int) < σ.i (.start i)) ∧
    (σ.b (.overlap i j) = true ↔ ¬ (σ.b (.endsBefore i j) = true ∨ σ.b (.endsBefore j i) = true)) ∧
    (∀ q ∈ I.shared w i j, (σ.b (.indep w q.1 i j) = true ↔
      bxor ((fit (I.size q.2.name) (σ.v (.res i q.2.name))).take (q.2.total - 1 + 1))
           ((fit (I.size q.2.name) (σ.v (.res j q.2.name))).take (q.2.total - 1 + 1)) = ones q.2.total)) ∧
    (σ.b (.placed i) = true → σ.b (.placed j) = true →
      fit I.nW (σ.v (.worker i)) = toBits I.nW (2 ^ w) → fit I.nW (σ.v (.worker j)) = toBits I.nW (2 ^ w) →
      σ.b (.overlap i j) = true → ∀ q ∈ I.shared w i j, σ.b (.indep w q.1 i j) = true) := by
  simp only [Inst.cPair, List.forall_mem_append, List.forall_mem_cons, List.forall_mem_map, List.not_mem_nil,
    false_imp_iff, implies_true, and_true, and_assoc]
  simp [-eval_imp, -eval_iff, imp_holds, iff_holds, Inst.cIndep, Inst.placedT, Inst.startT, Inst.endT,
    Inst.pwT, Inst.idxLit, Inst.resT]

/-- Two unrelated placed tasks that occupy an instant together on worker `w` have the overlap
constant set, hence every shared entry's low `total` bits are complementary. -/
theorem shared_compl {I : Inst} {σ : Assign Var} (h : sat σ (gen I)) {w i j : Nat} (hw : w < I.nW)
    (hp : (i, j) ∈ I.pairs) (hpi : σ.b (.placed i) = true) (hpj : σ.b (.placed j) = true)
    (hwi : I.workerOf σ i = some w) (hwj : I.workerOf σ j = some w) {τ : Int}
    (hi1 : σ.i (.start i) ≤ τ) (hi2 : τ < σ.i (.start i) + (I.rem i : Int))
    (hj1 : σ.i (.start j) ≤ τ) (hj2 : τ < σ.i (.start j) + (I.rem j : Int))
    {q : Nat × ResEntry} (hq : q ∈ I.shared w i j) :
    bxor ((fit (I.size q.2.name) (σ.v (.res i q.2.name))).take (q.2.total - 1 + 1))
         ((fit (I.size q.2.name) (σ.v (.res j q.2.name))).take (q.2.total - 1 + 1)) = ones q.2.total := by
  obtain ⟨e1, e2, e3, eX, eC⟩ := (cPair_holds I σ w i j).mp ((sat_iff.mp h).pair w hw (i, j) hp)
  have hov : σ.b (.overlap i j) = true := e3.mpr (by rw [e1, e2]; omega)
  exact (eX q hq).mp (eC hpi hpj (workerOf_spec hwi).2 (workerOf_spec hwj).2 hov q hq)

theorem shared_mem {I : Inst} {w i j : Nat} {e : ResEntry} (he : e ∈ (I.worker w).res)
    (hi : e.name ∈ I.types i) (hj : e.name ∈ I.types j) : ∃ k, (k, e) ∈ I.shared w i j := by
  obtain ⟨k, hk, hke⟩ := List.mem_iff_getElem.mp he
  refine ⟨k, ?_⟩
  simp only [Inst.shared, List.mem_filter, List.mem_map, List.mem_range, Bool.and_eq_true,
    List.contains_iff_mem]
  refine ⟨⟨k, hk, ?_⟩, hi, hj⟩
  simp [List.getD_eq_getElem?_getD, hk, hke]

theorem noExtractCrash {I : Inst} (hc : I.crashExtract = false) {w : Nat} (hw : w < I.nW)
    {p : Nat × Nat} (hp : p ∈ I.pairs) {q : Nat × ResEntry} (hq : q ∈ I.shared w p.1 p.2) :
    1 ≤ q.2.total ∧ q.2.total ≤ I.size q.2.name := by
  simp only [Inst.crashExtract, List.any_eq_false, List.mem_range, Bool.not_eq_true, Bool.or_eq_false_iff,
    beq_eq_false_iff_ne, decide_eq_false_iff_not] at hc
  have := hc w hw p hp q hq
  omega

theorem worker_mem {I : Inst} {w : Nat} (hw : w < I.nW) : I.worker w ∈ I.workers := Mip.getD_mem hw _

theorem avail_single {I : Inst} (hs : I.wfSingleEntry = true) {w : Nat} (hw : w < I.nW)
    {e : ResEntry} (he : e ∈ (I.worker w).res) : (I.worker w).avail e.name = e.avail := by
  simp only [Inst.wfSingleEntry, List.all_eq_true, beq_iff_eq] at hs
  obtain ⟨x, hx⟩ := List.length_eq_one_iff.mp (hs _ (worker_mem hw) e he)
  have hmem : e ∈ (I.worker w).res.filter (fun e' => e'.name == e.name) := by simp [List.mem_filter, he]
  rw [hx, List.mem_singleton] at hmem
  subst hmem
  simp [WorkerI.avail, hx, nsum]

theorem avail_le_total {I : Inst} (ha : I.wfAvail = true) {w : Nat} (hw : w < I.nW)
    {e : ResEntry} (he : e ∈ (I.worker w).res) : e.avail ≤ e.total := by
  simp only [Inst.wfAvail, List.all_eq_true, decide_eq_true_eq] at ha
  exact ha _ (worker_mem hw) e he

theorem fastest_mem : ∀ {l : List Strat} {s : Strat}, fastest l = some s → s ∈ l := by
  intro l s h
  cases l with
  | nil => simp [fastest] at h
  | cons a l =>
    simp only [fastest, Option.some.injEq] at h
    have := (Model.Heap.foldl_min_key (fun x : Strat => (x.runtime : Int)) l a).1
    simp only [Int.ofNat_lt] at this
    exact h ▸ this

theorem req_zero {I : Inst} {t w : Nat} {r : String} (hr : r ∉ I.types t) : I.req t w r = 0 := by
  unfold Inst.req
  cases hf : fastest ((I.worker w).compat (I.task t)) with
  | none => rfl
  | some s =>
    have hs : s ∈ (I.task t).strats := by
      have := fastest_mem hf
      simp only [WorkerI.compat, List.mem_filter] at this
      exact this.1
    have : s.req.filter (fun p => p.1 == r) = [] := by
      rw [List.filter_eq_nil_iff]
      intro p hp hpr
      apply hr
      simp only [Inst.types, TaskI.types, List.mem_eraseDups, List.mem_flatMap, List.mem_map]
      exact ⟨s, hs, p, hp, by simpa using hpr⟩
    simp [Strat.qty, this, nsum]

theorem req_le_avail {I : Inst} {t w : Nat} (hc : I.canBePlaced t w = true) (r : String) :
    I.req t w r ≤ (I.worker w).avail r := by
  by_cases hr : r ∈ I.types t
  · unfold Inst.canBePlaced at hc
    rw [List.all_eq_true] at hc
    have := hc r hr
    simp only [Bool.and_eq_true, decide_eq_true_eq] at this
    exact this.2
  · rw [req_zero hr]; exact Nat.zero_le _

theorem nsum_filter_zero (L : List Nat) (f : Nat → Nat) (T : Nat → Bool)
    (h0 : ∀ t ∈ L, T t = false → f t = 0) : nsum (L.map f) = nsum ((L.filter T).map f) := by
  induction L with
  | nil => rfl
  | cons a L ih =>
    have ih' := ih (fun t ht => h0 t (List.mem_cons_of_mem _ ht))
    cases hT : T a with
    | true => simp [hT, nsum, ih']
    | false => simp [hT, nsum, ih', h0 a (List.mem_cons_self) hT]

/-- At most two complementary tasks: when any two distinct members that satisfy `T` carry different
Boolean tags `hb`, there are at most two of them, and their `f` add up to at most `m`. -/
theorem nsum_le_of_pairwise {L : List Nat} (hnd : L.Nodup) (f : Nat → Nat) (T hb : Nat → Bool) (m : Nat)
    (h0 : ∀ t ∈ L, T t = false → f t = 0)
    (h1 : ∀ t ∈ L, f t ≤ m)
    (h2 : ∀ i ∈ L, ∀ j ∈ L, i ≠ j → T i = true → T j = true → f i + f j ≤ m ∧ hb i ≠ hb j) :
    nsum (L.map f) ≤ m := by
  rw [nsum_filter_zero L f T h0]
  have hnd' : (L.filter T).Nodup := hnd.filter _
  have hsub : ∀ t ∈ L.filter T, t ∈ L ∧ T t = true := fun t ht => List.mem_filter.mp ht
  match hL : L.filter T, hnd', hsub with
  | [], _, _ => simp [nsum]
  | [a], _, hs => simp [nsum]; exact h1 a (hs a (by simp)).1
  | [a, b], hn, hs =>
    have hab : a ≠ b := by simpa using hn
    have := h2 a (hs a (by simp)).1 b (hs b (by simp)).1 hab (hs a (by simp)).2 (hs b (by simp)).2
    simp [nsum]; omega
  | a :: b :: c :: _, hn, hs =>
    exfalso
    simp only [List.nodup_cons, List.mem_cons, not_or] at hn
    have hab := h2 a (hs a (by simp)).1 b (hs b (by simp)).1 hn.1.1 (hs a (by simp)).2 (hs b (by simp)).2
    have hac := h2 a (hs a (by simp)).1 c (hs c (by simp)).1 hn.1.2.1 (hs a (by simp)).2 (hs c (by simp)).2
    have hbc := h2 b (hs b (by simp)).1 c (hs c (by simp)).1 hn.2.1.1 (hs b (by simp)).2 (hs c (by simp)).2
    revert hab hac hbc
    cases hb a <;> cases hb b <;> cases hb c <;> simp

theorem pair_fact {I : Inst} {σ : Assign Var} (h : sat σ (gen I)) (hcr : I.crashExtract = false)
    (hch : I.wfChains = true) (hse : I.wfSingleEntry = true) (hav : I.wfAvail = true)
    {w : Nat} (hw : w < I.nW) {e : ResEntry} (he : e ∈ (I.worker w).res) {τ : Int} {i j : Nat}
    (hij : i < j) (hi : i ∈ I.active σ w τ) (hj : j ∈ I.active σ w τ)
    (hti : e.name ∈ I.types i) (htj : e.name ∈ I.types j) :
    I.req i w e.name + I.req j w e.name ≤ e.avail ∧
      (fit (I.size e.name) (σ.v (.res i e.name))).headD false ≠
      (fit (I.size e.name) (σ.v (.res j e.name))).headD false := by
  obtain ⟨hi0, hpi, hwi, hi1, hi2⟩ := mem_active.mp hi
  obtain ⟨hj0, hpj, hwj, hj1, hj2⟩ := mem_active.mp hj
  -- related tasks are linked by a chain of offered tasks, which separates them in time
  have hdep : I.dependent i j = false := by
    cases hd : I.dependent i j with
    | false => rfl
    | true =>
      simp only [Inst.wfChains, List.all_eq_true, List.mem_range, Bool.or_eq_true, Bool.not_eq_true',
        List.contains_iff_mem] at hch
      rcases hch i hi0 j hj0 with (h2 | h2) | h2
      · simp [hd] at h2
      · have := (linked_ordered h h2 hpj).2; omega
      · have := (linked_ordered h h2 hpi).2; omega
  have hp : (i, j) ∈ I.pairs :=
    mem_pairs.mpr ⟨hij, hj0, (placed_ok h hi0 hpi).hasRes, (placed_ok h hj0 hpj).hasRes, hdep⟩
  obtain ⟨k, hk⟩ := shared_mem he hti htj
  have hx := shared_compl h hw hp hpi hpj hwi hwj hi1 hi2 hj1 hj2 hk
  have hq := noExtractCrash hcr hw hp hk
  simp only at hx hq
  rw [Nat.sub_add_cancel hq.1] at hx
  have hai := (placed_ok h hi0 hpi).allowed hwi hti
  have haj := (placed_ok h hj0 hpj).allowed hwj htj
  rw [avail_single hse hw he] at hai haj
  have := allowed_compl hai haj (fit_length _ _) (avail_le_total hav hw he) hq.2 hq.1 hx
  exact ⟨by omega, this.2⟩

theorem active_nodup (I : Inst) (σ : Assign Var) (w : Nat) (τ : Int) : (I.active σ w τ).Nodup :=
  (List.nodup_range (n := I.nT)).filter _

/-- **Joint feasibility at every instant** (model level): the demand on every resource entry of
every worker never exceeds what is available on it. -/
theorem capacity_at_instant {I : Inst} {σ : Assign Var} (h : sat σ (gen I))
    (hcr : I.crashExtract = false) (hch : I.wfChains = true) (hse : I.wfSingleEntry = true)
    (hav : I.wfAvail = true) {w : Nat} (hw : w < I.nW) {e : ResEntry} (he : e ∈ (I.worker w).res)
    (τ : Int) : I.load σ w e.name τ ≤ e.avail := by
  unfold Inst.load
  apply nsum_le_of_pairwise (active_nodup I σ w τ) (fun t => I.req t w e.name)
    (fun t => (I.types t).contains e.name)
    (fun t => (fit (I.size e.name) (σ.v (.res t e.name))).headD false)
  · intro t _ hT
    apply req_zero
    simpa [List.contains_iff_mem] using hT
  · intro t ht
    obtain ⟨ht0, hpt, hwt, _, _⟩ := mem_active.mp ht
    have := req_le_avail ((placed_ok h ht0 hpt).canBePlaced hwt) e.name
    rw [avail_single hse hw he] at this
    exact this
  · intro i hi j hj hne hTi hTj
    have hTi' : e.name ∈ I.types i := by simpa [List.contains_iff_mem] using hTi
    have hTj' : e.name ∈ I.types j := by simpa [List.contains_iff_mem] using hTj
    rcases Nat.lt_or_gt_of_ne hne with hlt | hgt
    · exact pair_fact h hcr hch hse hav hw he hlt hi hj hTi' hTj'
    · have := pair_fact h hcr hch hse hav hw he hgt hj hi hTj' hTi'
      exact ⟨by omega, fun heq => this.2 heq.symm⟩

end ErdosVerif.Z3m
