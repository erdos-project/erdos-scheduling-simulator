import ErdosVerif.Lemmas.SimAct
import ErdosVerif.Lemmas.SimEditPending
import ErdosVerif.Lemmas.Ledger
/-!
The events that exist at a point of a handler: the queue, the popped event, the events created and not yet queued
(`Ghost.evs`), and what one step does to them.

The queue operations and the moves between the queue and the hands of the handler are permutations (`perm_*`). A step
that creates no event (`Act.moves`, `Tick.moves`: the id counter stands still) changes the place of the events, lets
one go (the popped event when it is accounted for, a queued event whose id is cached), or re-times in place those with
a kept id (`EvMove`; `editPending` is such an edit on the local list, `editPending_eq`); no event id is newly kept
(`IdsOld`). For the events of a type none of which has a kept id this means they are the same before and after
(`EvMove.sub`, `EvMove.sup`); a step that creates an event adds it to the others (`made_sub`, `made_sup`).

An invariant that speaks of the events of one type treats the steps that create no event in one case of its `Closed`
instance: `have mv := a.moves` before `cases a`, then one lemma of its own about `EvMove`.
-/
namespace ErdosVerif.Model.Sim
open Heap

abbrev Ghost.evs (γ : Ghost) (s : SimS) : List SEvent := s.queue.toList ++ (γ.cur.toList ++ γ.ex)

theorem perm_heappush (q : Array SEvent) (e : SEvent) (ex : List SEvent) :
    ((heappush SEvent.lt q e).toList ++ ex).Perm (e :: (q.toList ++ ex)) := by
  have h1 : (heappush SEvent.lt q e).toList.Perm (q.push e).toList := (heappush_perm SEvent.lt q e).toList
  rw [Array.toList_push] at h1
  exact (h1.trans (List.perm_append_singleton e q.toList)).append_right ex

theorem perm_add (q : Array SEvent) (e : SEvent) (c rest : List SEvent) :
    ((heappush SEvent.lt q e).toList ++ (c ++ rest)).Perm (q.toList ++ (c ++ e :: rest)) := by
  refine (perm_heappush q e _).trans ?_
  simp only [← List.append_assoc]
  exact List.perm_middle.symm

theorem perm_snoc (q c b : List SEvent) (r : SEvent) : (q ++ (c ++ (b ++ [r]))).Perm (r :: (q ++ (c ++ b))) := by
  simp only [← List.append_assoc]
  exact List.perm_append_singleton r _

theorem perm_heapify (q : Array SEvent) (ex : List SEvent) :
    ((heapify SEvent.lt q).toList ++ ex).Perm (q.toList ++ ex) :=
  (heapify_perm SEvent.lt q).toList.append_right ex

theorem perm_heappop (q q' : Array SEvent) (e : SEvent) (ex : List SEvent) (h : heappop SEvent.lt q = some (e, q')) :
    (q'.toList ++ e :: ex).Perm (q.toList ++ ex) := by
  have h1 : (q'.push e).toList.Perm q.toList := (heappop_perm SEvent.lt q e q' h).toList
  rw [Array.toList_push] at h1
  rw [show q'.toList ++ e :: ex = (q'.toList ++ [e]) ++ ex by simp]
  exact h1.append_right ex

theorem perm_handled (q x : List SEvent) {o : Option SEvent} {e : SEvent} (h : o = some e) :
    (e :: (q ++ x)).Perm (q ++ (o.toList ++ x)) := by
  subst h; exact List.perm_middle.symm

theorem perm_cons_eraseIdx {α} (l : List α) (i : Nat) (h : i < l.length) : (l[i] :: l.eraseIdx i).Perm l := by
  induction l generalizing i with
  | nil => simp at h
  | cons a l ih =>
    cases i with
    | zero => exact .refl _
    | succ i => exact (List.Perm.swap ..).trans ((ih i (by simpa using h)).cons a)

/-- `remove_event`: the event at index `i` leaves the queue. -/
theorem perm_unqueue (q : Array SEvent) (i : Nat) (hi : i < q.size) (ex : List SEvent) :
    (q[i] :: ((heapify SEvent.lt (q.eraseIdxIfInBounds i)).toList ++ ex)).Perm (q.toList ++ ex) := by
  refine ((perm_heapify _ ex).cons _).trans ?_
  rw [Array.eraseIdxIfInBounds_eq, dif_pos hi, Array.toList_eraseIdx, ← List.cons_append]
  exact (perm_cons_eraseIdx q.toList i (by simpa using hi)).append_right ex

theorem mem_future_set (l : AList TaskId Nat) (t : TaskId) (v : Nat) : ∀ p ∈ l.set t v, p ∈ l ∨ p.2 = v :=
  fun p hp => (AList.mem_set l t v p hp).symm.imp_right fun e => by rw [e]

theorem retimes_retime (pt : Int) (p : PlacementS) : Retimes (retime pt p) := fun _ => rfl

/-- `editPending` is `editEvent` on the local list: the same edit under the cached id, or nothing. -/
theorem editPending_eq (c : Option Nat) (p : PlacementS) (evs : List SEvent) :
    editPending c p evs = evs ∨
      ∃ eid pt, c = some eid ∧ editPending c p evs = evs.map (editAt eid (retime pt p)) := by
  unfold editPending
  split
  · rename_i eid pt _
    exact .inr ⟨eid, pt, rfl, rfl⟩
  · exact .inl rfl

structure IdsOld (s s' : SimS) : Prop where
  fut : ∀ p ∈ s'.future, p ∈ s.future
  ns : ∀ x, s'.nextSched = some x → s.nextSched = some x

theorem IdsOld.refl {s s' : SimS} (hf : s'.future = s.future := by rfl) (hn : s'.nextSched = s.nextSched := by rfl) :
    IdsOld s s' :=
  ⟨hf ▸ fun _ h => h, hn ▸ fun _ h => h⟩

/-- What a step that creates no event does to the events that exist: they change place (`same`), one of them leaves
(`left`: the popped event, or a queued event whose id is cached), or those among `a` that have the kept id `eid` are
re-timed in place (`edited`). -/
inductive EvMove (γ : Ghost) (s : SimS) (γ' : Ghost) (s' : SimS) : Prop
  | same (hp : (γ'.evs s').Perm (γ.evs s)) (hk : IdsOld s s')
  | left (e : SEvent) (why : (γ.cur = some e ∧ γ'.cur = none) ∨ ∃ t, s.future.get? t = some e.ev.eid)
      (hp : (e :: γ'.evs s').Perm (γ.evs s)) (hk : IdsOld s s')
  | edited (eid : Nat) (f : SEvent → SEvent) (hf : Retimes f) (hkept : Kept s eid) (a b : List SEvent)
      (hE : (γ.evs s).Perm (a ++ b)) (hE' : (γ'.evs s').Perm (a.map (editAt eid f) ++ b)) (hk : IdsOld s s')

theorem Act.moves {γ γ' : Ghost} {s s' : SimS} (a : Act γ s γ' s') (hid : s'.nextEid = s.nextEid) :
    EvMove γ s γ' s' := by
  cases a with
  | row | pop | log | call | draw | followUp | follow | load | pool | place | cancelGraph | notifyGraph | schedDone =>
    exact .same (.refl _) .refl
  | cancelPlaced t | uncache t => exact .same (.refl _) ⟨fun _ h => AList.mem_erase _ _ _ h, fun _ h => h⟩
  | schedStart | schedRun => exact .same (.refl _) ⟨fun _ h => h, fun _ h => nomatch h⟩
  | done ev hcur | simEnd ev hcur | countCancel ev _ hcur | finish ev _ _ _ _ _ _ hcur =>
    exact .left ev (.inl ⟨hcur, rfl⟩) (perm_handled _ _ hcur) .refl
  | add e rest hex => exact .same (by rw [Ghost.evs, Ghost.evs, hex]; exact perm_add ..) .refl
  | perm ex' hp => exact .same ((hp.symm.append_left _).append_left _) .refl
  | edit eid f hf hk =>
    exact .edited eid f hf hk s.queue.toList _ (.refl _) (by rw [← Array.toList_map]; exact perm_heapify _ _) .refl
  | repend c p hc =>
    rcases editPending_eq c p γ.ex with h | ⟨eid, pt, hc', h⟩
    · exact .same (by rw [Ghost.evs, h]) .refl
    · refine .edited eid _ (retimes_retime pt p) (.inl ⟨_, hc eid hc'⟩) γ.ex (s.queue.toList ++ γ.cur.toList) ?_ ?_ .refl
      · rw [Ghost.evs, ← List.append_assoc]; exact List.perm_append_comm
      · rw [Ghost.evs, h, ← List.append_assoc]; exact List.perm_append_comm
  | unqueue eid i hi hc =>
    obtain ⟨hlt, hp, -⟩ := Array.findIdx?_eq_some_iff_getElem.mp hi
    exact .left s.queue[i] (.inr (by rwa [eq_of_beq hp])) (perm_unqueue _ _ hlt _) .refl
  | mk | mkCached | retry | mkSched | placeNow | payCancel => exact absurd hid (Nat.succ_ne_self _)

theorem Tick.moves {γ γ' : Ghost} {s s' : SimS} (a : Tick γ s γ' s') (hid : s'.nextEid = s.nextEid) :
    EvMove γ s γ' s' := by
  cases a with
  | stepTask | clock => exact .same (.refl _) .refl
  | take e q hcur hpop => exact .same (by rw [Ghost.evs, Ghost.evs, hcur]; exact perm_heappop _ _ _ _ hpop) .refl
  | mkDue => exact absurd hid (Nat.succ_ne_self _)

theorem Act.cur_sub {γ γ' : Ghost} {s s' : SimS} (a : Act γ s γ' s') : ∀ e, γ'.cur = some e → γ.cur = some e := by
  cases a <;> first | exact fun _ h => h | exact fun _ h => nomatch h

theorem made_sub {E E' : List SEvent} {e : SEvent} {ty : Nat} (hp : E'.Perm (e :: E)) (hne : e.ev.etype ≠ ty) :
    ∀ e' ∈ E', e'.ev.etype = ty → e' ∈ E :=
  fun _ he' hty => (List.mem_cons.mp (hp.subset he')).resolve_left fun h => hne (h ▸ hty)

theorem made_sup {E E' : List SEvent} {e : SEvent} {ty : Nat} (hp : E'.Perm (e :: E)) :
    ∀ e' ∈ E, e'.ev.etype = ty → e' ∈ E' :=
  fun _ he' _ => hp.symm.subset (List.mem_cons_of_mem _ he')

section
variable {γ γ' : Ghost} {s s' : SimS} {ty : Nat}

theorem EvMove.ids (mv : EvMove γ s γ' s') : IdsOld s s' := by
  cases mv <;> assumption

theorem editAt_etype {eid : Nat} {f : SEvent → SEvent} (hf : Retimes f) (e : SEvent) :
    (editAt eid f e).ev.etype = e.ev.etype := by
  unfold editAt; split
  · rw [hf e]
  · rfl

theorem EvMove.sub (mv : EvMove γ s γ' s') (hfk : ∀ e ∈ γ.evs s, e.ev.etype = ty → ¬ Kept s e.ev.eid) :
    ∀ e ∈ γ'.evs s', e.ev.etype = ty → e ∈ γ.evs s := by
  intro e he hty
  cases mv with
  | same hp => exact hp.subset he
  | left e0 _ hp => exact hp.subset (List.mem_cons_of_mem _ he)
  | edited eid f hf hkept a b hE hE' =>
    rcases List.mem_append.mp (hE'.subset he) with h | h
    · obtain ⟨e0, he0, rfl⟩ := List.mem_map.mp h
      have h0 : e0 ∈ γ.evs s := hE.symm.subset (List.mem_append_left _ he0)
      have hne : ¬ (e0.ev.eid == eid) = true :=
        fun hb => hfk e0 h0 ((editAt_etype hf e0).symm.trans hty) (eq_of_beq hb ▸ hkept)
      rw [editAt, if_neg hne]; exact h0
    · exact hE.symm.subset (List.mem_append_right _ h)

theorem EvMove.sup (mv : EvMove γ s γ' s') (hfk : ∀ e ∈ γ.evs s, e.ev.etype = ty → ¬ Kept s e.ev.eid) :
    ∀ e ∈ γ.evs s, e.ev.etype = ty → e ∈ γ'.evs s' ∨ (γ.cur = some e ∧ γ'.cur = none) := by
  intro e he hty
  cases mv with
  | same hp => exact .inl (hp.symm.subset he)
  | left e0 why hp =>
    rcases List.mem_cons.mp (hp.symm.subset he) with rfl | h
    · exact why.elim .inr fun ⟨t, ht⟩ => absurd (.inl ⟨t, ht⟩) (hfk e he hty)
    · exact .inl h
  | edited eid f hf hkept a b hE hE' =>
    refine .inl (hE'.symm.subset ?_)
    rcases List.mem_append.mp (hE.subset he) with h | h
    · have hne : ¬ (e.ev.eid == eid) = true := fun hb => hfk e he hty (eq_of_beq hb ▸ hkept)
      exact List.mem_append_left _ (List.mem_map.mpr ⟨e, h, by rw [editAt, if_neg hne]⟩)
    · exact List.mem_append_right _ h

end

end ErdosVerif.Model.Sim
