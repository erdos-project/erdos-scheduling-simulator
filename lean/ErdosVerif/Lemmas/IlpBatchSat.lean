/-
What `sat σ (genB I)` says about the batching model, in semantic form (values of the start /
placement expressions of the BatchTasks): `bounds` for the declarations, `Rows` for the rows, so
that nothing after this file unfolds `genB`.  The shapes of the declarations and of the dependency
and overlap rows, the sums and the facts about scans are those of the non-batching slice.
-/
import ErdosVerif.Model.IlpBatch
import ErdosVerif.Lemmas.IlpDecode
namespace ErdosVerif.IlpBatch
open ErdosVerif.Mip ErdosVerif.Ilp

attribute [local simp] Constr.holds Sense.holds

theorem mem_nonRunning {I : BInst} {b : Nat} : b ∈ I.nonRunning ↔ b < I.nB ∧ I.bRunning b = false := by
  simp [BInst.nonRunning, List.mem_filter, List.mem_range]

theorem mem_parentVars {I : BInst} {c p : Nat} :
    p ∈ I.parentVars c ↔ p < I.nB ∧ I.nParentsIn c p ≠ 0 := by
  simp [BInst.parentVars, List.mem_filter, List.mem_range]

theorem mem_freshOf {I : BInst} {t b : Nat} :
    b ∈ I.freshOf t ↔ b < I.nB ∧ (I.batch b).fresh = true ∧ t ∈ I.members b := by
  simp [BInst.freshOf, List.mem_filter, List.mem_range]

theorem mem_pairs {I : BInst} {a b : Nat} : (a, b) ∈ I.pairs ↔ a < I.nB ∧ b < I.nB ∧ b ≠ a := by
  simp [BInst.pairs, List.mem_flatMap, List.mem_map, List.mem_filter, List.mem_range]

theorem nParentsIn_ne_zero {I : BInst} {c p : Nat} :
    I.nParentsIn c p ≠ 0 ↔
      ∃ m ∈ I.members c, ∃ u ∈ I.base.parentsOf (I.task m).uniq, I.hasMember p u = true := by
  simp only [BInst.nParentsIn, BInst.parentTasks, ne_eq, List.length_eq_zero_iff, List.filter_eq_nil_iff,
    List.mem_eraseDups, List.mem_flatMap]
  constructor
  · intro h
    refine Classical.byContradiction fun hno => ?_
    exact h fun u ⟨m, hm, hu⟩ hp => hno ⟨m, hm, u, hu, hp⟩
  · rintro ⟨m, hm, u, hu, hp⟩ h
    exact h u ⟨m, hm, hu⟩ hp

/-- Value of `placed_on_worker_with_strategy(w, batch strategy)` under `σ`. -/
def xval (I : BInst) (σ : Var → Int) (b w : Nat) : Int := (I.xE b w).eval σ
/-- Value of the start expression (`now` for a RUNNING BatchTask). -/
def sval (I : BInst) (σ : Var → Int) (b : Nat) : Int := (I.startE b).eval σ
/-- `quicksum(placed_on_workers)`. -/
def psum (I : BInst) (σ : Var → Int) (b : Nat) : Int := (I.sumX b).eval σ
/-- `Σ x[w] * runtime`. -/
def dur (I : BInst) (σ : Var → Int) (b : Nat) : Int := (I.durE b).eval σ

theorem runtime_nonneg (I : BInst) (b : Nat) : 0 ≤ I.runtime b := by simp [BInst.runtime]

theorem hasVar_iff {I : BInst} {b w : Nat} :
    I.hasVar b w = true ↔ I.bRunning b = false ∧ compatible (I.worker w) (I.bstrat b) = true := by
  simp [BInst.hasVar]

theorem xval_var {I : BInst} {σ : Var → Int} {b w : Nat} (h : I.hasVar b w = true) :
    xval I σ b w = σ (.x b w 0) := by
  simp [xval, BInst.xE, (hasVar_iff.mp h).1, (hasVar_iff.mp h).2]

theorem xval_novar {I : BInst} {σ : Var → Int} {b w : Nat} (h : I.hasVar b w = false) :
    xval I σ b w = 0 := by
  unfold xval BInst.xE
  cases hr : I.bRunning b with
  | true => simp
  | false =>
    simp [BInst.hasVar, hr] at h
    simp [h]

theorem sval_var {I : BInst} {σ : Var → Int} {b : Nat} (h : I.bRunning b = false) :
    sval I σ b = σ (.start b) := by
  simp [sval, BInst.startE, h]

theorem sval_running {I : BInst} {σ : Var → Int} {b : Nat} (h : I.bRunning b = true) :
    sval I σ b = I.now := by
  simp [sval, BInst.startE, h]

theorem psum_eq (I : BInst) (σ : Var → Int) (b : Nat) :
    psum I σ b = isum ((List.range I.nW).map (xval I σ b)) + (if I.bRunning b then 1 else 0) := by
  unfold psum BInst.sumX
  rw [LinExpr.eval_sumL, List.map_append, isum_append, List.map_map]
  have e : (LinExpr.eval σ ∘ I.xE b) = xval I σ b := rfl
  rw [e]
  cases I.bRunning b <;> simp

theorem dur_eq (I : BInst) (σ : Var → Int) (b : Nat) :
    dur I σ b = isum ((List.range I.nW).map (fun w => I.runtime b * xval I σ b w)) := by
  unfold dur BInst.durE
  rw [LinExpr.eval_sumL, List.map_map]
  exact isum_map_eq fun w _ => by simp [xval]

theorem eval_ownDemand {I : BInst} {σ : Var → Int} (t w : Nat) (r : String) :
    (I.ownDemand t w r).eval σ = ((qty (I.bstrat t).req r : Nat) : Int) * xval I σ t w := by
  unfold BInst.ownDemand BInst.needs
  by_cases hq : qty (I.bstrat t).req r = 0 <;> simp [hq, xval]

theorem eval_otherDemand {I : BInst} {σ : Var → Int} (t1 t2 w : Nat) (r : String) :
    (I.otherDemand t1 t2 w r).eval σ =
      ((qty (I.bstrat t2).req r : Nat) : Int) * xval I σ t2 w * σ (.overlap t1 t2) := by
  unfold BInst.otherDemand BInst.needs
  by_cases hq : qty (I.bstrat t2).req r = 0 <;> simp [hq, xval]

section
variable {I : BInst} {σ : Var → Int}

/-- What the declarations of `genB I` say of a feasible point (those the theorems use). -/
structure Bounds (I : BInst) (σ : Var → Int) : Prop where
  start : ∀ b ∈ I.nonRunning, I.startLb b ≤ σ (.start b)
  x : ∀ b ∈ I.nonRunning, ∀ w, w < I.nW → I.hasVar b w = true → σ (.x b w 0) = 0 ∨ σ (.x b w 0) = 1
  allParents : ∀ c ∈ I.nonRunning, I.parentVars c ≠ [] → σ (.allParents c) = 0 ∨ σ (.allParents c) = 1
  overlap : ∀ p ∈ I.pairs, σ (.overlap p.1 p.2) = 0 ∨ σ (.overlap p.1 p.2) = 1
  afterBefore : ∀ p ∈ I.pairs, I.dependent p.1 p.2 = false →
    (σ (.after p.1 p.2) = 0 ∨ σ (.after p.1 p.2) = 1) ∧ (σ (.before p.1 p.2) = 0 ∨ σ (.before p.1 p.2) = 1)

theorem bounds (h : sat σ (genB I)) : Bounds I σ := by
  have d := (holds_varDecls (I.nonRunning.flatMap I.batchVars) I.nonRunning I.parentVars I.pairs I.dependent
    I.graphs.length I.goalSlack fun gi => I.rewardTasks (I.graphs.getD gi "")).mp h.1
  have := d.1
  simp only [BInst.batchVars, List.forall_mem_flatMap, List.forall_mem_cons, List.forall_mem_map,
    List.forall_mem_filter, List.mem_range, binDecl_ok_iff] at this
  exact ⟨fun b hb => by simpa [VarDecl.ok, optLe, optGe] using (this b hb).1, fun b hb => (this b hb).2,
    d.2.1, d.2.2.1, d.2.2.2.1⟩

theorem xval_binary (h : sat σ (genB I)) {b w : Nat} (hb : b < I.nB) (hw : w < I.nW) :
    xval I σ b w = 0 ∨ xval I σ b w = 1 := by
  cases hv : I.hasVar b w with
  | false => exact Or.inl (xval_novar hv)
  | true =>
    have hr := (hasVar_iff.mp hv).1
    exact xval_var hv ▸ (bounds h).x b (mem_nonRunning.mpr ⟨hb, hr⟩) w hw hv

theorem xval_nonneg (h : sat σ (genB I)) {b : Nat} (hb : b < I.nB) :
    ∀ w ∈ List.range I.nW, 0 ≤ xval I σ b w := fun w hw => by
  rcases xval_binary h hb (List.mem_range.mp hw) with h0 | h1 <;> omega

theorem start_lb (h : sat σ (genB I)) {b : Nat} (hb : b ∈ I.nonRunning) :
    I.startLb b ≤ σ (.start b) := (bounds h).start b hb

theorem overlap_binary (h : sat σ (genB I)) {a b : Nat} (hp : (a, b) ∈ I.pairs) :
    σ (.overlap a b) = 0 ∨ σ (.overlap a b) = 1 := (bounds h).overlap _ hp

theorem holds_constrs : (∀ c ∈ I.constrs, c.holds σ) ↔
    (∀ b ∈ I.nonRunning, (∀ c ∈ I.cDeadline b, c.holds σ) ∧ ∀ c ∈ I.cPlacement b, c.holds σ) ∧
    (∀ t, t < I.nT → ∀ c ∈ I.cUnique t, c.holds σ) ∧
    (∀ b ∈ I.nonRunning, ∀ c ∈ I.cDeps b, c.holds σ) ∧
    (∀ p ∈ I.pairs, ∀ c ∈ I.cOverlap p, c.holds σ) ∧
    (∀ b, b < I.nB → ∀ c ∈ I.cResource b, c.holds σ) ∧ ∀ c ∈ I.cObjective, c.holds σ := by
  simp only [BInst.constrs, List.forall_mem_append, List.forall_mem_flatMap, List.mem_range, and_assoc]

/-- What the rows of `genB I` say of a feasible point (the families the theorems use; the
`Overlap` rows are read by `overlap_value`). -/
structure Rows (I : BInst) (σ : Var → Int) : Prop where
  deadline : ∀ b ∈ I.nonRunning, I.bEnforce b = true → sval I σ b + dur I σ b ≤ I.bDeadline b
  placement : ∀ b ∈ I.nonRunning,
    psum I σ b ≤ 1 ∧ (I.bScheduled b = true → I.retract = false → psum I σ b = 1)
  unique : ∀ t, t < I.nT → I.freshOf t ≠ [] → isum ((I.freshOf t).map (psum I σ)) ≤ 1
  deps : ∀ c ∈ I.nonRunning, I.parentVars c ≠ [] →
    (∀ p ∈ I.parentVars c, ∀ w, w < I.nW → sval I σ p + (I.runtime p + 1) * xval I σ p w ≤ sval I σ c) ∧
    (σ (.allParents c) = 0 → (I.parentExpr c).eval σ ≤ ((I.parentTasks c).length : Int) - 1) ∧
    (σ (.allParents c) = 1 → (I.parentExpr c).eval σ = ((I.parentTasks c).length : Int)) ∧
    (σ (.allParents c) = 0 → psum I σ c = 0)
  resource : ∀ t1 ∈ I.nonRunning, ∀ w, w < I.nW → ∀ r ∈ (I.worker w).types,
    ((qty (I.bstrat t1).req r : Nat) : Int) * xval I σ t1 w +
      isum ((I.others t1).map fun t2 =>
        ((qty (I.bstrat t2).req r : Nat) : Int) * xval I σ t2 w * σ (.overlap t1 t2)) ≤
      (qty (I.worker w).res r : Nat)

theorem rows (h : sat σ (genB I)) : Rows I σ := by
  obtain ⟨r1, r2, r3, -, r5, -⟩ := holds_constrs.mp h.2
  refine ⟨fun b hb he => ?_, fun b hb => ?_, fun t ht hne => ?_, fun c hc hne => ?_, fun t1 ht w hw r hr => ?_⟩
  · simpa [BInst.cDeadline, he, sval, dur] using (r1 b hb).1
  · have rows := (r1 b hb).2
    unfold BInst.cPlacement at rows
    unfold psum
    split at rows <;> rename_i hs <;> simp at rows hs
    · omega
    · exact ⟨rows, fun h1 h2 => absurd h2 (by simpa using hs h1)⟩
  · have := r2 t ht
    simp only [BInst.cUnique, hne, List.isEmpty_iff, if_false] at this
    simp [LinExpr.eval_sumL, List.map_map, Function.comp_def] at this
    exact this
  · refine ((holds_depsRows (I.parentVars c) (I.cStartAfter c)).mp (r3 c hc) hne).imp_left fun hs p hp w hw => ?_
    have := hs p hp _ (List.mem_map.mpr ⟨w, List.mem_range.mpr hw, rfl⟩)
    simp at this
    unfold sval xval; omega
  · have := r5 t1 (mem_nonRunning.mp ht).1 _ (by
      simp only [BInst.cResource, (mem_nonRunning.mp ht).2, Bool.false_eq_true, if_false, List.mem_flatMap,
        List.mem_range, List.mem_map]
      exact ⟨w, hw, r, hr, rfl⟩)
    simpa [BInst.resExpr, eval_ownDemand, QuadExpr.eval_sumQ, List.map_map, Function.comp_def,
      eval_otherDemand] using this

theorem psum_nonneg (h : sat σ (genB I)) {b : Nat} (hb : b < I.nB) : 0 ≤ psum I σ b := by
  have := isum_map_nonneg (xval_nonneg h hb)
  rw [psum_eq]
  split <;> omega

theorem xval_le_psum (h : sat σ (genB I)) {b w : Nat} (hb : b < I.nB) (hw : w < I.nW) :
    xval I σ b w ≤ psum I σ b := by
  have := le_isum_map (xval_nonneg h hb) (List.mem_range.mpr hw)
  rw [psum_eq]
  split <;> omega

theorem psum_le_one (h : sat σ (genB I)) {b : Nat} (hb : b ∈ I.nonRunning) : psum I σ b ≤ 1 :=
  ((rows h).placement b hb).1

theorem psum_eq_one_of_scheduled (h : sat σ (genB I)) {b : Nat} (hb : b ∈ I.nonRunning)
    (hs : I.bScheduled b = true) (hre : I.retract = false) : psum I σ b = 1 :=
  ((rows h).placement b hb).2 hs hre

theorem runtime_le_dur (h : sat σ (genB I)) {b w : Nat} (hb : b < I.nB) (hw : w < I.nW)
    (hx : xval I σ b w = 1) : I.runtime b ≤ dur I σ b := by
  have := le_isum_map (f := fun w => I.runtime b * xval I σ b w)
    (fun w hw => Int.mul_nonneg (runtime_nonneg I b) (xval_nonneg h hb w hw)) (List.mem_range.mpr hw)
  simp only [hx] at this
  rw [dur_eq]; omega

/-- A placed BatchTask with parent variables has `all_parents_placed = 1`, hence its counting
row holds with equality. -/
theorem parents_counted (h : sat σ (genB I)) {c : Nat} (hc : c ∈ I.nonRunning)
    (hne : I.parentVars c ≠ []) (hpl : psum I σ c ≠ 0) :
    σ (.allParents c) = 1 ∧ (I.parentExpr c).eval σ = ((I.parentTasks c).length : Int) := by
  have r := ((rows h).deps c hc hne).2
  have h1 := ((bounds h).allParents c hc hne).resolve_left fun h0 => hpl (r.2.2 h0)
  exact ⟨h1, r.2.1 h1⟩

theorem overlap_value (h : sat σ (genB I)) {a b : Nat} (hp : (a, b) ∈ I.pairs)
    (hd : I.dependent a b = false) :
    σ (.overlap a b) = if 1 ≤ sval I σ a - sval I σ b - dur I σ b ∨
      sval I σ a + dur I σ a - sval I σ b ≤ -1 then 0 else 1 := by
  have r := (holds_overlapRows (I.dependent a b)).mp ((holds_constrs.mp h.2).2.2.2.1 _ hp)
  simp only [hd, Bool.false_eq_true, if_false] at r
  have hb := (bounds h).afterBefore _ hp hd
  have := overlap_of_rows hb.1 hb.2 (overlap_binary h hp) r
  simp only [BInst.afterExpr, BInst.beforeExpr, LinExpr.eval_sub, LinExpr.eval_add] at this
  exact this

end

theorem chosen_spec {I : BInst} {σ : Var → Int} {b w : Nat} (h : I.chosen σ b = some w) :
    w < I.nW ∧ I.hasVar b w = true ∧ σ (.x b w 0) = 1 := by
  refine List.foldlRecOn (motive := fun acc => ∀ w : Nat, acc = some w →
      w < I.nW ∧ I.hasVar b w = true ∧ σ (.x b w 0) = 1) (List.range I.nW) _ (b := none)
    (fun _ h => nomatch h) ?_ w h
  intro acc hacc w hw w' hw'
  split at hw'
  · rename_i hc
    cases hw'
    simp at hc
    exact ⟨List.mem_range.mp hw, hc.1, hc.2⟩
  · exact hacc w' hw'

theorem chosen_isSome {I : BInst} {σ : Var → Int} {b w : Nat} (hw : w < I.nW)
    (hv : I.hasVar b w = true) (hx : σ (.x b w 0) = 1) : (I.chosen σ b).isSome = true :=
  foldl_isSome _ (List.mem_range.mpr hw) (fun acc => by simp [hv, hx])
    (fun acc x hacc => by split <;> simp [hacc])

theorem chosen_xval {I : BInst} {σ : Var → Int} {b w : Nat} (h : I.chosen σ b = some w) :
    xval I σ b w = 1 := by
  have := chosen_spec h
  rw [xval_var this.2.1]; exact this.2.2

theorem chosen_nonRunning {I : BInst} {σ : Var → Int} {b w : Nat} (h : I.chosen σ b = some w) :
    I.bRunning b = false := (hasVar_iff.mp (chosen_spec h).2.1).1

/-- **Placed by `σ`**: the scan finds a worker for a BatchTask that is not RUNNING iff `Σ x ≥ 1`. -/
theorem chosen_isSome_iff {I : BInst} {σ : Var → Int} (h : sat σ (genB I)) {b : Nat} (hb : b < I.nB)
    (hr : I.bRunning b = false) : (I.chosen σ b).isSome = true ↔ 1 ≤ psum I σ b := by
  constructor
  · intro hs
    obtain ⟨w, hc⟩ := Option.isSome_iff_exists.mp hs
    have := xval_le_psum h hb (chosen_spec hc).1
    rwa [chosen_xval hc] at this
  · intro hp
    rw [psum_eq, hr] at hp
    have hne : isum ((List.range I.nW).map (xval I σ b)) ≠ 0 := by simp at hp; omega
    obtain ⟨w, hw, hx⟩ := exists_of_isum_ne_zero hne
    have hx := (xval_binary h hb (List.mem_range.mp hw)).resolve_left hx
    cases hv : I.hasVar b w with
    | false => rw [xval_novar hv] at hx; omega
    | true => exact chosen_isSome (List.mem_range.mp hw) hv (by rwa [xval_var hv] at hx)

theorem one_le_psum_of_chosen {I : BInst} {σ : Var → Int} (h : sat σ (genB I)) {b w : Nat}
    (hb : b < I.nB) (hc : I.chosen σ b = some w) : 1 ≤ psum I σ b :=
  (chosen_isSome_iff h hb (chosen_nonRunning hc)).mp (by simp [hc])

end ErdosVerif.IlpBatch
