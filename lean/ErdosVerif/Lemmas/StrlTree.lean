/-
C20: the shape every argument about STRL trees has.  A node's output is its own rows plus the
outputs of the subtrees directly below it (`Expr.children`), a statement about every node is
proved from the statement about those subtrees (`Expr.induction`), and the hypotheses of the
C20 theorems pass from a node to them (`Hereditary`).
-/
import ErdosVerif.Lemmas.StrlSum
namespace ErdosVerif.Strl

/-- The subtrees directly below a node; the `k`-th one sits at position `k :: path`. -/
def Expr.children : Expr → List Expr
  | .choose .. | .alloc .. => []
  | .obj _ cs | .min _ cs | .max _ cs => cs
  | .lt _ a b => [a, b]
  | .scale _ _ _ c => [c]

/-- `P` holds of every member of a list of siblings whose first member is the `i`-th child of
the node at `path` (the recursion of `compileList`, `populateList`, `forallNodesL`, …). -/
def Children (P : Path → Expr → Prop) (path : Path) : Nat → List Expr → Prop
  | _, [] => True
  | i, e :: es => P (i :: path) e ∧ Children P path (i + 1) es

def Hereditary (H : Path → Expr → Prop) : Prop :=
  ∀ path e, H path e → Children H path 0 e.children

mutual
theorem Expr.induction {H Q : Path → Expr → Prop} (hered : Hereditary H)
    (step : ∀ path e, H path e → Children Q path 0 e.children → Q path e) :
    ∀ (e : Expr) (path : Path), H path e → Q path e
  | .choose .., path, h => step path _ h trivial
  | .alloc .., path, h => step path _ h trivial
  | .obj _ cs, path, h => step path _ h (Children.induction hered step cs path 0 (hered path _ h))
  | .min _ cs, path, h => step path _ h (Children.induction hered step cs path 0 (hered path _ h))
  | .max _ cs, path, h => step path _ h (Children.induction hered step cs path 0 (hered path _ h))
  | .lt _ a b, path, h => step path _ h
      (And.intro (Expr.induction hered step a (0 :: path) (hered path _ h).1)
        (And.intro (Expr.induction hered step b (1 :: path) (hered path _ h).2.1) trivial))
  | .scale _ _ _ c, path, h => step path _ h
      (And.intro (Expr.induction hered step c (0 :: path) (hered path _ h).1) trivial)
theorem Children.induction {H Q : Path → Expr → Prop} (hered : Hereditary H)
    (step : ∀ path e, H path e → Children Q path 0 e.children → Q path e) :
    ∀ (cs : List Expr) (path : Path) (i : Nat), Children H path i cs → Children Q path i cs
  | [], _, _, _ => trivial
  | e :: es, path, i, h =>
    ⟨Expr.induction hered step e (i :: path) h.1, Children.induction hered step es path (i + 1) h.2⟩
end

namespace Children
variable {P Q : Path → Expr → Prop} {path : Path}

theorem imp : ∀ {cs : List Expr} {i : Nat}, (∀ p c, c ∈ cs → P p c → Q p c) →
    Children P path i cs → Children Q path i cs
  | [], _, _, _ => trivial
  | _ :: _, _, h, hc =>
    ⟨h _ _ (List.mem_cons_self ..) hc.1, imp (fun p c hm => h p c (List.mem_cons_of_mem _ hm)) hc.2⟩

theorem and : ∀ {cs : List Expr} {i : Nat}, Children P path i cs → Children Q path i cs →
    Children (fun p c => P p c ∧ Q p c) path i cs
  | [], _, _, _ => trivial
  | _ :: _, _, hp, hq => ⟨⟨hp.1, hq.1⟩, and hp.2 hq.2⟩

theorem of_forall : ∀ {cs : List Expr} {i : Nat}, (∀ p, ∀ c ∈ cs, P p c) → Children P path i cs
  | [], _, _ => trivial
  | _ :: _, _, h =>
    ⟨h _ _ (List.mem_cons_self ..), of_forall fun p c hm => h p c (List.mem_cons_of_mem _ hm)⟩

end Children

theorem Hereditary.and {H K : Path → Expr → Prop} (h : Hereditary H) (k : Hereditary K) :
    Hereditary fun p e => H p e ∧ K p e :=
  fun p e hk => (h p e hk.1).and (k p e hk.2)

theorem Hereditary.children {H Q : Path → Expr → Prop} (hered : Hereditary H)
    (h : ∀ (e : Expr) (path : Path), H path e → Q path e) {path : Path} {e : Expr} (hH : H path e) :
    Children Q path 0 e.children :=
  (hered path e hH).imp fun p c _ => h c p

theorem children_compileList (ctx : Ctx) (path : Path) {R : Out → Prop} : ∀ (cs : List Expr) (i : Nat),
    Children (fun p c => R (compileNode ctx p c)) path i cs ↔ ∀ x ∈ compileList ctx path i cs, R x.2
  | [], _ => by simp [Children, compileList]
  | e :: es, i => by simp [Children, compileList, children_compileList ctx path es (i + 1)]

theorem children_populateList (ctx : Ctx) (σ : Assign) (path : Path) {R : Sol → Prop} :
    ∀ (cs : List Expr) (i : Nat),
    Children (fun p c => R (populateNode ctx σ p c)) path i cs ↔ ∀ s ∈ populateList ctx σ path i cs, R s
  | [], _ => by simp [Children, populateList]
  | e :: es, i => by simp [Children, populateList, children_populateList ctx σ path es (i + 1)]

theorem children_both (ctx : Ctx) (σ : Assign) (path : Path) {R : Out → Sol → Prop} :
    ∀ (cs : List Expr) (i : Nat),
    Children (fun p c => R (compileNode ctx p c) (populateNode ctx σ p c)) path i cs →
    ∀ s ∈ populateList ctx σ path i cs, ∃ x ∈ compileList ctx path i cs, R x.2 s
  | [], _, _ => by simp [populateList]
  | e :: es, i, h => by
    intro s hs
    rcases List.mem_cons.mp hs with rfl | hs
    · exact ⟨_, List.mem_cons_self .., h.1⟩
    · obtain ⟨x, hx, hr⟩ := children_both ctx σ path es (i + 1) h.2 s hs
      exact ⟨x, List.mem_cons_of_mem _ hx, hr⟩

theorem children_sum_le (ctx : Ctx) (σ : Assign) (path : Path) {f : Sol → Int} {g : Out → Int} :
    ∀ (cs : List Expr) (i : Nat),
    Children (fun p c => f (populateNode ctx σ p c) ≤ g (compileNode ctx p c)) path i cs →
    sumBy f (populateList ctx σ path i cs) ≤ sumBy (fun x => g x.2) (compileList ctx path i cs)
  | [], _, _ => by simp [populateList, compileList]
  | e :: es, i, h => by
    have := children_sum_le ctx σ path es (i + 1) h.2
    have := h.1
    simp only [populateList, compileList, sumBy_cons]
    omega

theorem compileNode_children (ctx : Ctx) (path : Path) (e : Expr) :
    ∀ x ∈ compileList ctx path 0 e.children,
      (∀ v ∈ x.2.vars, v ∈ (compileNode ctx path e).vars) ∧
      (∀ c ∈ x.2.cons, c ∈ (compileNode ctx path e).cons) := by
  cases e <;> simp only [Expr.children, compileList, compileNode, List.mem_append, List.mem_flatMap]
  all_goals grind

/-- Choose and Allocation, the nodes that register usage themselves. -/
def Expr.isLeaf : Expr → Bool
  | .choose .. | .alloc .. => true
  | _ => false

def Expr.isMax : Expr → Bool
  | .max .. => true
  | _ => false

theorem compileNode_regs (ctx : Ctx) (path : Path) (e : Expr) (h : e.isLeaf = false) :
    (compileNode ctx path e).regs = (compileList ctx path 0 e.children).flatMap (·.2.regs) := by
  cases e with
  | choose | alloc => cases h
  | _ => simp [compileNode, Expr.children, compileList]

/-- `σ` respects the bounds of the variables emitted at and below the node. -/
def VarsHold (ctx : Ctx) (σ : Assign) (path : Path) (e : Expr) : Prop :=
  ∀ v ∈ (compileNode ctx path e).vars, Var.holds σ v = true

/-- `σ` satisfies the rows emitted at and below the node. -/
def ConsHold (ctx : Ctx) (σ : Assign) (path : Path) (e : Expr) : Prop :=
  ∀ c ∈ (compileNode ctx path e).cons, Constr.holds σ c = true

theorem varsHold_hereditary (ctx : Ctx) (σ : Assign) : Hereditary (VarsHold ctx σ) :=
  fun path e h => (children_compileList ctx path (R := fun o => ∀ v ∈ o.vars, Var.holds σ v = true) _ 0).mpr
    fun x hx v hv =>
    h v ((compileNode_children ctx path e x hx).1 v hv)

theorem consHold_hereditary (ctx : Ctx) (σ : Assign) : Hereditary (ConsHold ctx σ) :=
  fun path e h => (children_compileList ctx path (R := fun o => ∀ c ∈ o.cons, Constr.holds σ c = true) _ 0).mpr
    fun x hx c hc =>
    h c ((compileNode_children ctx path e x hx).2 c hc)

theorem buildErrList_none : ∀ {cs : List Expr}, buildErrList cs = none → ∀ c ∈ cs, buildErr c = none
  | [], _ => by simp
  | e :: es, h => by
    simp only [buildErrList] at h
    split at h
    · cases h
    · rename_i he
      intro c hc
      rcases List.mem_cons.mp hc with rfl | hc
      · exact he
      · exact buildErrList_none h c hc

/-- `MaxExpression::addChild` accepts Choose children only. -/
theorem buildErr_max {name : String} {cs : List Expr} (h : buildErr (.max name cs) = none) :
    buildErrList cs = none ∧ cs.all isLeafChoose = true := by
  simp only [buildErr] at h
  split at h
  · cases h
  · rename_i hl
    split at h
    · cases h
    · rename_i hc; exact ⟨hl, by simpa using hc⟩

theorem buildErr_children {e : Expr} (h : buildErr e = none) : ∀ c ∈ e.children, buildErr c = none := by
  cases e with
  | choose | alloc => simp [Expr.children]
  | obj _ cs | min _ cs => exact buildErrList_none (cs := cs) (by simpa only [buildErr] using h)
  | max _ cs => exact buildErrList_none (buildErr_max h).1
  | lt _ a b =>
    simp only [buildErr] at h
    split at h
    · cases h
    · rename_i ha; simp [Expr.children, ha, h]
  | scale _ _ _ c => simpa [Expr.children, buildErr] using h

theorem buildErr_hereditary : Hereditary fun _ e => buildErr e = none :=
  fun _ _ h => Children.of_forall fun _ => buildErr_children h

theorem noStaticLtL_iff (ctx : Ctx) (path : Path) : ∀ (cs : List Expr) (i : Nat),
    noStaticLtL ctx path i cs = true ↔ Children (fun p c => noStaticLt ctx p c = true) path i cs
  | [], _ => by simp [noStaticLtL, Children]
  | e :: es, i => by simp [noStaticLtL, Children, noStaticLtL_iff ctx path es (i + 1)]

theorem noStaticLt_lt {ctx : Ctx} {path : Path} {name : String} {a b : Expr}
    (h : noStaticLt ctx path (.lt name a b) = true) :
    ¬((compileNode ctx (0 :: path) a).pr.util = true ∧ (compileNode ctx (1 :: path) b).pr.util = true ∧
      isConst (compileNode ctx (0 :: path) a).pr.stop = true ∧
      isConst (compileNode ctx (1 :: path) b).pr.start = true) := by
  simp only [noStaticLt, Bool.and_eq_true, Bool.not_eq_true'] at h
  rintro ⟨h1, h2, h3, h4⟩
  simp [h1, h2, h3, h4] at h

theorem noStaticLt_hereditary (ctx : Ctx) : Hereditary fun p e => noStaticLt ctx p e = true := by
  intro path e h
  cases e with
  | choose | alloc => trivial
  | obj _ cs | min _ cs | max _ cs => exact (noStaticLtL_iff ctx path cs 0).mp (by simpa only [noStaticLt] using h)
  | lt _ a b =>
    simp only [noStaticLt, Bool.and_eq_true] at h
    exact ⟨h.1.1, h.1.2, trivial⟩
  | scale _ _ _ c => exact ⟨by simpa only [noStaticLt] using h, trivial⟩

theorem wfList_iff (ctx : Ctx) (path : Path) : ∀ (cs : List Expr) (i : Nat),
    wfList ctx path i cs = none ↔ Children (fun p c => wfNode ctx p c = none) path i cs
  | [], _ => by simp [wfList, Children]
  | e :: es, i => by
    simp only [wfList, Children, ← wfList_iff ctx path es (i + 1)]
    split <;> simp [*]

/-- Trees that are built and parsed without an exception. -/
theorem wf_hereditary (ctx : Ctx) : Hereditary fun p e => buildErr e = none ∧ wfNode ctx p e = none := by
  refine fun path e h => (buildErr_hereditary path e h.1).and ?_
  obtain ⟨hb, hw⟩ := h
  cases e with
  | choose | alloc => trivial
  | obj => simp [wfNode] at hw
  | min _ cs =>
    simp only [wfNode] at hw
    split at hw
    · cases hw
    · exact (wfList_iff ctx path cs 0).mp hw
  | max _ cs =>
    -- `Max` does not parse its children: they are leaves, which always parse
    refine Children.of_forall fun p c hc => ?_
    have := List.all_eq_true.mp (buildErr_max hb).2 c hc
    cases c with
    | choose => simp only [wfNode]
    | _ => cases this
  | lt _ a b =>
    simp only [wfNode] at hw
    split at hw
    · cases hw
    · rename_i ha; exact ⟨ha, hw, trivial⟩
  | scale _ _ _ c => exact ⟨by simpa only [wfNode] using hw, trivial⟩

theorem wf_obj {ctx : Ctx} {name : String} {cs : List Expr} (h : wf ctx (.obj name cs) = none) :
    buildErr (.obj name cs) = none ∧ wfList ctx [] 0 cs = none := by
  unfold wf at h
  split at h
  · cases h
  · rename_i hb
    refine ⟨hb, ?_⟩
    simp only at h
    split at h
    · cases h
    · exact h

theorem alignedToL_iff (g r : Nat) : ∀ cs : List Expr, alignedToL g r cs = true ↔ ∀ c ∈ cs, alignedTo g r c = true
  | [] => by simp [alignedToL]
  | e :: es => by simp [alignedToL, alignedToL_iff g r es]

theorem alignedTo_hereditary (g r : Nat) : Hereditary fun _ e => alignedTo g r e = true := by
  refine fun path e h => Children.of_forall fun _ => ?_
  cases e with
  | choose | alloc => exact fun _ hc => nomatch hc
  | obj _ cs | min _ cs | max _ cs => exact (alignedToL_iff g r cs).mp (by simpa only [alignedTo] using h)
  | lt _ a b =>
    simp only [alignedTo, Bool.and_eq_true] at h
    simp only [Expr.children, List.mem_cons, List.not_mem_nil, or_false, forall_eq_or_imp, forall_eq]
    exact h
  | scale _ _ _ c =>
    simp only [Expr.children, List.mem_singleton, forall_eq]
    simpa only [alignedTo] using h

theorem forallNodesL_iff (P : Path → Expr → Prop) (path : Path) : ∀ (cs : List Expr) (i : Nat),
    forallNodesL P path i cs ↔ Children (forallNodes P) path i cs
  | [], _ => by simp [forallNodesL, Children]
  | e :: es, i => by simp [forallNodesL, Children, forallNodesL_iff P path es (i + 1)]

theorem forallNodes_iff (P : Path → Expr → Prop) (path : Path) (e : Expr) :
    forallNodes P path e ↔ P path e ∧ Children (forallNodes P) path 0 e.children := by
  cases e <;> simp only [forallNodes, forallNodesL_iff, Expr.children, Children, and_true]

theorem forallNodes_of_hereditary {H P : Path → Expr → Prop} (hered : Hereditary H)
    (h : ∀ p c, H p c → P p c) : ∀ (e : Expr) (path : Path), H path e → forallNodes P path e :=
  Expr.induction hered fun path e hH ih => (forallNodes_iff P path e).mpr ⟨h path e hH, ih⟩

theorem forallMaxL_iff (P : Path → String → List Expr → Prop) (path : Path) : ∀ (cs : List Expr) (i : Nat),
    forallMaxL P path i cs ↔ Children (forallMax P) path i cs
  | [], _ => by simp [forallMaxL, Children]
  | e :: es, i => by simp [forallMaxL, Children, forallMaxL_iff P path es (i + 1)]

theorem forallMax_of_hereditary {H : Path → Expr → Prop} {P : Path → String → List Expr → Prop}
    (hered : Hereditary H) (h : ∀ p name cs, H p (.max name cs) → P p name cs) :
    ∀ (e : Expr) (path : Path), H path e → forallMax P path e :=
  Expr.induction hered fun path e hH ih => by
    cases e with
    | max name cs => exact h path name cs hH
    | choose | alloc => simp only [forallMax]
    | _ => simpa only [forallMax, forallMaxL_iff, Expr.children, Children, and_true] using ih

theorem foldl_mergeP_sublist : ∀ (pls acc : List Placement), (pls.foldl mergeP acc).Sublist (acc ++ pls)
  | [], acc => by simp
  | p :: pls, acc =>
    (foldl_mergeP_sublist pls (mergeP acc p)).trans
      (by simp [mergeP])

/-- The map keyed by task name only ever drops entries: what the merge keeps is a sublist of
everything the children report. -/
theorem mergeChildren_sublist (sols : List Sol) :
    (mergeChildren sols).Sublist (sols.flatMap (·.placements)) := by
  suffices h : ∀ (sols : List Sol) (acc : List Placement),
      (sols.foldl (fun acc s => if s.utility == some 0 then acc else s.placements.foldl mergeP acc) acc).Sublist
        (acc ++ sols.flatMap (·.placements)) by simpa [mergeChildren] using h sols []
  intro sols
  induction sols with
  | nil => simp
  | cons s sols ih =>
    intro acc
    simp only [List.foldl_cons, List.flatMap_cons, ← List.append_assoc]
    refine (ih _).trans (List.Sublist.append_right ?_ _)
    split
    · exact List.sublist_append_left ..
    · exact foldl_mergeP_sublist ..

theorem mergeChildren_nil (sols : List Sol) (h : ∀ s ∈ sols, s.placements = []) :
    mergeChildren sols = [] :=
  List.sublist_nil.mp (List.flatMap_eq_nil_iff.mpr h ▸ mergeChildren_sublist sols)

theorem evalTerms_append (σ : Assign) (a b : List (Int × VarId)) :
    evalTerms σ (a ++ b) = evalTerms σ a + evalTerms σ b := by
  simp [evalTerms, List.sum_append]

section choose
variable {ctx : Ctx} {σ : Assign} {path : Path} {name strategy : String} {parts : List Nat}
  {n start dur : Nat} {u : Int}

variable (ctx path name strategy parts n start dur u) in
/-- `ChooseExpression::parse` either gives up (start in the past, no schedulable partition) and
emits nothing, or emits its indicator, one allocation variable and the registrations per
schedulable partition, and the demand row. -/
theorem compileChoose_cases :
    compileChoose ctx path name strategy parts n start dur u = ⟨PR.none, [], [], []⟩ ∨
    (ctx.now ≤ start ∧
      compileChoose ctx path name strategy parts n start dur u =
        ⟨⟨true, .const start, .const (start + dur), [(u, some ⟨path, .placed⟩)], some u, .var ⟨path, .placed⟩⟩,
          ⟨⟨path, .placed⟩, chooseVarName name start strategy, .bin, some 0, .none⟩ ::
            (schedulable ctx parts).map (fun p => ⟨⟨path, .using p.id⟩, usingVarName name p.id start, .int,
              some 0, some (Int.ofNat (Nat.min p.qty n))⟩),
          [⟨name ++ "_fulfills_demand_at_" ++ toString start ++ "_for_" ++ strategy, .eq, 0,
            (schedulable ctx parts).map (fun p => ((1 : Int), (⟨path, .using p.id⟩ : VarId))) ++
              [(-(Int.ofNat n), ⟨path, .placed⟩)]⟩],
          (schedulable ctx parts).flatMap (fun p => regsFor ctx p start dur (.var ⟨path, .using p.id⟩))⟩) := by
  unfold compileChoose
  by_cases h1 : ctx.now > start
  · simp [h1]
  · by_cases h2 : (schedulable ctx parts).isEmpty = true
    · simp [h1, h2]
    · simp only [h1, h2, if_false]
      exact Or.inr ⟨by omega, rfl⟩

/-- What the bounds and the demand row of a Choose that provides utility say. -/
theorem choose_rows (hu : (compileChoose ctx path name strategy parts n start dur u).pr.util = true)
    (hv : ∀ v ∈ (compileChoose ctx path name strategy parts n start dur u).vars, Var.holds σ v = true) :
    0 ≤ σ ⟨path, .placed⟩ ∧ σ ⟨path, .placed⟩ ≤ 1 ∧
    (∀ q ∈ schedulable ctx parts, 0 ≤ σ ⟨path, .using q.id⟩ ∧ σ ⟨path, .using q.id⟩ ≤ q.qty) ∧
    ((∀ c ∈ (compileChoose ctx path name strategy parts n start dur u).cons, Constr.holds σ c = true) →
      sumBy (fun q : Partition => σ ⟨path, .using q.id⟩) (schedulable ctx parts) = n * σ ⟨path, .placed⟩) := by
  rcases compileChoose_cases ctx path name strategy parts n start dur u with h | ⟨_, h⟩
  · simp [h, PR.none] at hu
  rw [h] at hv ⊢
  have hind := hv _ (List.mem_cons_self ..)
  simp [Var.holds] at hind
  refine ⟨hind.1, hind.2, fun q hq => ?_, fun hc => ?_⟩
  · have := hv _ (List.mem_cons_of_mem _ (List.mem_map.mpr ⟨q, hq, rfl⟩))
    simp [Var.holds] at this
    have : Nat.min q.qty n ≤ q.qty := Nat.min_le_left _ _
    omega
  · have hd := hc _ (List.mem_singleton.mpr rfl)
    simp only [Constr.holds, decide_eq_true_eq, evalTerms_append] at hd
    simp only [evalTerms, List.map_map, List.map_cons, List.map_nil, List.sum_cons, List.sum_nil,
      map_sum_eq_sumBy, Int.ofNat_eq_natCast] at hd
    simp only [Function.comp_def, Int.one_mul, Int.neg_mul] at hd
    omega

/-- A Choose reports one placement, carrying the non-zero values of its allocation variables,
when it provides utility and `utility · indicator ≠ 0`; nothing otherwise. -/
theorem choose_placements :
    (populateNode ctx σ path (.choose name strategy parts n start dur u)).placements =
      if (compileChoose ctx path name strategy parts n start dur u).pr.util = true ∧ u * σ ⟨path, .placed⟩ ≠ 0 then
        [⟨name, start, start + dur, (schedulable ctx parts).filterMap (fun p =>
          let x := σ ⟨path, .using p.id⟩
          if x == 0 then .none else some (p.id, (start : Int), x))⟩]
      else [] := by
  simp only [populateNode]
  rcases compileChoose_cases ctx path name strategy parts n start dur u with h | ⟨_, h⟩
  · simp [h, PR.none, baseSol, Sol.none]
  · simp only [h, baseSol, evalU]
    by_cases h0 : u * σ ⟨path, .placed⟩ = 0 <;> simp [h0, mergeChildren]

end choose

theorem baseSol_placements (σ : Assign) (pr : PR) (sols : List Sol) :
    (baseSol σ pr sols).placements = if pr.util then mergeChildren sols else [] := by
  unfold baseSol
  cases pr.util <;> rfl

theorem placements_eq (ctx : Ctx) (σ : Assign) (path : Path) (e : Expr) (h : isLeafChoose e = false) :
    (populateNode ctx σ path e).placements =
      if (compileNode ctx path e).pr.util then mergeChildren (populateList ctx σ path 0 e.children) else [] := by
  cases e with
  | choose => cases h
  | obj => rfl
  | alloc => simp only [populateNode, baseSol_placements, compileNode, Expr.children, populateList]
  | _ => simp only [populateNode, baseSol_placements, Expr.children, populateList]

theorem placements_sublist (ctx : Ctx) (σ : Assign) (path : Path) (e : Expr) (h : isLeafChoose e = false) :
    (populateNode ctx σ path e).placements.Sublist
      ((populateList ctx σ path 0 e.children).flatMap (·.placements)) := by
  rw [placements_eq ctx σ path e h]
  split
  · exact mergeChildren_sublist _
  · exact List.nil_sublist _

end ErdosVerif.Strl
