import ErdosVerif.Model.TaskGraph
/-!
The scheduling frontier (`get_schedulable_tasks` selection loop,
`get_releasable_tasks`, release on completion).
-/
namespace ErdosVerif.Model
namespace GraphS

theorem offerDecision_shape (t : TaskS) (e? : Option Int) (time l : Int) (retract r a o b : Bool)
    (h : offerDecision t e? time l retract r a = .ok (o, b)) :
    (o = true ∧ b = true) ∨ (o = false ∧ b = true ∧ (t.state = .completed ∨ t.state = .running)) ∨
    (o = false ∧ b = a) := by
  -- by cases along the `if / elif` chain
  unfold offerDecision at h
  cases hs : t.state <;> simp only [hs] at h <;> simp only [reduceCtorEq, or_self, and_false, or_false]
  all_goals (repeat' split at h)
  all_goals (simp only [Except.ok.injEq, Prod.mk.injEq, reduceCtorEq] at h)
  all_goals (obtain ⟨rfl, rfl⟩ := h; simp)

theorem offerDecision_offered_iff (t : TaskS) (e? : Option Int) (time l : Int) (retract r a o b : Bool)
    (h : offerDecision t e? time l retract r a = .ok (o, b)) :
    o = true ↔
      (t.state = .released ∧ t.release ≤ time + l) ∨ t.state = .preempted ∨ t.state = .evicted ∨
      (t.state = .virtual ∧ ∃ e, e? = some e ∧ ((a && r) = true ∨ ∃ rem, t.remainingTime = .ok rem ∧ e ≤ time + l + rem)) ∨
      (t.state = .scheduled ∧ retract = true ∧ ∃ e, e? = some e ∧
        ((a && r) = true ∨ ∃ s, TaskS.slowest? t.strategies = some s ∧ e ≤ time + l + s.runtime)) := by
  -- by cases along the `if / elif` chain, with the disjuncts for the other states dropped first
  unfold offerDecision at h
  cases hs : t.state <;> simp only [hs] at h <;>
    simp only [reduceCtorEq, false_and, false_or, or_false, true_and]
  all_goals (repeat' split at h)
  all_goals simp_all

theorem offerStep_offered (g : GraphS) (ect : List (Nat × Int)) (time lookahead : Int) (retract rtg : Bool)
    (n : Nat) (a a' : Bool) (h : offerStep g ect time lookahead retract rtg n a = .ok (true, a')) :
    ∃ t, g.task? n = some t ∧
      (t.state = .released ∧ t.release ≤ time + lookahead ∨ t.state = .preempted ∨ t.state = .evicted ∨
       t.state = .virtual ∨ (t.state = .scheduled ∧ retract = true)) := by
  unfold offerStep at h
  cases ht : g.task? n with
  | none => simp [ht] at h
  | some t =>
    simp only [ht] at h
    refine ⟨t, rfl, ?_⟩
    rcases (offerDecision_offered_iff t _ time lookahead retract rtg a true a' h).mp rfl with
      q | q | q | ⟨q, _⟩ | ⟨q, q2, _⟩
    · exact .inl q
    · exact .inr (.inl q)
    · exact .inr (.inr (.inl q))
    · exact .inr (.inr (.inr (.inl q)))
    · exact .inr (.inr (.inr (.inr ⟨q, q2⟩)))

theorem offerStep_ready (g : GraphS) (ect : List (Nat × Int)) (time lookahead : Int) (retract rtg : Bool)
    (n : Nat) (a : Bool) (t : TaskS) (ht : g.task? n = some t)
    (hs : t.state = .released ∧ t.release ≤ time + lookahead ∨ t.state = .preempted ∨ t.state = .evicted) :
    offerStep g ect time lookahead retract rtg n a = .ok (true, true) := by
  rcases hs with ⟨hs, hr⟩ | hs | hs <;> simp [offerStep, offerDecision, *]

/-- One decision is monotone in the lookahead, in `release_taskgraphs` and in `any_released`. -/
theorem offerDecision_mono (t : TaskS) (e? : Option Int) (time l1 l2 : Int) (retract r1 r2 : Bool)
    (a1 a2 o1 o2 b1 b2 : Bool) (hl : l1 ≤ l2) (hr : r1 = true → r2 = true) (ha : a1 = true → a2 = true)
    (h1 : offerDecision t e? time l1 retract r1 a1 = .ok (o1, b1))
    (h2 : offerDecision t e? time l2 retract r2 a2 = .ok (o2, b2)) :
    (o1 = true → o2 = true) ∧ (b1 = true → b2 = true) := by
  have hand : (a1 && r1) = true → (a2 && r2) = true := by
    intro c; simp only [Bool.and_eq_true] at c ⊢; exact ⟨ha c.1, hr c.2⟩
  have key : o1 = true → o2 = true := by
    intro ho
    rw [offerDecision_offered_iff t e? time l2 retract r2 a2 o2 b2 h2]
    rcases (offerDecision_offered_iff t e? time l1 retract r1 a1 o1 b1 h1).mp ho with
      ⟨q1, q2⟩ | q | q | ⟨q, e, he, q2⟩ | ⟨q, qr, e, he, q2⟩
    · exact Or.inl ⟨q1, by omega⟩
    · exact Or.inr (Or.inl q)
    · exact Or.inr (Or.inr (Or.inl q))
    · refine Or.inr (Or.inr (Or.inr (Or.inl ⟨q, e, he, ?_⟩)))
      rcases q2 with q2 | ⟨rem, hrem, q2⟩
      · exact Or.inl (hand q2)
      · exact Or.inr ⟨rem, hrem, by omega⟩
    · refine Or.inr (Or.inr (Or.inr (Or.inr ⟨q, qr, e, he, ?_⟩)))
      rcases q2 with q2 | ⟨s, hs, q2⟩
      · exact Or.inl (hand q2)
      · exact Or.inr ⟨s, hs, by omega⟩
  refine ⟨key, ?_⟩
  intro hb
  rcases offerDecision_shape t e? time l2 retract r2 a2 o2 b2 h2 with ⟨_, q⟩ | ⟨_, q, _⟩ | ⟨q0, q⟩
  · exact q
  · exact q
  · rw [q]
    rcases offerDecision_shape t e? time l1 retract r1 a1 o1 b1 h1 with ⟨p, _⟩ | ⟨_, _, p⟩ | ⟨_, p⟩
    · have := key p; rw [q0] at this; cases this
    · -- COMPLETED / RUNNING give (false, true) under every setting
      have hb2 : b2 = true := by
        unfold offerDecision at h2
        rcases p with p | p <;> simp only [p, Except.ok.injEq, Prod.mk.injEq] at h2 <;> exact h2.2.symm
      rw [← q]; exact hb2
    · apply ha; rw [← p]; exact hb

theorem offerStep_mono (g : GraphS) (ect : List (Nat × Int)) (time l1 l2 : Int) (retract r1 r2 : Bool)
    (n : Nat) (a1 a2 o1 o2 b1 b2 : Bool) (hl : l1 ≤ l2) (hr : r1 = true → r2 = true) (ha : a1 = true → a2 = true)
    (h1 : offerStep g ect time l1 retract r1 n a1 = .ok (o1, b1))
    (h2 : offerStep g ect time l2 retract r2 n a2 = .ok (o2, b2)) :
    (o1 = true → o2 = true) ∧ (b1 = true → b2 = true) := by
  unfold offerStep at h1 h2
  cases ht : g.task? n with
  | none => simp [ht] at h1
  | some t =>
    simp only [ht] at h1 h2
    exact offerDecision_mono t _ time l1 l2 retract r1 r2 a1 a2 o1 o2 b1 b2 hl hr ha h1 h2

theorem selectLoop_cons {g : GraphS} {ect : List (Nat × Int)} {time lookahead : Int} {retract rtg : Bool}
    {m : Nat} {rest : List Nat} {a : Bool} {out L : List Nat}
    (h : selectLoop g ect time lookahead retract rtg (m :: rest) a out = .ok L) :
    ∃ offered a', offerStep g ect time lookahead retract rtg m a = .ok (offered, a') ∧
      selectLoop g ect time lookahead retract rtg rest a' (if offered then out ++ [m] else out) = .ok L := by
  simp only [selectLoop] at h
  cases hstep : offerStep g ect time lookahead retract rtg m a with
  | error e => simp [hstep] at h
  | ok p => exact ⟨p.1, p.2, rfl, by simpa only [hstep] using h⟩

/-- **Only offerable work is offered**: every task the loop adds is in the
traversal order, is not COMPLETED / CANCELLED / RUNNING, and is SCHEDULED only
under retraction. -/
theorem selectLoop_sound (g : GraphS) (ect : List (Nat × Int)) (time lookahead : Int) (retract rtg : Bool) :
    ∀ (topo : List Nat) (a : Bool) (out L : List Nat),
      selectLoop g ect time lookahead retract rtg topo a out = .ok L →
      ∀ n ∈ L, n ∈ out ∨ (n ∈ topo ∧ ∃ t, g.task? n = some t ∧
        t.state ≠ .completed ∧ t.state ≠ .cancelled ∧ t.state ≠ .running ∧
        (t.state = .scheduled → retract = true)) := by
  intro topo
  induction topo with
  | nil => intro a out L h n hn; simp only [selectLoop, Except.ok.injEq] at h; subst h; exact Or.inl hn
  | cons m rest ih =>
    intro a out L h n hn
    obtain ⟨offered, a', hstep, h⟩ := selectLoop_cons h
    rcases ih a' _ L h n hn with h1 | ⟨h1, h2⟩
    · cases offered with
      | false => exact Or.inl (by simpa using h1)
      | true =>
        simp only [if_true, List.mem_append, List.mem_singleton] at h1
        rcases h1 with h1 | rfl
        · exact Or.inl h1
        · obtain ⟨t, ht, hst⟩ := offerStep_offered g ect time lookahead retract rtg n a a' hstep
          refine Or.inr ⟨by simp, t, ht, ?_⟩
          rcases hst with ⟨hs, _⟩ | hs | hs | hs | ⟨hs, hr⟩ <;> simp [hs]
          exact hr
    · exact Or.inr ⟨List.mem_cons_of_mem _ h1, h2⟩

theorem selectLoop_keeps (g : GraphS) (ect : List (Nat × Int)) (time lookahead : Int) (retract rtg : Bool) :
    ∀ (topo : List Nat) (a : Bool) (out L : List Nat),
      selectLoop g ect time lookahead retract rtg topo a out = .ok L → ∀ n ∈ out, n ∈ L := by
  intro topo
  induction topo with
  | nil => intro a out L h n hn; simp only [selectLoop, Except.ok.injEq] at h; subst h; exact hn
  | cons m rest ih =>
    intro a out L h n hn
    obtain ⟨offered, a', -, h⟩ := selectLoop_cons h
    exact ih a' _ L h n (by cases offered <;> simp [hn])

/-- **No ready task is starved**: every RELEASED task in the traversal order
whose release time is within the horizon is in the offer; so is every PREEMPTED
or EVICTED task. -/
theorem selectLoop_complete (g : GraphS) (ect : List (Nat × Int)) (time lookahead : Int) (retract rtg : Bool) :
    ∀ (topo : List Nat) (a : Bool) (out L : List Nat),
      selectLoop g ect time lookahead retract rtg topo a out = .ok L →
      ∀ n ∈ topo, ∀ t, g.task? n = some t →
        (t.state = .released ∧ t.release ≤ time + lookahead ∨ t.state = .preempted ∨ t.state = .evicted) →
        n ∈ L := by
  intro topo
  induction topo with
  | nil => intro a out L _ n hn; simp at hn
  | cons m rest ih =>
    intro a out L h n hn t ht hst
    obtain ⟨offered, a', hstep, h⟩ := selectLoop_cons h
    rcases List.mem_cons.mp hn with rfl | hn
    · rw [offerStep_ready g ect time lookahead retract rtg n a t ht hst] at hstep
      obtain ⟨rfl, -⟩ : true = offered ∧ true = a' := by simpa using hstep
      exact selectLoop_keeps g ect time lookahead retract rtg rest a' _ L h n (by simp)
    · exact ih a' _ L h n hn t ht hst

/-- **Increasing the lookahead or releasing whole task graphs only adds tasks to
the offer** (same estimated completion times, i.e. same random tape). -/
theorem selectLoop_mono (g : GraphS) (ect : List (Nat × Int)) (time l1 l2 : Int) (retract r1 r2 : Bool)
    (hl : l1 ≤ l2) (hr : r1 = true → r2 = true) :
    ∀ (topo : List Nat) (a1 a2 : Bool) (out1 out2 L1 L2 : List Nat),
      (a1 = true → a2 = true) → (∀ n ∈ out1, n ∈ out2) →
      selectLoop g ect time l1 retract r1 topo a1 out1 = .ok L1 →
      selectLoop g ect time l2 retract r2 topo a2 out2 = .ok L2 →
      ∀ n ∈ L1, n ∈ L2 := by
  intro topo
  induction topo with
  | nil =>
    intro a1 a2 out1 out2 L1 L2 _ hsub h1 h2 n hn
    simp only [selectLoop, Except.ok.injEq] at h1 h2
    subst h1; subst h2; exact hsub n hn
  | cons m rest ih =>
    intro a1 a2 out1 out2 L1 L2 ha hsub h1 h2
    obtain ⟨o1, b1, hs1, h1⟩ := selectLoop_cons h1
    obtain ⟨o2, b2, hs2, h2⟩ := selectLoop_cons h2
    obtain ⟨mo, mb⟩ := offerStep_mono g ect time l1 l2 retract r1 r2 m a1 a2 o1 o2 b1 b2 hl hr ha hs1 hs2
    apply ih b1 b2 _ _ L1 L2 mb _ h1 h2
    intro n hn
    cases o1 with
    | false =>
      simp only [Bool.false_eq_true, if_false] at hn
      cases o2 <;> simp [hsub n hn]
    | true =>
      obtain rfl := mo rfl
      simp only [if_true, List.mem_append, List.mem_singleton] at hn ⊢
      exact hn.imp_left (hsub n)

theorem getReleasable_spec (g : GraphS) (n : Nat) :
    n ∈ g.getReleasable ↔
      n < g.tasks.size ∧
      (g.stateOf n = .virtual ∨ g.stateOf n = .scheduled ∨ g.stateOf n = .preempted) ∧
      ∀ p ∈ g.pars n, g.completeOf p = true := by
  simp only [getReleasable, nodes, List.mem_filter, List.mem_range, Bool.and_eq_true, Bool.or_eq_true,
    beq_iff_eq, List.all_eq_true, or_assoc]

/-- The release rule for the children of a completed, non-conditional task. -/
def releasedBy (g : GraphS) (c : Nat) : Bool :=
  match g.task? c with
  | none => false
  | some tc => tc.state != .cancelled && (tc.terminal || (g.pars c).all g.completeOf)

theorem notify_go_spec (g : GraphS) :
    ∀ (kids acc : List Nat) (tape : List Draw),
      (notifyCompletion.go g kids acc tape).err = none →
      (notifyCompletion.go g kids acc tape).released = acc ++ kids.filter g.releasedBy ∧
      (notifyCompletion.go g kids acc tape).cancelled = [] ∧
      (notifyCompletion.go g kids acc tape).g = g ∧
      (notifyCompletion.go g kids acc tape).tape = tape := by
  intro kids
  induction kids with
  | nil => intro acc tape _; simp [notifyCompletion.go]
  | cons c rest ih =>
    intro acc tape herr
    simp only [notifyCompletion.go] at herr ⊢
    cases htc : g.task? c with
    | none => simp [htc] at herr
    | some tc =>
      simp only [htc] at herr ⊢
      split at herr
      · simp at herr
      · rename_i h1
        simp only [h1, Bool.false_eq_true, if_false]
        split at herr
        · rename_i h2
          simp only [h2, if_true]
          have := ih acc tape herr
          have hf : g.releasedBy c = false := by
            have : tc.state = .cancelled := by simpa using h2
            simp [releasedBy, htc, this]
          simpa [List.filter_cons, hf] using this
        · rename_i h2
          simp only [h2, Bool.false_eq_true, if_false]
          split at herr
          · rename_i h3
            simp only [h3, if_true]
            have := ih (acc ++ [c]) tape herr
            have hf : g.releasedBy c = true := by
              simp only [releasedBy, htc, Bool.and_eq_true, bne_iff_ne, ne_eq]
              exact ⟨by simpa using h2, h3⟩
            simpa [List.filter_cons, hf, List.append_assoc] using this
          · rename_i h3
            simp only [h3, Bool.false_eq_true, if_false]
            have := ih acc tape herr
            have hf : g.releasedBy c = false := by
              simp only [releasedBy, htc, Bool.and_eq_false_iff]
              right; simpa using h3
            simpa [List.filter_cons, hf] using this

/-- **Release on completion** (non-conditional task): exactly the children that
are not cancelled and are either a join (terminal) or have every parent complete
are released, in child order; nothing is cancelled; no draw is consumed. -/
theorem notify_nonconditional (g : GraphS) (n : Nat) (finish : Int) (tape : List Draw) (t : TaskS)
    (ht : g.task? n = some t) (hc : t.isComplete = true) (hnc : t.conditional = false)
    (herr : (g.notifyCompletion n finish tape).err = none) :
    (g.notifyCompletion n finish tape).released = (g.kids n).filter g.releasedBy ∧
    (g.notifyCompletion n finish tape).cancelled = [] ∧
    (g.notifyCompletion n finish tape).g = g ∧
    (g.notifyCompletion n finish tape).tape = tape := by
  unfold notifyCompletion at herr ⊢
  simp only [ht, hc, hnc, Bool.not_true, Bool.false_eq_true, if_false] at herr ⊢
  simpa using notify_go_spec g (g.kids n) [] tape herr

end GraphS
end ErdosVerif.Model
