/-
Specification vocabulary for the graph model M3 (`Model/Graph.lean`) and the
basic dictionary / fold lemmas every C17 proof uses.

Definitions here are *specification-side*: edges, reachability, cycles, paths,
well-formedness of a graph state.  Nothing here is executable-model code.
-/
import ErdosVerif.Model.Graph
import ErdosVerif.Lemmas.Nodup

namespace ErdosVerif.Model

theorem not_mem_of_nodup_append_cons {l₁ l₂ : List Nat} {a : Nat} (h : (l₁ ++ a :: l₂).Nodup) :
    a ∉ l₁ :=
  fun ha => (List.nodup_append.mp h).2.2 a ha a (List.mem_cons_self ..) rfl

namespace Dict
variable {β : Type}

/-- `List.lookup` on a cons cell, with the test as a proposition. -/
theorem lookup_cons (k a : Nat) (b : β) (r : Dict β) :
    List.lookup k ((a, b) :: r) = if k = a then some b else List.lookup k r := by
  rw [List.lookup_cons]; split <;> simp_all

theorem lookup_set (d : Dict β) (k k' : Nat) (v : β) :
    List.lookup k' (Dict.set d k v) = if k' = k then some v else List.lookup k' d := by
  induction d with
  | nil => simp [Dict.set, lookup_cons]
  | cons p r ih =>
    obtain ⟨a, b⟩ := p
    simp only [Dict.set]
    split <;> simp only [lookup_cons, ih] <;> grind

theorem lookup_set_self (d : Dict β) (k : Nat) (v : β) :
    List.lookup k (Dict.set d k v) = some v := by
  simp [lookup_set]

theorem lookup_set_ne (d : Dict β) {k k' : Nat} (v : β) (h : k' ≠ k) :
    List.lookup k' (Dict.set d k v) = List.lookup k' d := by
  simp [lookup_set, h]

theorem keys_set (d : Dict β) (k : Nat) (v : β) :
    (Dict.set d k v).map Prod.fst =
      if (List.lookup k d).isSome then d.map Prod.fst else d.map Prod.fst ++ [k] := by
  induction d with
  | nil => simp [Dict.set]
  | cons p r ih =>
    obtain ⟨a, b⟩ := p
    simp only [Dict.set, lookup_cons]
    split <;> grind

theorem lookup_isSome_iff_mem_keys (d : Dict β) (k : Nat) :
    (List.lookup k d).isSome = true ↔ k ∈ d.map Prod.fst := by
  induction d with
  | nil => simp
  | cons p r ih =>
    obtain ⟨a, b⟩ := p
    rw [lookup_cons, List.map_cons, List.mem_cons]
    split
    · next h => simp [h]
    · next h => simp [h, ih]

theorem lookup_eq_none_iff (d : Dict β) (k : Nat) :
    List.lookup k d = none ↔ k ∉ d.map Prod.fst := by
  rw [← lookup_isSome_iff_mem_keys]
  cases List.lookup k d <;> simp

theorem nodup_keys_set {d : Dict β} (h : (d.map Prod.fst).Nodup) (k : Nat) (v : β) :
    ((Dict.set d k v).map Prod.fst).Nodup := by
  rw [keys_set]
  split
  · exact h
  · next hk => exact nodup_concat h (by rwa [← lookup_isSome_iff_mem_keys])

theorem mem_of_lookup_eq_some {d : Dict β} {k : Nat} {v : β} (h : List.lookup k d = some v) :
    (k, v) ∈ d := by
  induction d with
  | nil => simp at h
  | cons p r ih =>
    obtain ⟨a, b⟩ := p
    by_cases hk : k = a <;> simp_all [lookup_cons]

theorem lookup_eq_some_of_mem {d : Dict β} (hd : (d.map Prod.fst).Nodup) {k : Nat} {v : β}
    (h : (k, v) ∈ d) : List.lookup k d = some v := by
  induction d with
  | nil => simp at h
  | cons p r ih =>
    obtain ⟨a, b⟩ := p
    simp only [List.map_cons, List.nodup_cons] at hd
    rcases List.mem_cons.mp h with h | h
    · cases h; simp
    · have : k ≠ a := fun e => hd.1 (e ▸ List.mem_map.mpr ⟨(k, v), h, rfl⟩)
      simp [lookup_cons, this, ih hd.2 h]

theorem lookup_map_mk {f : Nat → β} {l : List Nat} {k : Nat} {v : β}
    (h : List.lookup k (l.map fun n => (n, f n)) = some v) : v = f k := by
  have := mem_of_lookup_eq_some h
  simp only [List.mem_map, Prod.mk.injEq] at this
  obtain ⟨_, _, rfl, rfl⟩ := this
  rfl

end Dict

theorem foldE_nil {α σ : Type} (f : α → σ → Except String σ) (s : σ) : foldE f [] s = .ok s := rfl

theorem foldE_cons {α σ : Type} (f : α → σ → Except String σ) (a : α) (as : List α) (s : σ) :
    foldE f (a :: as) s = match f a s with
      | .error e => .error e
      | .ok s' => foldE f as s' := rfl

theorem foldE_append {α σ : Type} (f : α → σ → Except String σ) (l₁ l₂ : List α) (s : σ) :
    foldE f (l₁ ++ l₂) s = match foldE f l₁ s with
      | .error e => .error e
      | .ok s' => foldE f l₂ s' := by
  induction l₁ generalizing s with
  | nil => rfl
  | cons a as ih =>
    simp only [List.cons_append, foldE_cons]
    cases f a s with
    | error e => rfl
    | ok s' => exact ih s'

def Yields {ε σ : Type} (r : Except ε σ) (P : σ → Prop) (R : ε → Prop) : Prop :=
  match r with
  | .ok s => P s
  | .error e => R e

theorem Yields.of_ok {ε σ : Type} {r : Except ε σ} {P : σ → Prop} {R : ε → Prop}
    (h : Yields r P R) {s : σ} (e : r = .ok s) : P s := by
  subst e; exact h

theorem Yields.of_error {ε σ : Type} {r : Except ε σ} {P : σ → Prop} {R : ε → Prop}
    (h : Yields r P R) {e : ε} (he : r = .error e) : R e := by
  subst he; exact h

theorem Yields.imp {ε σ : Type} {r : Except ε σ} {P P' : σ → Prop} {R : ε → Prop}
    (h : Yields r P R) (hP : ∀ s, P s → P' s) : Yields r P' R := by
  cases r with
  | ok s => exact hP s h
  | error e => exact h

namespace Graph

def Edge (g : Graph) (u v : Nat) : Prop := v ∈ g.childrenOf u

instance (g : Graph) (u v : Nat) : Decidable (g.Edge u v) := by unfold Edge; infer_instance

inductive Reach (g : Graph) : Nat → Nat → Prop
  | refl (u : Nat) : Reach g u u
  | head {u v w : Nat} : g.Edge u v → Reach g v w → Reach g u w

def HasCycle (g : Graph) : Prop := ∃ u v, g.Edge u v ∧ g.Reach v u

def Acyclic (g : Graph) : Prop := ¬ g.HasCycle

def IsPath (g : Graph) : List Nat → Prop
  | [] => True
  | [_] => True
  | u :: v :: r => g.Edge u v ∧ IsPath g (v :: r)

def IsSourceSinkPath (g : Graph) (p : List Nat) : Prop :=
  g.IsPath p ∧ ∃ s t, p.head? = some s ∧ p.getLast? = some t ∧
    g.hasNode s = true ∧ g.parentsOf s = [] ∧ g.childrenOf t = []

def Before (l : List Nat) (u v : Nat) : Prop := l.idxOf u < l.idxOf v

/-- Reachable-state invariant of `Graph` (holds for every graph built with
`add_node` / `add_child` / `Graph(nodes=…)` / `remove`, see `GraphWF.lean` and
`GraphRemove.lean`). -/
structure WF (g : Graph) : Prop where
  /-- `_graph` is a dict: keys are distinct. -/
  nodupKeys : (g.children.map Prod.fst).Nodup
  /-- every child is itself a key of `_graph`. -/
  closed : ∀ u v, g.Edge u v → g.hasNode v = true
  /-- `_parent_graph[v]` lists `u` once per occurrence of `v` in `_graph[u]`. -/
  parentsCount : ∀ u v, (g.parentsOf v).count u = (g.childrenOf u).count v

/-- No parallel edges. -/
def Simple (g : Graph) : Prop := ∀ u, (g.childrenOf u).Nodup

theorem Before.irrefl {l : List Nat} {a : Nat} : ¬ Before l a a := Nat.lt_irrefl _

theorem Before.trans {l : List Nat} {a b c : Nat} (h₁ : Before l a b) (h₂ : Before l b c) :
    Before l a c := Nat.lt_trans h₁ h₂

/-- Only the later element may be absent from the list. -/
theorem Before.mem_left {l : List Nat} {u v : Nat} (h : Before l u v) : u ∈ l :=
  List.idxOf_lt_length_iff.mp (Nat.lt_of_lt_of_le h List.idxOf_le_length)

theorem idxOf_append_of_mem {l₁ l₂ : List Nat} {u : Nat} (h : u ∈ l₁) :
    (l₁ ++ l₂).idxOf u = l₁.idxOf u := by
  rw [List.idxOf_append, if_pos h]

theorem length_le_idxOf_append {l₁ l₂ : List Nat} {u : Nat} (h : u ∉ l₁) :
    l₁.length ≤ (l₁ ++ l₂).idxOf u := by
  rw [List.idxOf_append, if_neg h]; omega

theorem Before.mem_of_idxOf_le {l₁ l₂ : List Nat} {u v : Nat} (h : Before (l₁ ++ l₂) u v)
    (hv : (l₁ ++ l₂).idxOf v ≤ l₁.length) : u ∈ l₁ := by
  apply Classical.byContradiction
  intro hu
  have := length_le_idxOf_append (l₂ := l₂) hu
  unfold Before at h
  omega

theorem Before.mem_prefix {l₁ l₂ : List Nat} {u v : Nat} (h : Before (l₁ ++ l₂) u v)
    (hv : v ∈ l₁) : u ∈ l₁ :=
  h.mem_of_idxOf_le (idxOf_append_of_mem hv ▸ List.idxOf_le_length)

theorem Before.append_right {l : List Nat} {u v : Nat} (h : Before l u v) (hv : v ∈ l)
    (r : List Nat) : Before (l ++ r) u v := by
  unfold Before
  rw [idxOf_append_of_mem h.mem_left, idxOf_append_of_mem hv]
  exact h

theorem Before.of_mem_of_not_mem {l : List Nat} {u v : Nat} (hu : u ∈ l) (hv : v ∉ l)
    (r : List Nat) : Before (l ++ r) u v := by
  unfold Before
  rw [idxOf_append_of_mem hu]
  exact Nat.lt_of_lt_of_le (List.idxOf_lt_length_iff.mpr hu) (length_le_idxOf_append hv)

theorem simple_of_forall_mem {g : Graph} (h : ∀ p ∈ g.children, p.2.Nodup) : g.Simple := by
  intro u
  unfold childrenOf
  cases hl : List.lookup u g.children with
  | none => simp
  | some cs => exact h _ (Dict.mem_of_lookup_eq_some hl)

theorem hasNode_iff_mem_getNodes (g : Graph) (n : Nat) : g.hasNode n = true ↔ n ∈ g.getNodes :=
  Dict.lookup_isSome_iff_mem_keys g.children n

theorem hasNode_iff_lookup {g : Graph} {n : Nat} :
    g.hasNode n = true ↔ ∃ cs, List.lookup n g.children = some cs :=
  Option.isSome_iff_exists

theorem lookup_iff_hasNode {β : Type} {g : Graph} {d : Dict β} (hk : d.map Prod.fst = g.getNodes)
    {n : Nat} : (∃ x, List.lookup n d = some x) ↔ g.hasNode n = true := by
  rw [← Option.isSome_iff_exists, Dict.lookup_isSome_iff_mem_keys, hk, hasNode_iff_mem_getNodes]

theorem mem_getSources {g : Graph} {x : Nat} :
    x ∈ g.getSources ↔ g.hasNode x = true ∧ g.parentsOf x = [] := by
  simp [getSources, hasNode_iff_mem_getNodes, List.isEmpty_iff]

theorem length_le_size_of_nodup_nodes {g : Graph} {l : List Nat} (hl : l.Nodup)
    (hn : ∀ x ∈ l, g.hasNode x = true) : l.length ≤ g.size := by
  have : g.size = g.getNodes.length := by simp [size, getNodes]
  rw [this]
  exact hl.length_le_of_subset (fun x hx => (hasNode_iff_mem_getNodes g x).mp (hn x hx))

theorem edge_iff_lookup {g : Graph} {u v : Nat} :
    g.Edge u v ↔ ∃ cs, List.lookup u g.children = some cs ∧ v ∈ cs := by
  unfold Edge childrenOf
  cases List.lookup u g.children <;> simp

theorem Edge.left_hasNode {g : Graph} {u v : Nat} (h : g.Edge u v) : g.hasNode u = true :=
  let ⟨cs, hl, _⟩ := edge_iff_lookup.mp h
  hasNode_iff_lookup.mpr ⟨cs, hl⟩

theorem childrenOf_of_lookup {g : Graph} {u : Nat} {cs : List Nat}
    (h : List.lookup u g.children = some cs) : g.childrenOf u = cs := by
  simp [childrenOf, h]

theorem Reach.single {g : Graph} {u v : Nat} (h : g.Edge u v) : g.Reach u v :=
  .head h (.refl v)

theorem Reach.trans {g : Graph} {u v w : Nat} (h₁ : g.Reach u v) (h₂ : g.Reach v w) : g.Reach u w := by
  induction h₁ with
  | refl => exact h₂
  | head e _ ih => exact .head e (ih h₂)

theorem Reach.tail {g : Graph} {u v w : Nat} (h₁ : g.Reach u v) (e : g.Edge v w) : g.Reach u w :=
  h₁.trans (.single e)

theorem WF.mem_parentsOf {g : Graph} (wf : g.WF) {u v : Nat} : u ∈ g.parentsOf v ↔ g.Edge u v := by
  unfold Edge
  rw [← List.count_pos_iff, ← List.count_pos_iff, wf.parentsCount]

theorem Reach.closed {g : Graph} {P : Nat → Prop} (hP : ∀ u v, P u → g.Edge u v → P v) {u v : Nat}
    (h : g.Reach u v) (hu : P u) : P v := by
  induction h with
  | refl => exact hu
  | head e _ ih => exact ih (hP _ _ hu e)

theorem Reach.eq_or_lt {g : Graph} {f : Nat → Nat} (hf : ∀ u v, g.Edge u v → f u < f v) {a b : Nat}
    (h : g.Reach a b) : a = b ∨ f a < f b := by
  induction h with
  | refl => exact .inl rfl
  | head e _ ih => exact .inr (ih.elim (fun e' => e' ▸ hf _ _ e) (Nat.lt_trans (hf _ _ e)))

theorem WF.reach_hasNode {g : Graph} (wf : g.WF) {u v : Nat} (h : g.Reach u v)
    (hu : g.hasNode u = true) : g.hasNode v = true :=
  h.closed (fun u v _ e => wf.closed u v e) hu

end Graph
end ErdosVerif.Model
