import ErdosVerif.Model.Sim
import ErdosVerif.Lemmas.SimAux
/-!
`Sim.editPending`: the in-place edit of a cached TASK_PLACEMENT event that is still in the
local list of `__handle_scheduler_finish` (second placement of a task within one scheduler
answer). The edit changes the time and the placement of at most the events with the cached
id; identity, type, task and the length / order of the list are kept. `retime` is the edit that
`editPending_eq` of `Lemmas/SimEvents.lean` shows `editPending` to be.
-/
namespace ErdosVerif.Model.Sim

def retime (pt : Int) (p : PlacementS) (e : SEvent) : SEvent :=
  { e with ev := { e.ev with time := pt }, placement := some p }

@[simp] theorem retime_eid (pt : Int) (p : PlacementS) (e : SEvent) : (retime pt p e).ev.eid = e.ev.eid := rfl
@[simp] theorem retime_etype (pt : Int) (p : PlacementS) (e : SEvent) : (retime pt p e).ev.etype = e.ev.etype := rfl
@[simp] theorem retime_task (pt : Int) (p : PlacementS) (e : SEvent) : (retime pt p e).ev.task = e.ev.task := rfl
@[simp] theorem retime_tid (pt : Int) (p : PlacementS) (e : SEvent) : (retime pt p e).tid = e.tid := rfl
@[simp] theorem retime_graph (pt : Int) (p : PlacementS) (e : SEvent) : (retime pt p e).graph = e.graph := rfl
@[simp] theorem retime_time (pt : Int) (p : PlacementS) (e : SEvent) : (retime pt p e).ev.time = pt := rfl
@[simp] theorem retime_placement (pt : Int) (p : PlacementS) (e : SEvent) : (retime pt p e).placement = some p := rfl

theorem mem_editPending {c : Option Nat} {p : PlacementS} {evs : List SEvent} {e : SEvent}
    (h : e ∈ editPending c p evs) :
    e ∈ evs ∨ ∃ eid pt e0, c = some eid ∧ p.time = some pt ∧ e0 ∈ evs ∧ e0.ev.eid = eid ∧ e = retime pt p e0 := by
  unfold editPending at h
  split at h
  · rename_i eid pt hpt
    obtain ⟨e0, he0, rfl⟩ := List.mem_map.mp h
    by_cases hc : (e0.ev.eid == eid) = true
    · right
      refine ⟨eid, pt, e0, rfl, hpt, he0, eq_of_beq hc, ?_⟩
      simp only [hc, if_true]; rfl
    · left
      simp only [hc]
      exact he0
  · exact Or.inl h

theorem editPending_forall {P : SEvent → Prop} (hP : ∀ pt p e, P e → P (retime pt p e))
    (c : Option Nat) (p : PlacementS) (evs : List SEvent) (h : ∀ e ∈ evs, P e) :
    ∀ e ∈ editPending c p evs, P e := by
  intro e he
  rcases mem_editPending he with he | ⟨_, pt, e0, _, _, he0, _, rfl⟩
  · exact h e he
  · exact hP pt p e0 (h e0 he0)

@[simp] theorem editPending_none (p : PlacementS) (evs : List SEvent) : editPending none p evs = evs := by
  unfold editPending; rfl

@[simp] theorem editPending_nil (c : Option Nat) (p : PlacementS) : editPending c p [] = [] := by
  unfold editPending; split <;> rfl

@[simp] theorem editPending_length (c : Option Nat) (p : PlacementS) (evs : List SEvent) :
    (editPending c p evs).length = evs.length := by
  unfold editPending; split <;> simp

theorem editPending_map {β : Type} (f : SEvent → β) (hf : ∀ pt p e, f (retime pt p e) = f e)
    (c : Option Nat) (p : PlacementS) (evs : List SEvent) :
    (editPending c p evs).map f = evs.map f := by
  unfold editPending
  split
  · rename_i eid pt _
    rw [List.map_map]
    apply List.map_congr_left
    intro e _
    simp only [Function.comp]
    split
    · exact hf pt p e
    · rfl
  · rfl

theorem editPending_map_eid (c : Option Nat) (p : PlacementS) (evs : List SEvent) :
    (editPending c p evs).map (·.ev.eid) = evs.map (·.ev.eid) :=
  editPending_map _ (fun _ _ _ => rfl) c p evs

theorem editPending_map_etype (c : Option Nat) (p : PlacementS) (evs : List SEvent) :
    (editPending c p evs).map (·.ev.etype) = evs.map (·.ev.etype) :=
  editPending_map _ (fun _ _ _ => rfl) c p evs

theorem editPending_map_tid (c : Option Nat) (p : PlacementS) (evs : List SEvent) :
    (editPending c p evs).map (·.tid) = evs.map (·.tid) :=
  editPending_map _ (fun _ _ _ => rfl) c p evs

end ErdosVerif.Model.Sim
