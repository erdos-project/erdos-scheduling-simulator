import Std.Do
import Std.Tactic.Do
import ErdosVerif.Model.Sim
import ErdosVerif.Lemmas.SimAux
/-!
What every Hoare-triple development over `Model/Sim.lean` shares. Adequacy: a triple about `init; run fuel` is a
statement about the state `simulate` ends in, on either exit. The loop rule: what one `iter`
keeps, `run` keeps (and `runK`, the loop cut after `k` iterations, whose final states are the
states at the loop head). And the case analysis of the scheduler-restart decision `restart`:
C05 reads its clauses off it, the run-level developments need only the type of the event decided on.
-/
open Std.Do
set_option mvcgen.warning false

namespace ErdosVerif.Model.Sim

def HoldsAfter {α} (Q : α → SimS → Prop) (W : SimS → Prop) : Except SErr α × SimS → Prop
  | (.ok a, s) => Q a s
  | (.error _, s) => W s

theorem triple_run {α} (x : SimM α) (P : SimS → Prop) (Q : α → SimS → Prop) (W : SimS → Prop)
    (hk : ⦃fun s => ⌜P s⌝⦄ x ⦃post⟨fun a s => ⌜Q a s⌝, fun _ s => ⌜W s⌝⟩⦄) (s0 : SimS) (h : P s0) :
    HoldsAfter Q W ((ExceptT.run x).run s0) := by
  have := hk s0 h
  simp only [wp, PredTrans.apply_pushExcept, PredTrans.apply_pushArg, Id.run] at this
  revert this
  cases (StateT.run (ExceptT.run x) s0) with
  | mk r s => cases r <;> (intro h; exact h)

theorem triple_of_run {α} (x : SimM α) (P : SimS → Prop) (Q : α → SimS → Prop) (W : SimS → Prop)
    (h : ∀ s0, P s0 → HoldsAfter Q W ((ExceptT.run x).run s0)) :
    ⦃fun s => ⌜P s⌝⦄ x ⦃post⟨fun a s => ⌜Q a s⌝, fun _ s => ⌜W s⌝⟩⦄ := by
  intro s0 hp
  have := h s0 hp
  simp only [wp, PredTrans.apply_pushExcept, PredTrans.apply_pushArg, Id.run]
  revert this
  cases (StateT.run (ExceptT.run x) s0) with
  | mk r s => cases r <;> (intro h; exact h)

theorem HoldsAfter.imp {α} {Q Q' : α → SimS → Prop} {W W' : SimS → Prop} {r : Except SErr α × SimS}
    (h : HoldsAfter Q W r) (hQ : ∀ a s, Q a s → Q' a s) (hW : ∀ s, W s → W' s) : HoldsAfter Q' W' r := by
  obtain ⟨_ | _, _⟩ := r
  · exact hW _ h
  · exact hQ _ _ h

theorem holdsAfter_simulate (s0 : SimS) (fuel : Nat) {Q W : SimS → Prop}
    (h : HoldsAfter (fun _ => Q) W ((ExceptT.run (do init; run fuel)).run s0)) :
    ((simulate s0 fuel).1 = none → Q (simulate s0 fuel).2) ∧
    ((simulate s0 fuel).1 ≠ none → W (simulate s0 fuel).2) := by
  unfold simulate
  revert h
  cases (StateT.run (ExceptT.run (do init; run fuel)) s0) with
  | mk r s => cases r <;> simp [HoldsAfter]

/-- `simulate()` cut after at most `k` iterations of its loop; returns whether the loop ended
(SIMULATOR_END was handled). The states it returns in are exactly the states at the loop head. -/
def runK : Nat → SimM Bool
  | 0 => pure false
  | k + 1 => do
    if ← iter then pure true
    else runK k

section Loop
variable {P W E : SimS → Prop}

/-- Running out of fuel is a raise, hence `hw`. -/
theorem run_triple (hw : ∀ s, P s → W s)
    (hiter : ⦃fun s => ⌜P s⌝⦄ iter ⦃post⟨fun b s => ⌜P s ∧ (b = true → E s)⌝, fun _ s => ⌜W s⌝⟩⦄) (n : Nat) :
    ⦃fun s => ⌜P s⌝⦄ run n ⦃post⟨fun _ s => ⌜P s ∧ E s⌝, fun _ s => ⌜W s⌝⟩⦄ := by
  induction n with
  | zero => mvcgen [run]; exact hw _ ‹_›
  | succ n ih =>
    rw [run]
    mvcgen [ih, hiter] with try first | assumption | exact And.left ‹_›
    have h := ‹P _ ∧ _›
    exact ⟨h.1, h.2 ‹_›⟩

theorem runK_triple (hiter : ⦃fun s => ⌜P s⌝⦄ iter ⦃post⟨fun b s => ⌜P s ∧ (b = true → E s)⌝, fun _ s => ⌜W s⌝⟩⦄)
    (k : Nat) : ⦃fun s => ⌜P s⌝⦄ runK k ⦃post⟨fun _ s => ⌜P s⌝, fun _ s => ⌜W s⌝⟩⦄ := by
  induction k with
  | zero => mvcgen [runK]
  | succ k ih => rw [runK]; mvcgen [ih, hiter] with try first | assumption | exact And.left ‹_›

theorem afterInit_triple {P0 : SimS → Prop} {α} {x : SimM α} {Q : α → SimS → Prop}
    (hinit : ⦃fun s => ⌜P0 s⌝⦄ init ⦃post⟨fun _ s => ⌜P s⌝, fun _ s => ⌜W s⌝⟩⦄)
    (hx : ⦃fun s => ⌜P s⌝⦄ x ⦃post⟨fun a s => ⌜Q a s⌝, fun _ s => ⌜W s⌝⟩⦄) :
    ⦃fun s => ⌜P0 s⌝⦄ (do init; x) ⦃post⟨fun a s => ⌜Q a s⌝, fun _ s => ⌜W s⌝⟩⦄ := by
  mvcgen [hinit, hx]

theorem simulate_loop {P0 : SimS → Prop} (hw : ∀ s, P s → W s)
    (hinit : ⦃fun s => ⌜P0 s⌝⦄ init ⦃post⟨fun _ s => ⌜P s⌝, fun _ s => ⌜W s⌝⟩⦄)
    (hiter : ⦃fun s => ⌜P s⌝⦄ iter ⦃post⟨fun b s => ⌜P s ∧ (b = true → E s)⌝, fun _ s => ⌜W s⌝⟩⦄)
    (s0 : SimS) (fuel : Nat) (h : P0 s0) :
    ((simulate s0 fuel).1 = none → P (simulate s0 fuel).2 ∧ E (simulate s0 fuel).2) ∧ W (simulate s0 fuel).2 := by
  have := holdsAfter_simulate s0 fuel (triple_run _ _ _ _ (afterInit_triple hinit (run_triple hw hiter fuel)) s0 h)
  refine ⟨this.1, ?_⟩
  cases hs : (simulate s0 fuel).1 with
  | none => exact hw _ (this.1 hs).1
  | some e => exact this.2 (by simp [hs])

theorem loop_head_loop {P0 : SimS → Prop}
    (hinit : ⦃fun s => ⌜P0 s⌝⦄ init ⦃post⟨fun _ s => ⌜P s⌝, fun _ s => ⌜W s⌝⟩⦄)
    (hiter : ⦃fun s => ⌜P s⌝⦄ iter ⦃post⟨fun b s => ⌜P s ∧ (b = true → E s)⌝, fun _ s => ⌜W s⌝⟩⦄)
    (s0 : SimS) (k : Nat) (h : P0 s0) :
    HoldsAfter (fun _ s => P s) W ((ExceptT.run (do init; runK k : SimM Bool)).run s0) :=
  triple_run _ _ _ _ (afterInit_triple hinit (runK_triple hiter k)) s0 h

end Loop

theorem triple_with {α β} {x : SimM α} (f : SimS → β) {P : SimS → Prop} {Q : PostCond α (.except SErr (.arg SimS .pure))}
    (h : ∀ b, ⦃fun s => ⌜P s ∧ f s = b⌝⦄ x ⦃Q⦄) : ⦃fun s => ⌜P s⌝⦄ x ⦃Q⦄ :=
  fun s hP => h (f s) s ⟨hP, rfl⟩

/-- **All outcomes of the restart decision**: SIMULATOR_END at the loop timeout; SIMULATOR_END at
the next instant, when nothing at all is left; or SCHEDULER_START no earlier than the regular
restart time, before the timeout, and after the earliest completion when the scheduler waits
for a free worker. The theorems of `Props/C05.lean` read off one clause each. -/
theorem restart_cases (f : SimFlags) (l ev : Int) (i : RestartIn) :
    restart f l ev i = (ET.simulatorEnd, f.loopTimeout) ∨
    (restart f l ev i = (ET.simulatorEnd, ev + 1) ∧ ev < f.loopTimeout ∧
      i.queueEmpty = true ∧ i.schedEmpty = true ∧ i.runningEmpty = true) ∨
    ∃ t, restart f l ev i = (ET.schedulerStart, t) ∧ ev ≤ t ∧ t < f.loopTimeout ∧
      (f.schedFrequency ≤ 0 → ev < t) ∧ (0 < f.schedFrequency → l + f.schedFrequency ≤ t) ∧
      (f.runAtWorkerFree = true → i.runningEmpty = false → i.minCompletion + 1 ≤ t) := by
  -- the regular restart time: the next instant, or one period after the previous start
  have hs : ∀ s0 : Int, s0 = (if f.schedFrequency ≤ 0 then ev + 1
      else if l + f.schedFrequency < ev then ev + 1 else l + f.schedFrequency) →
      ev ≤ s0 ∧ (f.schedFrequency ≤ 0 → ev < s0) ∧ (0 < f.schedFrequency → l + f.schedFrequency ≤ s0) := by
    intro s0 h
    subst h
    split
    · omega
    · split <;> omega
  unfold restart
  simp only []
  generalize (if f.schedFrequency ≤ 0 then ev + 1
      else if l + f.schedFrequency < ev then ev + 1 else l + f.schedFrequency) = s0 at hs ⊢
  have hs := hs s0 rfl
  split
  · exact Or.inl rfl
  split
  · rename_i h
    exact Or.inr (Or.inl ⟨rfl, by omega, by simpa [Bool.and_eq_true, and_assoc] using h⟩)
  split
  · split
    · exact Or.inl rfl
    · exact Or.inr (Or.inr ⟨_, rfl, by omega, by omega, by omega, by omega, by omega⟩)
  -- the scheduler does not wait for a free worker
  rename_i hw
  have hw : f.runAtWorkerFree = true → i.runningEmpty = false → False := by
    intro h1 h2; simp [h1, h2] at hw
  split
  · split
    · split
      · exact Or.inl rfl
      · exact Or.inr (Or.inr ⟨_, rfl, by omega, by omega, by omega, by omega, fun a b => (hw a b).elim⟩)
    · exact Or.inr (Or.inr ⟨_, rfl, by omega, by omega, by omega, by omega, fun a b => (hw a b).elim⟩)
  · exact Or.inr (Or.inr ⟨_, rfl, by omega, by omega, by omega, by omega, fun a b => (hw a b).elim⟩)

theorem restart_type (f : SimFlags) (a b : Int) (i : RestartIn) :
    (restart f a b i).1 = ET.simulatorEnd ∨ (restart f a b i).1 = ET.schedulerStart := by
  rcases restart_cases f a b i with h | ⟨h, _⟩ | ⟨t, h, _⟩ <;> rw [h]
  · exact Or.inl rfl
  · exact Or.inl rfl
  · exact Or.inr rfl

end ErdosVerif.Model.Sim
