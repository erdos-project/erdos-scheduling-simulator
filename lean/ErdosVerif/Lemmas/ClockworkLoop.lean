/-
C15 (Clockwork model), part 2: the inference loop (`loopStep` / `loopRun` / `inferWorker` /
`inferFrom`) preserves the scheduler invariant and every batch it emits is well formed.
-/
import ErdosVerif.Lemmas.Clockwork

namespace ErdosVerif.Clockwork

/-- Well-formedness of one batch emitted at time `now` on worker `w` whose loaded models are `loaded`. -/
structure BatchOK (c : Cfg) (now : Int) (w : Nat) (loaded : List Nat) (b : Batch) : Prop where
  worker : b.worker = w
  isLoaded : b.model ∈ loaded
  strat : ∃ s, (c.strategiesOf b.model)[b.strategy]? = some s ∧ b.tids.length = s.batch ∧
    ∀ tid ∈ b.tids, ∃ t, c.tasks[tid]? = some t ∧ t.model = b.model ∧ now + s.runtime ≤ t.deadline
  nodup : b.tids.Nodup

/-- Replays the allocations of a list of batches on an availability vector; `none` if one
batch is not covered (`Resources.__gt__`) when its turn comes. -/
def fitsRun (c : Cfg) : ResVec → List Batch → Option ResVec
  | a, [] => some a
  | a, b :: bs =>
    match (c.strategiesOf b.model)[b.strategy]? with
    | some s => if resGe a s.req then fitsRun c (resSub a s.req) bs else none
    | none => none

theorem fitsRun_append {c : Cfg} {a a' : ResVec} {bs : List Batch} {b : Batch} {s : Strategy}
    (h : fitsRun c a bs = some a') (hs : (c.strategiesOf b.model)[b.strategy]? = some s)
    (hge : resGe a' s.req = true) : fitsRun c a (bs ++ [b]) = some (resSub a' s.req) := by
  induction bs generalizing a with
  | nil =>
    simp only [fitsRun] at h
    cases h
    simp [fitsRun, hs, hge]
  | cons x xs ih =>
    simp only [List.cons_append, fitsRun] at h ⊢
    split at h
    · split at h
      · rename_i hge'
        simp only [hge', if_true]
        exact ih h
      · cases h
    · cases h

/-- Bookkeeping of placed task ids between two scheduler states. -/
structure PlacedSpec (st st' : SState) (bs : List Batch) : Prop where
  sub : ∀ tid ∈ allTids st', tid ∈ allTids st
  from0 : ∀ b ∈ bs, ∀ tid ∈ b.tids, tid ∈ allTids st
  gone : ∀ b ∈ bs, ∀ tid ∈ b.tids, tid ∉ allTids st'
  nodup : (bs.flatMap (·.tids)).Nodup

theorem PlacedSpec.refl (st : SState) : PlacedSpec st st [] :=
  ⟨fun _ h => h, by simp, by simp, by simp⟩

theorem PlacedSpec.trans {st st1 st2 : SState} {bs1 bs2 : List Batch}
    (h1 : PlacedSpec st st1 bs1) (h2 : PlacedSpec st1 st2 bs2) : PlacedSpec st st2 (bs1 ++ bs2) where
  sub := fun tid h => h1.sub tid (h2.sub tid h)
  from0 := fun b hb tid ht => by
    rcases List.mem_append.mp hb with hb | hb
    · exact h1.from0 b hb tid ht
    · exact h1.sub tid (h2.from0 b hb tid ht)
  gone := fun b hb tid ht => by
    rcases List.mem_append.mp hb with hb | hb
    · exact fun hin => h1.gone b hb tid ht (h2.sub tid hin)
    · exact h2.gone b hb tid ht
  nodup := by
    rw [List.flatMap_append, List.nodup_append]
    refine ⟨h1.nodup, h2.nodup, ?_⟩
    intro x hx1 y hy2 hxy
    subst hxy
    obtain ⟨b1, hb1, ht1⟩ := List.mem_flatMap.mp hx1
    obtain ⟨b2, hb2, ht2⟩ := List.mem_flatMap.mp hy2
    exact h1.gone b1 hb1 x ht1 (h2.from0 b2 hb2 x ht2)

/-- Every strategy listed for a model in the work queue is available on the model's
current queues; a model appears at most once. -/
def WQValid (c : Cfg) (now : Int) (st : SState) (wq : WQ) : Prop :=
  (wq.map (·.1)).Nodup ∧
  ∀ e ∈ wq, ∀ i ∈ e.2, ∃ ms s r rest, getModel st e.1 = some ms ∧
    (c.strategiesOf e.1)[i]? = some s ∧ ms.queues[i]? = some (r :: rest) ∧
    s.batch ≤ (r :: rest).length ∧ now + s.runtime ≤ r.deadline

theorem WQValid.tail {c : Cfg} {now : Int} {st : SState} {e : Nat × List Nat} {wq : WQ}
    (h : WQValid c now st (e :: wq)) : WQValid c now st wq :=
  ⟨(List.nodup_cons.mp (by simpa using h.1)).2, fun e' he' => h.2 e' (List.mem_cons_of_mem _ he')⟩

theorem WQValid.perm {c : Cfg} {now : Int} {st : SState} {wq wq' : WQ} (hp : wq'.Perm wq)
    (h : WQValid c now st wq) : WQValid c now st wq' :=
  ⟨(hp.map _).nodup_iff.mpr h.1, fun e he => h.2 e (hp.mem_iff.mp he)⟩

theorem sortWQ_perm (g : Goal) (st : SState) (wq : WQ) : (sortWQ g st wq).Perm wq := by
  unfold sortWQ
  cases g
  · exact List.Perm.refl _
  · exact pySort_perm _ _

/-- Model `m`, at the head of the work queue, is replaced by `ms2` of the same id: the other
entries stay valid (they speak of other models), and `m` may be queued again with the
strategies available on `ms2`. -/
theorem WQValid.requeue {c : Cfg} {now : Int} {st : SState} {m : Nat} {strats : List Nat} {wq : WQ}
    {ms ms2 : MState} (h : WQValid c now st ((m, strats) :: wq)) (hg : getModel st m = some ms)
    (hm : ms2.mid = m) :
    WQValid c now (updModel st m (fun _ => ms2)) wq ∧
    WQValid c now (updModel st m (fun _ => ms2))
      (wq ++ [(m, availableStrats now (c.strategiesOf m) ms2)]) := by
  have hnd := List.nodup_cons.mp (show (m :: wq.map (·.1)).Nodup from h.1)
  have htail : WQValid c now (updModel st m (fun _ => ms2)) wq := by
    refine ⟨hnd.2, fun e he i hi => ?_⟩
    have hne : e.1 ≠ m := fun heq => hnd.1 (heq ▸ List.mem_map_of_mem (f := (·.1)) he)
    rw [getModel_updModel_other hm hne]
    exact h.tail.2 e he i hi
  refine ⟨htail, ?_, ?_⟩
  · rw [List.map_append]; exact nodup_concat hnd.2 hnd.1
  · intro e he i hi
    rcases List.mem_append.mp he with he | he
    · exact htail.2 e he i hi
    · obtain rfl : e = (m, availableStrats now (c.strategiesOf m) ms2) := by simpa using he
      obtain ⟨st', r', rest', a1, a2, a3, a4⟩ := availableStrats_sound hi
      exact ⟨_, st', r', rest', getModel_updModel_self hm hg, a1, a2, a3, a4⟩

structure LInv (c : Cfg) (now : Int) (w : Nat) (loaded : List Nat) (a0 : ResVec) (st0 : SState)
    (ls : LoopState) : Prop where
  sinv : SInv c ls.st
  wqv : WQValid c now ls.st ls.wq
  ok : ∀ b ∈ ls.out, BatchOK c now w loaded b
  fits : fitsRun c a0 ls.out = some ls.avail
  placed : PlacedSpec st0 ls.st ls.out

theorem LInv.dropHead {c : Cfg} {now : Int} {w : Nat} {loaded : List Nat} {a0 : ResVec}
    {st0 : SState} {ls ls' : LoopState} (h : LInv c now w loaded a0 st0 ls) {e : Nat × List Nat}
    {wq : WQ} (hwq : ls.wq = e :: wq) (h1 : ls'.st = ls.st := by rfl) (h2 : ls'.avail = ls.avail := by rfl)
    (h3 : ls'.out = ls.out := by rfl) (h4 : ls'.wq = wq := by rfl) : LInv c now w loaded a0 st0 ls' where
  sinv := h1 ▸ h.sinv
  wqv := by rw [h1, h4]; exact (hwq ▸ h.wqv).tail
  ok := h3 ▸ h.ok
  fits := by rw [h3, h2]; exact h.fits
  placed := by rw [h1, h3]; exact h.placed

theorem placedSpec_single {c : Cfg} {st : SState} (hinv : SInv c st) {m : Nat} {ms ms1 ms2 : MState}
    (hg : getModel st m = some ms) (hs1 : Shrunk c ms ms1) (hs2 : Shrunk c ms1 ms2)
    {b : Batch} (hnd : b.tids.Nodup) (hin : ∀ tid ∈ b.tids, tid ∈ taskIds ms)
    (hgone : ∀ tid ∈ b.tids, tid ∉ taskIds ms1) :
    PlacedSpec st (updModel st m (fun _ => ms2)) [b] where
  sub := (updModel_shrunk hinv hg (hs1.trans hs2)).sub_nil
  from0 := fun b' hb' tid ht => by
    have : b' = b := by simpa using hb'
    subst this
    exact mem_allTids.mpr ⟨ms, (getModel_mem hg).1, hin tid ht⟩
  gone := fun b' hb' tid ht hmem => by
    have : b' = b := by simpa using hb'
    subst this
    obtain ⟨s', hs', hts'⟩ := mem_allTids.mp hmem
    obtain ⟨s, hsm, h1 | h1⟩ := mem_updModel hs'
    · rw [h1.2] at hts'
      exact hgone tid ht (hs2.sub.subset hts')
    · rw [h1.2] at hts'
      have := tid_model_unique (hinv.1 s hsm) (hinv.1 ms (getModel_mem hg).1) hts' (hin tid ht)
      exact h1.1 (this.trans (getModel_mem hg).2)
  nodup := by simpa using hnd

theorem loopStep_inv {c : Cfg} {now : Int} {w : Nat} {loaded : List Nat} {a0 : ResVec}
    {st0 : SState} {ls : LoopState} (h : LInv c now w loaded a0 st0 ls) :
    LInv c now w loaded a0 st0 (loopStep c now w loaded ls) := by
  unfold loopStep
  split
  · exact h
  · rename_i m strats wq hwq
    split
    · exact h.dropHead hwq
    · rename_i hloaded
      simp only []
      split
      · exact h.dropHead hwq
      · rename_i sidx ctail hcompat
        split
        · rename_i s ms hsc hgm
          split
          · exact h.dropHead hwq
          · rename_i tids ms1 htake
            -- the chosen strategy is listed for `m` in the work queue and the worker covers it
            have hsidx : sidx ∈ strats.filter _ := hcompat ▸ List.mem_cons_self
            have hge : resGe ls.avail s.req = true := by simpa [hsc] using (List.mem_filter.mp hsidx).2
            have hwqv := hwq ▸ h.wqv
            obtain ⟨ms', s', r, rest, hg', hs', hq, hb, hd⟩ :=
              hwqv.2 (m, strats) List.mem_cons_self sidx (List.mem_filter.mp hsidx).1
            obtain rfl : ms = ms' := Option.some.inj (hgm.symm.trans hg')
            obtain rfl : s = s' := Option.some.inj (hsc.symm.trans hs')
            obtain ⟨hmsIn, hmsMid⟩ := getModel_mem hgm
            obtain ⟨tids', ms1', htb, hlen, hnd, hfacts, hshr, hgone⟩ :=
              takeBatch_spec (h.sinv.1 ms hmsIn) hq hb
            rw [htake] at htb
            cases htb
            have hshr2 := expire_shrunk (c := c) now (c.strategiesOf m) hshr.minv
            have hwq2 := hwqv.requeue hgm ((hshr2.mid.trans hshr.mid).trans hmsMid)
            refine ⟨(updModel_shrunk h.sinv hgm (hshr.trans hshr2)).sinv, ?_, ?_,
              fitsRun_append h.fits hsc hge, h.placed.trans (placedSpec_single h.sinv hgm hshr hshr2
                hnd (fun tid ht => (hfacts tid ht).1) hgone)⟩
            · simp only []
              split
              · exact hwq2.1
              · exact hwq2.2.perm (sortWQ_perm _ _ _)
            · intro b hb
              rcases List.mem_append.mp hb with hb | hb
              · exact h.ok b hb
              · obtain rfl : b = { model := m, strategy := sidx, worker := w, tids := tids } := by
                  simpa using hb
                refine ⟨rfl, by simpa using hloaded, ⟨s, hsc, hlen, fun tid htid => ?_⟩, hnd⟩
                obtain ⟨_, t, ht1, ht2, ht3⟩ := hfacts tid htid
                exact ⟨t, ht1, ht2.trans hmsMid, Int.le_trans hd ht3⟩
        · exact h.dropHead hwq

theorem loopRun_inv {c : Cfg} {now : Int} {w : Nat} {loaded : List Nat} {a0 : ResVec}
    {st0 : SState} (fuel : Nat) {ls : LoopState} (h : LInv c now w loaded a0 st0 ls) :
    LInv c now w loaded a0 st0 (loopRun c now w loaded fuel ls).1 := by
  induction fuel generalizing ls with
  | zero => exact h
  | succ n ih =>
    unfold loopRun
    split
    · exact h
    · exact h
    · exact ih (loopStep_inv h)

theorem expireAll_spec {c : Cfg} (now : Int) {st : SState} (h : SInv c st) :
    SStep c st (expireAll c now st) [] :=
  map_shrunk h (fun s hs => expire_shrunk now _ (h.1 s hs))

theorem initialWQ_valid {c : Cfg} (now : Int) {st : SState} (h : SInv c st) :
    WQValid c now st (initialWQ c now st) := by
  unfold initialWQ
  refine ⟨?_, ?_⟩
  · have hsub := (List.filter_sublist (p := fun e : Nat × List Nat => !e.2.isEmpty)
      (l := st.map (fun s => (s.mid, availableStrats now (c.strategiesOf s.mid) s)))).map (·.1)
    rw [List.map_map] at hsub
    exact h.2.sublist hsub
  · intro e he i hi
    obtain ⟨s, hs, rfl⟩ := List.mem_map.mp (List.mem_filter.mp he).1
    obtain ⟨st', r, rest, a1, a2, a3, a4⟩ := availableStrats_sound hi
    exact ⟨s, st', r, rest, getModel_of_mem h.2 hs, a1, a2, a3, a4⟩

theorem inferWorker_spec {c : Cfg} (now : Int) (w : Nat) (wv : WorkerView) {st : SState}
    (h : SInv c st) :
    SInv c (inferWorker c now w wv st).1 ∧
    (∀ b ∈ (inferWorker c now w wv st).2.1, BatchOK c now w wv.loaded b) ∧
    (∃ a, fitsRun c wv.avail (inferWorker c now w wv st).2.1 = some a) ∧
    PlacedSpec st (inferWorker c now w wv st).1 (inferWorker c now w wv st).2.1 := by
  have h1 := expireAll_spec now h
  have hwq : WQValid c now (expireAll c now st)
      (sortWQ c.goal (expireAll c now st) (initialWQ c now (expireAll c now st))) :=
    WQValid.perm (sortWQ_perm _ _ _) (initialWQ_valid now h1.sinv)
  have hl0 : LInv c now w wv.loaded wv.avail (expireAll c now st)
      { st := expireAll c now st, avail := wv.avail,
        wq := sortWQ c.goal (expireAll c now st) (initialWQ c now (expireAll c now st)),
        out := [], err := none } :=
    ⟨h1.sinv, hwq, by simp, rfl, PlacedSpec.refl _⟩
  have hl := loopRun_inv (totalQueued (expireAll c now st) + (expireAll c now st).length + 1) hl0
  have hp0 : PlacedSpec st (expireAll c now st) [] := ⟨h1.sub_nil, by simp, by simp, by simp⟩
  unfold inferWorker
  simp only []
  exact ⟨hl.sinv, hl.ok, ⟨_, hl.fits⟩, by simpa using hp0.trans hl.placed⟩

/-- Post-condition of `run_inference` over the workers `wvs`, numbered from `w0`. -/
structure InferSpec (c : Cfg) (now : Int) (w0 : Nat) (wvs : List WorkerView) (st st' : SState)
    (bs : List Batch) : Prop where
  sinv : SInv c st'
  placed : PlacedSpec st st' bs
  ok : ∀ b ∈ bs, ∃ k wv, b.worker = w0 + k ∧ wvs[k]? = some wv ∧ BatchOK c now (w0 + k) wv.loaded b
  fits : ∀ k wv, wvs[k]? = some wv →
    (fitsRun c wv.avail (bs.filter (fun b => b.worker == w0 + k))).isSome

theorem InferSpec.sstep {c : Cfg} {now : Int} {w0 : Nat} {wvs : List WorkerView} {st st' : SState}
    {bs : List Batch} (h : InferSpec c now w0 wvs st st' bs) : SStep c st st' [] :=
  ⟨h.sinv, fun x hx => .inl (h.placed.sub x hx)⟩

theorem filter_worker_self {bs : List Batch} {w : Nat} (h : ∀ b ∈ bs, b.worker = w) :
    bs.filter (fun b => b.worker == w) = bs :=
  List.filter_eq_self.mpr (fun b hb => by simp [h b hb])

theorem filter_worker_none {bs : List Batch} {w : Nat} (h : ∀ b ∈ bs, b.worker ≠ w) :
    bs.filter (fun b => b.worker == w) = [] :=
  List.filter_eq_nil_iff.mpr (fun b hb => by simpa using h b hb)

theorem InferSpec.none {c : Cfg} {now : Int} {w0 : Nat} {wvs : List WorkerView} {st : SState}
    (h : SInv c st) : InferSpec c now w0 wvs st st [] :=
  ⟨h, PlacedSpec.refl _, by simp, by simp [fitsRun]⟩

/-- The batches of worker `w0` followed by those of the later workers. -/
theorem InferSpec.cons {c : Cfg} {now : Int} {w0 : Nat} {wv : WorkerView} {wvs : List WorkerView}
    {st st1 st2 : SState} {bs bs2 : List Batch} (hok : ∀ b ∈ bs, BatchOK c now w0 wv.loaded b)
    (hfit : (fitsRun c wv.avail bs).isSome) (hpl : PlacedSpec st st1 bs)
    (hr : InferSpec c now (w0 + 1) wvs st1 st2 bs2) :
    InferSpec c now w0 (wv :: wvs) st st2 (bs ++ bs2) where
  sinv := hr.sinv
  placed := hpl.trans hr.placed
  ok := by
    intro b hb
    rcases List.mem_append.mp hb with hb | hb
    · exact ⟨0, wv, (hok b hb).worker, by simp, hok b hb⟩
    · obtain ⟨k, wv', e1, e2, e3⟩ := hr.ok b hb
      exact ⟨k + 1, wv', by omega, by simpa using e2, (show w0 + (k + 1) = w0 + 1 + k by omega) ▸ e3⟩
  fits := by
    intro k wv' hk
    rw [List.filter_append]
    cases k with
    | zero =>
      obtain rfl : wv = wv' := by simpa using hk
      rw [Nat.add_zero, filter_worker_self (fun b hb => (hok b hb).worker),
        filter_worker_none (fun b hb => by obtain ⟨k, _, e1, _, _⟩ := hr.ok b hb; omega),
        List.append_nil]
      exact hfit
    | succ k =>
      rw [filter_worker_none (fun b hb => by have := (hok b hb).worker; omega), List.nil_append,
        show w0 + (k + 1) = w0 + 1 + k by omega]
      exact hr.fits k wv' (by simpa using hk)

theorem inferFrom_spec {c : Cfg} (now : Int) (w0 : Nat) (wvs : List WorkerView) {st : SState}
    (h : SInv c st) :
    InferSpec c now w0 wvs st (inferFrom c now w0 wvs st).1 (inferFrom c now w0 wvs st).2.1 := by
  induction wvs generalizing w0 st with
  | nil => exact InferSpec.none h
  | cons wv wvs ih =>
    obtain ⟨h1, h2, ⟨a, h3⟩, h4⟩ := inferWorker_spec now w0 wv h
    unfold inferFrom
    split
    · -- an exception stopped the loop: only this worker's batches
      rename_i st1 bs e fo heq
      rw [heq] at h1 h2 h3 h4
      simpa using InferSpec.cons h2 (by simp [h3]) h4 (InferSpec.none h1)
    · rename_i st1 bs fo heq
      rw [heq] at h1 h2 h3 h4
      exact InferSpec.cons h2 (by simp [h3]) h4 (ih (w0 + 1) h1)

end ErdosVerif.Clockwork
